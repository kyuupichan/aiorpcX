import Aiorpcx.C12.Inv
namespace Aiorpcx.C11

theorem aexit_post (ig : Bool) (d : Int) (s s1 : TS) (r : Res)
    (hpost : Post (enter s d) s1 r) :
    Post s (aexit true ig d r s1).2.2 (aexit true ig d r s1).1 := by
  obtain ⟨hds, _, hK, hnow, hres⟩ := hpost
  have hds1 : s1.deadlines = s.deadlines ++ [d] := hds
  have hdz : (unset s1).2.2.deadlines = s.deadlines := by
    rw [(unset_fields s1).2.2, hds1]; exact List.dropLast_concat
  have hdd : d ∈ s1.deadlines := by rw [hds1]; exact List.mem_append_right _ List.mem_cons_self
  have base : ∀ r', ResOK s (unset s1).2.2 r' → Post s (unset s1).2.2 r' :=
    fun r' hr => ⟨hdz, .inr rfl, hK, hnow, hr⟩
  -- results after which the program may continue
  have cont : ∀ r', Continues r' → s1.cancelAt = s.cancelAt → Post s (unset s1).2.2 r' :=
    fun r' hr hc => base r' ((ResOK_continues hr).2 ⟨unset_J s1 hK, hc⟩)
  -- a timer-caused cancellation in flight: this block's own, or one of an enclosing block
  have timer : ∀ r0, isCancelFamily r0 = true → s1.cancelAt = s.cancelAt → Active s1 →
      Post s (aexit true ig d r0 s1).2.2 (aexit true ig d r0 s1).1 := by
    intro r0 hf hc ⟨m, hm, hmem⟩
    by_cases hmd : m = d
    · subst hmd
      rw [aexit_self _ _ _ _ _ hf hm]
      cases ig <;> exact cont _ trivial hc
    · rw [aexit_active _ _ _ _ _ hf hm hmd hmem]
      refine base _ ⟨hc, m, hm, ?_⟩
      rw [hdz]
      exact mem_of_mem_append_single (hds1 ▸ hmem) hmd
  cases r with
  | none => rw [aexit_nofam _ _ _ _ _ rfl]; exact cont _ trivial hres.2
  | some e =>
    cases e with
    | other => rw [aexit_nofam _ _ _ _ _ rfl]; exact cont _ trivial hres.2
    | uncaught => rw [aexit_nofam _ _ _ _ _ rfl]; exact cont _ trivial hres.2
    | taskTimeout =>
      cases hm : s1.marker with
      | none => rw [aexit_none _ _ _ _ _ hm]; exact cont _ trivial hres.2
      | some m =>
        by_cases hmem : m ∈ s1.deadlines
        · exact timer _ rfl hres.2 ⟨m, hm, hmem⟩
        · rw [aexit_stale _ _ _ _ _ rfl hm (fun h => hmem (h ▸ hdd)) hmem]
          exact cont _ trivial hres.2
    | tce => exact timer _ rfl hres.1 hres.2
    | cancelled =>
      rcases hres with ⟨⟨hd1, hd2⟩, hst⟩ | ⟨hc, hact⟩
      · -- a delivered external cancellation passes through unchanged
        have hstale : Stale (unset s1).2.2 :=
          fun m hm hmem => hst m hm (hds1 ▸ List.mem_append_left _ (hdz ▸ hmem))
        have hr : ResOK s (unset s1).2.2 (some .cancelled) := .inl ⟨⟨hd1, hd2⟩, hstale⟩
        cases hm : s1.marker with
        | none => rw [aexit_none _ _ _ _ _ hm]; exact base _ hr
        | some m =>
          rw [aexit_stale _ _ _ _ _ rfl hm (fun h => hst m hm (h ▸ hdd)) (hst m hm)]
          exact base _ hr
      · exact timer _ rfl hc hact

end Aiorpcx.C11
