import Aiorpcx.C12.Aexit
namespace Aiorpcx.C11

theorem ResOK_rebase {s s1 s2 : TS} {r : Res} (h : s1.cancelAt = s.cancelAt) (hr : ResOK s1 s2 r) :
    ResOK s s2 r := by
  unfold ResOK Delivered at *
  rwa [h] at hr

theorem ResOK_cancelAt {s s' : TS} {r : Res} (h : ResOK s s' r) :
    Delivered s s' ∨ s'.cancelAt = s.cancelAt := by
  cases r with
  | none => exact .inr h.2
  | some e =>
    cases e with
    | cancelled => exact h.elim (fun h => .inl h.1) (fun h => .inr h.1)
    | tce => exact .inr h.1
    | taskTimeout | uncaught | other => exact .inr h.2

theorem cancelled_of_delivered {s s' : TS} {r : Res} (h : ResOK s s' r) (hd : Delivered s s') :
    r = some .cancelled := by
  have key : s'.cancelAt = s.cancelAt → False := fun h' => hd.1 (h' ▸ hd.2)
  cases r with
  | none => exact (key h.2).elim
  | some e =>
    cases e with
    | cancelled => rfl
    | tce => exact (key h.1).elim
    | taskTimeout | uncaught | other => exact (key h.2).elim

theorem Post_refl (s : TS) (h : Good s) {r : Res} (hr : Continues r) : Post s s r :=
  (Frame.refl s).post h ((ResOK_continues hr).2 ⟨h.2.2, rfl⟩)

theorem good_of_post {s s1 : TS} {r : Res} (h : Post s s1 r) (hr : Continues r) :
    Good s1 ∧ s1.cancelAt = s.cancelAt :=
  have ⟨hj, hc⟩ := (ResOK_continues hr).1 h.2.2.2.2
  ⟨⟨h.2.1, h.2.2.1, hj⟩, hc⟩

theorem Post_trans {s s1 s2 : TS} {r1 r : Res} (h1 : Post s s1 r1) (hr1 : Continues r1)
    (h2 : Post s1 s2 r) : Post s s2 r :=
  ⟨h2.1.trans h1.1, h2.2.1, h2.2.2.1, Int.le_trans h1.2.2.2.1 h2.2.2.2.1,
   ResOK_rebase (good_of_post h1 hr1).2 h2.2.2.2.2⟩

theorem run_post (p : Prog) : ∀ (s : TS), NoCatch p → Flat p → Good s →
    Post s (run true p s).2.1 (run true p s).1 := by
  intro s
  fun_induction run true p s with
  | case1 s => exact fun _ _ h => Post_refl s h trivial
  | case2 d s r s' h => exact fun _ _ hg => by have := doSleep_post s d hg; rwa [h] at this
  | case3 e s => exact fun hp _ h => Post_refl s h (continues_of_ne hp)
  | case4 a b s s1 e1 e ha iha => rw [ha] at iha; exact fun hp hf => iha hp.1 hf.1
  | case5 a b s s1 e1 r s2 e2 hb ha iha ihb =>
    rw [ha] at iha; rw [hb] at ihb
    intro hp hf h
    have h1 := iha hp.1 hf.1 h
    exact Post_trans h1 trivial (ihb hp.2 hf.2 (good_of_post h1 trivial).1)
  | case6 b cs hd s s1 e1 e hin r s2 e2 hh hb ihb ihh =>
    rw [hb] at ihb; rw [hh] at ihh
    intro hp hf h
    have hc := continues_of_caught hin hp.2.2
    have h1 := ihb hp.1 hf.1 h
    exact Post_trans h1 hc (ihh hp.2.1 hf.2 (good_of_post h1 hc).1)
  | case7 b cs hd s s1 e1 e _ hb ihb => rw [hb] at ihb; exact fun hp hf => ihb hp.1 hf.1
  | case8 b cs hd s s1 e1 hb ihb => rw [hb] at ihb; exact fun hp hf => ihb hp.1 hf.1
  | case9 ig rel t body s d s0 r s1 e1 hb r' x s2 hx ih =>
    rw [hb] at ih
    intro hp hf h
    have := aexit_post ig d s s1 r (ih hp hf (enter_good s d h))
    rwa [hx] at this
  | case10 => exact fun _ hf => hf.elim

/-- **C12** on the repaired model: for every program that does not itself catch or raise the
    cancellation family, every start time and every external-cancel instant: if the cancel request
    is delivered (the task was still suspended when it came), the task ends `Cancelled` — whatever
    inner timeouts expired and were handled before, including equal deadlines. -/
theorem external_cancel_propagates (p : Prog) (hp : NoCatch p) (hf : Flat p) (now c : Int) :
    (run true p { now := now, cancelAt := some c }).2.1.cancelAt = none →
    (run true p { now := now, cancelAt := some c }).1 = some .cancelled :=
  fun hdel => cancelled_of_delivered
    (run_post p { now := now, cancelAt := some c } hp hf ⟨.inl rfl, nofun, nofun⟩).2.2.2.2
    ⟨nofun, hdel⟩

/-- `__aexit__` without the repair (`fixed = false`) violates it: F13 -/
theorem external_cancel_propagates_fails_pinned :
    NoCatch f13 ∧ Flat f13 ∧ (run false f13 { cancelAt := some 5 }).2.1.cancelAt = none ∧
    (run false f13 { cancelAt := some 5 }).1 = some .uncaught := by
  refine ⟨by simp [f13, NoCatch], by simp [f13, Flat], by decide, by decide⟩

/-- non-vacuity: on the repaired model the same program, same instant, is delivered and ends Cancelled -/
example : (run true f13 { cancelAt := some 5 }).2.1.cancelAt = none ∧
    (run true f13 { cancelAt := some 5 }).1 = some .cancelled := by decide

end Aiorpcx.C11
