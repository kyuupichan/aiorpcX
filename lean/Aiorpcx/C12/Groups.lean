import Aiorpcx.C12.Props
/-!
# C12 — external cancellation through task groups

The program language has task groups (`Prog.group`, members = sleeps with reaction delays,
wait = all or any; join / sweep semantics as proved in C09, defect F11 included).  With members that need
time to die the property is **false** (F33, `external_cancel_propagates_groups_full_fails`): while
a group's clean-up is awaiting its members a deadline can pass (or have passed), and the second
cancellation is attributed to the deadline.  With members that die at once it holds
(`external_cancel_propagates_groups`), for every nesting of blocks and groups, provided the cancel
instant cannot coincide with a deadline - expressed, as in the harness, by parity: everything the
program does is at even instants, the cancel comes at an odd one, not before the start.
-/
namespace Aiorpcx.C11

/-- every group member dies at once when cancelled -/
def Prompt : Prog → Prop
  | .skip => True
  | .sleep _ => True
  | .raise _ => True
  | .seq a b => Prompt a ∧ Prompt b
  | .block _ _ _ b => Prompt b
  | .tryCatch b _ h => Prompt b ∧ Prompt h
  | .group _ ms b => (∀ m ∈ ms, m.2 = 0) ∧ Prompt b

/-- every duration and deadline written in the program is even -/
def EvenP : Prog → Prop
  | .skip => True
  | .sleep d => d % 2 = 0
  | .raise _ => True
  | .seq a b => EvenP a ∧ EvenP b
  | .block _ _ t b => t % 2 = 0 ∧ EvenP b
  | .tryCatch b _ h => EvenP b ∧ EvenP h
  | .group _ ms b => (∀ m ∈ ms, m.1 % 2 = 0) ∧ EvenP b

/-- while the cancel request is pending: it lies ahead, at an odd instant; the clock and all
deadlines are even -/
def ParS (s : TS) : Prop :=
  ∀ c, s.cancelAt = some c → s.now ≤ c ∧ s.now % 2 = 0 ∧ c % 2 = 1 ∧ ∀ x ∈ s.deadlines, x % 2 = 0

def AllFuture (s : TS) : Prop := ∀ x ∈ s.deadlines, s.now < x

def GoodG (s : TS) : Prop := Strong s ∧ Kk s ∧ ParS s

/-- the postcondition of the flat language, and on top of it: parity; an exactly armed timer
whenever execution continues; once the cancel request has been delivered every remaining deadline
lies ahead (so no clean-up on the way out is interrupted by one) -/
def PostG (s s' : TS) (r : Res) : Prop :=
  Post s s' r ∧ ParS s' ∧ (Continues r → Strong s') ∧ (Delivered s s' → AllFuture s')

/-- an exactly armed timer with a marked deadline is due: `Jj` -/
theorem GoodG.good {s : TS} (h : GoodG s) : Good s :=
  ⟨.inr h.1, h.2.1, fun m hm hmem =>
    have ⟨a, ha, hle⟩ := minL_le hmem
    ⟨a, h.1.trans ha, Int.le_trans hle (h.2.1 m hm)⟩⟩

theorem even_add {a b : Int} (ha : a % 2 = 0) (hb : b % 2 = 0) : (a + b) % 2 = 0 :=
  Int.emod_eq_zero_of_dvd (Int.dvd_add (Int.dvd_of_emod_eq_zero ha) (Int.dvd_of_emod_eq_zero hb))

theorem even_sub {a b : Int} (ha : a % 2 = 0) (hb : b % 2 = 0) : (a - b) % 2 = 0 :=
  Int.emod_eq_zero_of_dvd (Int.dvd_sub (Int.dvd_of_emod_eq_zero ha) (Int.dvd_of_emod_eq_zero hb))

theorem even_toNat : ∀ {k : Int}, k % 2 = 0 → k.toNat % 2 = 0
  | .ofNat _, h => Int.ofNat.inj h
  | .negSucc _, _ => rfl

theorem even_natCast {d : Nat} (hd : d % 2 = 0) : (d : Int) % 2 = 0 :=
  Int.emod_eq_zero_of_dvd (Int.natCast_dvd_natCast.2 (Nat.dvd_of_mod_eq_zero hd))

theorem doSleepG (s : TS) (d : Nat) (h : GoodG s) (hd : s.cancelAt ≠ none → d % 2 = 0) :
    PostG s (doSleep s d).2 (doSleep s d).1 := by
  refine ⟨doSleep_post s d h.good, ?_⟩
  obtain ⟨hS, _, hP⟩ := h
  rcases doSleep_cases s d with ⟨e, _, hw⟩ | ⟨a, ha, e, _, hwin⟩ | ⟨c, hc, e, _, hfirst⟩ <;> rw [e]
  · refine ⟨fun c hc => ?_, fun _ => hS, fun hdel => absurd hdel.2 hdel.1⟩
    have hc : s.cancelAt = some c := hc
    obtain ⟨h1, h2, h3, h4⟩ := hP c hc
    have hlt := hw c hc
    rw [clampT_of_ge h1] at hlt
    exact ⟨Int.le_of_lt hlt, even_add h2 (even_natCast (hd (by rw [hc]; nofun))), h3, h4⟩
  · refine ⟨fun c hc => ?_, fun hr => hr.elim, fun hdel => absurd hdel.2 hdel.1⟩
    obtain ⟨h1, h2, h3, h4⟩ := hP c hc
    have hw := hwin c hc
    rw [clampT_of_ge h1] at hw
    have := h4 a (Inv.armed_mem (.inr hS) ha)
    refine ⟨hw, ?_, h3, h4⟩
    show clampT s.now a % 2 = 0
    rcases clampT_eq s.now a with e' | e' <;> rw [e'] <;> assumption
  · -- the timer is set for the least deadline and would have come first: they all lie ahead
    refine ⟨nofun, fun hr => hr.elim, fun _ x hx => ?_⟩
    obtain ⟨a, ha, hle⟩ := minL_le hx
    have := hfirst a (hS.trans ha)
    have h1 := (hP c hc).1
    show clampT s.now c < x
    rw [clampT_of_ge h1] at this ⊢
    rcases clampT_eq s.now a with e' | e' <;> rw [e'] at this
    · exact absurd this (Int.not_lt.2 h1)
    · exact Int.lt_of_lt_of_le this hle

theorem goodG_of_post {s s1 : TS} {r : Res} (h : PostG s s1 r) (hr : Continues r) :
    GoodG s1 ∧ s1.cancelAt = s.cancelAt :=
  ⟨⟨h.2.2.1 hr, h.1.2.2.1, h.2.1⟩, (good_of_post h.1 hr).2⟩

theorem transG {s s1 s2 : TS} {r1 r : Res} (h1 : PostG s s1 r1) (hr1 : Continues r1)
    (h2 : PostG s1 s2 r) : PostG s s2 r :=
  ⟨Post_trans h1.1 hr1 h2.1, h2.2.1, h2.2.2.1,
   fun hdel => h2.2.2.2 ⟨(goodG_of_post h1 hr1).2 ▸ hdel.1, hdel.2⟩⟩

theorem reflG (s : TS) (h : GoodG s) {r : Res} (hr : Continues r) : PostG s s r :=
  ⟨Post_refl s h.good hr, h.2.2, fun _ => h.1, fun hdel => absurd hdel.2 hdel.1⟩

theorem enterG (s : TS) (d : Int) (h : GoodG s) (hd : s.cancelAt ≠ none → d % 2 = 0) :
    GoodG (enter s d) := by
  refine ⟨enter_strong s d h.1, enter_kk s d, fun c hc => ?_⟩
  obtain ⟨h1, h2, h3, h4⟩ := h.2.2 c hc
  refine ⟨h1, h2, h3, fun x hx => ?_⟩
  rcases List.mem_append.1 hx with hx | hx
  · exact h4 x hx
  · cases List.mem_singleton.1 hx
    exact hd (by rw [show s.cancelAt = some c from hc]; nofun)

theorem aexitG (ig : Bool) (d : Int) (s s1 : TS) (r : Res) (hpost : PostG (enter s d) s1 r) :
    PostG s (aexit true ig d r s1).2.2 (aexit true ig d r s1).1 := by
  obtain ⟨hp, hP, _, hfut⟩ := hpost
  refine ⟨aexit_post ig d s s1 r hp, ?_⟩
  rw [aexit_state]
  have hsub : ∀ x ∈ (unset s1).2.2.deadlines, x ∈ s1.deadlines :=
    fun x hx => List.dropLast_subset _ hx
  refine ⟨fun c hc => ?_, fun _ => rfl, fun hdel x hx => hfut hdel x (hsub x hx)⟩
  obtain ⟨h1, h2, h3, h4⟩ := hP c hc
  exact ⟨h1, h2, h3, fun x hx => h4 x (hsub x hx)⟩

theorem maxNat_zero (l : List Nat) (h : ∀ x ∈ l, x = 0) : maxNat l = 0 := by
  induction l with
  | nil => rfl
  | cons x xs ih =>
    rw [maxNat, ih fun y hy => h y (List.mem_cons_of_mem _ hy), h x List.mem_cons_self]
    rfl

/-- a zero-length suspension with the cancel request (if any) still ahead: nothing happens, or
the timer re-armed for a deadline already past fires again -/
theorem doSleep_zero (s : TS) (hP : ParS s) :
    doSleep s 0 = (none, s) ∨ ∃ a, s.armed = some a ∧ a ≤ s.now ∧ doSleep s 0 = timerFire s a := by
  rcases doSleep_cases s 0 with ⟨e, _⟩ | ⟨a, ha, e, hdue, _⟩ | ⟨c, hc, _, hdue, _⟩
  · exact .inl (e.trans (wakeUp_zero s))
  · exact .inr ⟨a, ha, Int.le_trans (clampT_ge s.now a).2
      (Int.le_trans hdue (Int.le_of_eq (Int.add_zero _))), e⟩
  · obtain ⟨h1, _, _, _⟩ := hP c hc
    rw [clampT_of_ge h1] at hdue
    have := hP c hc
    omega

/-- a sweep of members that die at once: nothing happens, or - not after a delivered cancel,
when every deadline lies ahead - a due timer fires again and its cancellation takes over -/
theorem sweepG (R : List (Nat × Nat)) (hR : ∀ m ∈ R, m.2 = 0) (r : Res) (s0 s : TS)
    (h : PostG s0 s r) : PostG s0 (sweep R r s).2.1 (sweep R r s).1 := by
  have hz : maxNat (R.map (·.2)) = 0 := maxNat_zero _ fun x hx => by
    obtain ⟨m, hm, rfl⟩ := List.mem_map.1 hx
    exact hR m hm
  rcases sweep_cases R r s with e | ⟨hn, e⟩ | ⟨e', he, e⟩ <;> rw [e]
  · exact h
  · rw [hz] at hn ⊢
    rw [doSleep_of_none hn, wakeUp_zero]
    exact h
  · rw [hz] at he ⊢
    rcases doSleep_zero s h.2.1 with hq | ⟨a, ha, hdue, hq⟩ <;> rw [hq] at he ⊢
    · nomatch he
    · cases he
      obtain ⟨⟨hds, hI, _, hnow, hres⟩, hP, _, hfut⟩ := h
      have hmem := hI.armed_mem ha
      have hcl : clampT s.now a = s.now := clampT_of_le hdue
      have hc : s.cancelAt = s0.cancelAt := (ResOK_cancelAt hres).resolve_left fun hdel =>
        Int.not_le.2 (hfut hdel a hmem) hdue
      refine ⟨⟨hds, .inl rfl, fun m hm => ?_, Int.le_trans hnow (clampT_ge _ _).1,
        .inr ⟨hc, a, rfl, hmem⟩⟩, fun c hc' => ?_, fun hr => hr.elim,
        fun hdel => absurd (hc ▸ hdel.2) hdel.1⟩
      · cases hm; exact (clampT_ge _ _).2
      · show clampT s.now a ≤ c ∧ clampT s.now a % 2 = 0 ∧ _
        rw [hcl]
        exact hP c hc'

theorem maxNat_even (l : List Nat) (h : ∀ x ∈ l, x % 2 = 0) : maxNat l % 2 = 0 := by
  induction l with
  | nil => rfl
  | cons x xs ih =>
    have := ih fun y hy => h y (List.mem_cons_of_mem _ hy)
    rw [maxNat]
    split
    · exact h x List.mem_cons_self
    · exact this

theorem minNat_even (l : List Nat) (h : ∀ x ∈ l, x % 2 = 0) : minNat l % 2 = 0 := by
  induction l with
  | nil => rfl
  | cons x xs ih =>
    have hx := h x List.mem_cons_self
    have := ih fun y hy => h y (List.mem_cons_of_mem _ hy)
    cases xs with
    | nil => exact hx
    | cons y ys =>
      rw [minNat]
      split
      · exact hx
      · exact this

theorem gexitG (anyp : Bool) (ms : List (Nat × Nat)) (hR : ∀ m ∈ ms, m.2 = 0)
    (hE : ∀ m ∈ ms, m.1 % 2 = 0) (r : Res) (s0 s1 : TS) (hP0 : ParS s0) (h : PostG s0 s1 r) :
    PostG s0 (gexit anyp s0.now ms r s1).2.1 (gexit anyp s0.now ms r s1).1 := by
  have sw : ∀ now r s, PostG s0 s r →
      PostG s0 (sweep (runningAt s0.now ms now) r s).2.1 (sweep (runningAt s0.now ms now) r s).1 :=
    fun now r s => sweepG _ (fun m hm => hR m (List.mem_filter.1 hm).1) r s0 s
  -- the join: one suspension of even length
  have join : r = none → ∀ M : Nat, M % 2 = 0 →
      PostG s0 (doSleep s1 (s0.now + M - s1.now).toNat).2 (doSleep s1 (s0.now + M - s1.now).toNat).1 := by
    intro hr M hM
    subst hr
    have hg := goodG_of_post h trivial
    refine transG h trivial (doSleepG s1 _ hg.1 fun hne => ?_)
    cases hc : s1.cancelAt with
    | none => exact absurd hc hne
    | some c =>
      exact even_toNat (even_sub (even_add (hP0 c (hg.2 ▸ hc)).2.1 (even_natCast hM))
        (hg.1.2.2 c hc).2.1)
  have hM : (if anyp then minNat (ms.map (·.1)) else maxNat (ms.map (·.1))) % 2 = 0 := by
    have hdur : ∀ x ∈ ms.map (·.1), x % 2 = 0 := fun x hx => by
      obtain ⟨m, hm, rfl⟩ := List.mem_map.1 hx
      exact hE m hm
    split
    · exact minNat_even _ hdur
    · exact maxNat_even _ hdur
  rcases gexit_cases anyp s0.now ms r s1 with e | ⟨hr, e | e | ⟨hn, e⟩⟩ <;> rw [e]
  · exact sw _ _ _ h
  · exact hr ▸ h
  · exact sw _ _ _ (join hr _ hM)
  · exact hn ▸ join hr _ hM

theorem run_postG (p : Prog) : ∀ (s : TS), NoCatch p → Prompt p → EvenP p → GoodG s →
    PostG s (run true p s).2.1 (run true p s).1 := by
  intro s
  fun_induction run true p s with
  | case1 s => exact fun _ _ _ h => reflG s h trivial
  | case2 d s r s' h =>
    exact fun _ _ he hg => by have := doSleepG s d hg fun _ => he; rwa [h] at this
  | case3 e s => exact fun hp _ _ h => reflG s h (continues_of_ne hp)
  | case4 a b s s1 e1 e ha iha => rw [ha] at iha; exact fun hp hpr he => iha hp.1 hpr.1 he.1
  | case5 a b s s1 e1 r s2 e2 hb ha iha ihb =>
    rw [ha] at iha; rw [hb] at ihb
    intro hp hpr he h
    have h1 := iha hp.1 hpr.1 he.1 h
    exact transG h1 trivial (ihb hp.2 hpr.2 he.2 (goodG_of_post h1 trivial).1)
  | case6 b cs hd s s1 e1 e hin r s2 e2 hh hb ihb ihh =>
    rw [hb] at ihb; rw [hh] at ihh
    intro hp hpr he h
    have hc := continues_of_caught hin hp.2.2
    have h1 := ihb hp.1 hpr.1 he.1 h
    exact transG h1 hc (ihh hp.2.1 hpr.2 he.2 (goodG_of_post h1 hc).1)
  | case7 b cs hd s s1 e1 e _ hb ihb => rw [hb] at ihb; exact fun hp hpr he => ihb hp.1 hpr.1 he.1
  | case8 b cs hd s s1 e1 hb ihb => rw [hb] at ihb; exact fun hp hpr he => ihb hp.1 hpr.1 he.1
  | case9 ig rel t body s d s0 r s1 e1 hb r' x s2 hx ih =>
    rw [hb] at ih
    intro hp hpr he h
    have hd : s.cancelAt ≠ none → d % 2 = 0 := by
      intro hne
      cases hc : s.cancelAt with
      | none => exact absurd hc hne
      | some c =>
        show (if rel = true then s.now + t else t) % 2 = 0
        split
        · exact even_add (h.2.2 c hc).2.1 he.1
        · exact he.1
    have := aexitG ig d s s1 r (ih hp hpr he.2 (enterG s d h hd))
    rwa [hx] at this
  | case10 anyp ms body s r s1 e1 hb r' s2 left hg ih =>
    rw [hb] at ih
    intro hp hpr he h
    have := gexitG anyp ms hpr.1 he.1 r s s1 h.2.2 (ih hp hpr.2 he.2 h)
    rwa [hg] at this

/-- **C12 with task groups** (members that die at once): for every nesting of timeout blocks and
task groups that does not itself catch or raise the cancellation family, every even start time
and every odd cancel instant not before it (so the cancel never coincides with a deadline): a
delivered `cancel()` makes the task end `Cancelled` - through every group clean-up and every
block exit on the way out, whatever inner timeouts expired and were handled before. -/
theorem external_cancel_propagates_groups (p : Prog) (hp : NoCatch p) (hpr : Prompt p)
    (he : EvenP p) (now c : Int) (hnow : now % 2 = 0) (hc : c % 2 = 1) (hle : now ≤ c) :
    (run true p { now := now, cancelAt := some c }).2.1.cancelAt = none →
    (run true p { now := now, cancelAt := some c }).1 = some .cancelled :=
  fun hdel => cancelled_of_delivered
    (run_postG p { now := now, cancelAt := some c } hp hpr he
      ⟨rfl, nofun, fun c' hc' => by cases hc'; exact ⟨hle, hnow, hc, nofun⟩⟩).1.2.2.2.2
    ⟨nofun, hdel⟩

/-- the statement without the restriction on the members -/
def external_cancel_propagates_groups_full : Prop :=
  ∀ (p : Prog), NoCatch p → EvenP p → ∀ (now c : Int), now % 2 = 0 → c % 2 = 1 → now ≤ c →
    (run true p { now := now, cancelAt := some c }).2.1.cancelAt = none →
    (run true p { now := now, cancelAt := some c }).1 = some .cancelled

/-- F33: a member that needs 8 to die.  `timeout_after(10){ TaskGroup[..]{ sleep 100 } }`,
`cancel()` at 5: the clean-up is still awaiting the member when the deadline passes at 10 - the
task ends with `TaskTimeout` (and the member is abandoned).  With `cancel()` at 13 the deadline
has fired first and the cancel lands in its clean-up: `TaskTimeout` again. -/
def f23 : Prog := .block false true 10 (.group false [(100, 8)] (.sleep 100))

theorem external_cancel_propagates_groups_full_fails : ¬ external_cancel_propagates_groups_full := by
  intro h
  have := h f23 (by simp [f23, NoCatch]) (by simp [f23, EvenP]) 0 5 (by decide) (by decide)
    (by decide) (by decide)
  revert this
  decide

example : (run true f23 { cancelAt := some 5 }).1 = some .taskTimeout ∧
    (run true f23 { cancelAt := some 5 }).2.2 =
      [.gexit (some .cancelled) 1 10, .exit 10 (some .taskTimeout) true 10] ∧
    (run true f23 { cancelAt := some 13 }).1 = some .taskTimeout ∧
    (run true f23 { cancelAt := some 13 }).2.1.cancelAt = none := by decide

/-- non-vacuity of the positive theorem: the same program with a member that dies at once, and a
nest with an earlier handled inner timeout, a group inside a block inside a group -/
example : (run true (.block false true 10 (.group false [(100, 0)] (.sleep 100)))
      { cancelAt := some 5 }).2.1.cancelAt = none ∧
    (run true (.block false true 10 (.group false [(100, 0)] (.sleep 100)))
      { cancelAt := some 5 }).1 = some .cancelled := by decide
example : (run true (.group false [(30, 0)] (.block false true 20 (.seq
      (.tryCatch (.block false true 2 (.sleep 100)) [.taskTimeout] .skip)
      (.group false [(6, 0), (40, 0)] (.sleep 100))))) { cancelAt := some 7 }).1 = some .cancelled := by
  decide

/-- A cancel at the very instant at which a member finishes by itself (outside the parity side
condition of the theorem: member completions are even instants).  The model places it after the
completions of its instant have been booked and before anybody has acted on them (the cancel
wins over the joiner's wake-up): the finished member is not swept, the others are, the task ends
`Cancelled`.  This placement ('done' in the harness) is compared with the real code by the
correspondence; the neighbouring loop iterations are judged by the oracle only. -/
example : (run true (.group true [(6, 0), (40, 4)] .skip) { cancelAt := some 6 }).1 = some .cancelled ∧
    (run true (.group true [(6, 0), (40, 4)] .skip) { cancelAt := some 6 }).2.2 =
      [.gexit (some .cancelled) 0 10] ∧
    (run true (.group false [(6, 0), (40, 0)] (.sleep 2)) { cancelAt := some 40 }).1 = some .cancelled := by
  decide

theorem sweep_left_zero (R : List (Nat × Nat)) (r : Res) (s : TS) (hR : ∀ m ∈ R, m.2 = 0) :
    (sweep R r s).2.2 = 0 := by
  rcases sweep_cases R r s with e | ⟨_, e⟩ | ⟨_, _, e⟩ <;> rw [e]
  · refine List.length_eq_zero_iff.2 (List.filter_eq_nil_iff.2 fun m hm => ?_)
    have := doSleep_mono s (maxNat (R.map (·.2)))
    have := hR m hm
    simp only [decide_eq_true_eq]
    omega

theorem gexit_left_zero (anyp : Bool) (T : Int) (ms : List (Nat × Nat)) (r : Res) (s : TS)
    (hR : ∀ m ∈ ms, m.2 = 0) : (gexit anyp T ms r s).2.2 = 0 := by
  have sw : ∀ now r s, (sweep (runningAt T ms now) r s).2.2 = 0 :=
    fun now r s => sweep_left_zero _ r s fun m hm => hR m (List.mem_filter.1 hm).1
  rcases gexit_cases anyp T ms r s with e | ⟨_, e | e | ⟨_, e⟩⟩ <;> rw [e]
  · exact sw _ _ _
  · exact sw _ _ _

/-- **Every member is cancelled and awaited.**  In every program (any handlers) whose group
members die at once, every group is left with no member still running - on every path: normal
completion, an exception from the body, a timeout, an external cancellation, even a clean-up that
is itself interrupted. -/
theorem prompt_groups_leave_nobody (fixed : Bool) (p : Prog) : ∀ (s : TS), Prompt p →
    ∀ ev ∈ (run fixed p s).2.2, ∀ r n t, ev = Ev.gexit r n t → n = 0 := by
  intro s
  fun_induction run fixed p s with
  | case1 | case2 | case3 => exact fun _ _ h => nomatch h
  | case4 a b s s1 e1 e ha iha => rw [ha] at iha; exact fun hp => iha hp.1
  | case5 a b s s1 e1 r s2 e2 hb ha iha ihb =>
    rw [ha] at iha; rw [hb] at ihb
    exact fun hp ev hev => (List.mem_append.1 hev).elim (iha hp.1 ev) (ihb hp.2 ev)
  | case6 b cs hd s s1 e1 e _ r s2 e2 hh hb ihb ihh =>
    rw [hb] at ihb; rw [hh] at ihh
    exact fun hp ev hev => (List.mem_append.1 hev).elim (ihb hp.1 ev) (ihh hp.2 ev)
  | case7 b cs hd s s1 e1 e _ hb ihb => rw [hb] at ihb; exact fun hp => ihb hp.1
  | case8 b cs hd s s1 e1 hb ihb => rw [hb] at ihb; exact fun hp => ihb hp.1
  | case9 ig rel t body s d s0 r s1 e1 hb r' x s2 hx ih =>
    rw [hb] at ih
    refine fun hp ev hev => (List.mem_append.1 hev).elim (ih hp ev) fun h1 => ?_
    cases List.mem_singleton.1 h1
    exact fun _ _ _ he => nomatch he
  | case10 anyp ms body s r s1 e1 hb r' s2 left hg ih =>
    rw [hb] at ih
    refine fun hp ev hev => (List.mem_append.1 hev).elim (ih hp.2 ev) fun h1 => ?_
    cases List.mem_singleton.1 h1
    intro _ _ _ he
    cases he
    have := gexit_left_zero anyp s.now ms r s1 hp.1
    rwa [hg] at this

/-- with slow members it is false: F11 (the clean-up is interrupted a second time) -/
example : (run true (.block false true 10 (.group false [(100, 8)] (.sleep 100))) { cancelAt := some 5 }).2.2
    = [.gexit (some .cancelled) 1 10, .exit 10 (some .taskTimeout) true 10] := by decide

end Aiorpcx.C11
