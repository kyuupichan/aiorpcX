import Aiorpcx.C11.Stack
/-! C12 — the invariant `Good` and the postcondition `Post` that carry an external cancellation
through timeout blocks, and what one suspension does to them. -/
namespace Aiorpcx.C11

/-- programs that neither raise nor catch the cancellation family themselves -/
def NoCatch : Prog → Prop
  | .skip => True
  | .sleep _ => True
  | .raise e => e ≠ .cancelled ∧ e ≠ .tce
  | .seq a b => NoCatch a ∧ NoCatch b
  | .block _ _ _ b => NoCatch b
  | .tryCatch b cs h => NoCatch b ∧ NoCatch h ∧ Exc.cancelled ∉ cs ∧ Exc.tce ∉ cs
  | .group _ _ b => NoCatch b

/-- programs without task groups (no clean-up ever awaits while an exception is in flight) -/
def Flat : Prog → Prop
  | .skip => True
  | .sleep _ => True
  | .raise _ => True
  | .seq a b => Flat a ∧ Flat b
  | .block _ _ _ b => Flat b
  | .tryCatch b _ h => Flat b ∧ Flat h
  | .group _ _ _ => False

def Stale (s : TS) : Prop := ∀ m, s.marker = some m → m ∉ s.deadlines
def Jj (s : TS) : Prop :=
  ∀ m, s.marker = some m → m ∈ s.deadlines → ∃ a, s.armed = some a ∧ a ≤ s.now
def Active (s : TS) : Prop := ∃ m, s.marker = some m ∧ m ∈ s.deadlines
def Delivered (s s' : TS) : Prop := s.cancelAt ≠ none ∧ s'.cancelAt = none
def Good (s : TS) : Prop := Inv s ∧ Kk s ∧ Jj s

def ResOK (s s' : TS) : Res → Prop
  | some .cancelled => (Delivered s s' ∧ Stale s') ∨ (s'.cancelAt = s.cancelAt ∧ Active s')
  | some .tce => s'.cancelAt = s.cancelAt ∧ Active s'
  | _ => Jj s' ∧ s'.cancelAt = s.cancelAt

def Post (s s' : TS) (r : Res) : Prop :=
  s'.deadlines = s.deadlines ∧ Inv s' ∧ Kk s' ∧ s.now ≤ s'.now ∧ ResOK s s' r

/-- under `NoCatch` only results after which execution continues are raised by hand ... -/
theorem continues_of_ne {e : Exc} (h : e ≠ .cancelled ∧ e ≠ .tce) : Continues (some e) := by
  cases e <;> first | trivial | exact absurd rfl h.1 | exact absurd rfl h.2

/-- ... or caught -/
theorem continues_of_caught {cs : List Exc} {e : Exc} (hin : cs.contains e = true)
    (h : Exc.cancelled ∉ cs ∧ Exc.tce ∉ cs) : Continues (some e) :=
  continues_of_ne ⟨fun he => h.1 (he ▸ List.contains_iff_mem.1 hin),
    fun he => h.2 (he ▸ List.contains_iff_mem.1 hin)⟩

theorem ResOK_continues {s s' : TS} {r : Res} (hr : Continues r) :
    ResOK s s' r ↔ Jj s' ∧ s'.cancelAt = s.cancelAt := by
  cases r with
  | none => exact .rfl
  | some e => cases e <;> first | exact .rfl | exact hr.elim

theorem Frame.post {s s' : TS} {r : Res} (f : Frame s s') (h : Good s) (hr : ResOK s s' r) :
    Post s s' r :=
  ⟨f.deadlines, f.inv h.1, f.kk h.2.1, f.mono, hr⟩

theorem doSleep_post (s : TS) (d : Nat) (h : Good s) : Post s (doSleep s d).2 (doSleep s d).1 := by
  refine (doSleep_frame s d).post h ?_
  obtain ⟨hI, hK, hJ⟩ := h
  rcases doSleep_cases s d with ⟨e, _⟩ | ⟨a, ha, e, _⟩ | ⟨c, hc, e, _, hfirst⟩ <;> rw [e]
  · refine ⟨fun m hm hmem => ?_, rfl⟩
    obtain ⟨a, ha, hle⟩ := hJ m hm hmem
    exact ⟨a, ha, Int.le_trans hle (Int.le_add_of_nonneg_right (Int.natCast_nonneg d))⟩
  · exact .inr ⟨rfl, a, rfl, hI.armed_mem ha⟩
  · -- a marker that is still active has its timer due: the timer would have come first
    refine .inl ⟨⟨by rw [hc]; nofun, rfl⟩, fun m hm hmem => ?_⟩
    obtain ⟨a, ha, hle⟩ := hJ m hm hmem
    have := hfirst a ha
    rw [clampT_of_le hle] at this
    exact Int.not_le.2 this (clampT_ge _ _).1

theorem enter_good (s : TS) (d : Int) (h : Good s) : Good (enter s d) :=
  ⟨enter_inv s d h.1, enter_kk s d, nofun⟩

theorem unset_J (s : TS) (hK : Kk s) : Jj (unset s).2.2 := by
  intro m hm hmem
  obtain ⟨a, ha, hle⟩ := minL_le hmem
  exact ⟨a, ha, Int.le_trans hle (hK m hm)⟩

theorem mem_of_mem_append_single {ds : List Int} {d m : Int} (h : m ∈ ds ++ [d]) (hne : m ≠ d) :
    m ∈ ds :=
  (List.mem_append.1 h).elim id fun h' => absurd (List.mem_singleton.1 h') hne

end Aiorpcx.C11
