import Aiorpcx.C16.Props
import Aiorpcx.C17.Sent
import Aiorpcx.C18.RoundTrip
/-!
# C16 ⇄ C18 bridge, and C16 at the level of `_connect_one` (⇄ C17)

`ValidHostName` - the hypothesis under which C16's host-name theorems are stated - follows from
C18's grammar of accepted host names (`C18.Spec.hostname`, for which C18 proves
`is_valid_hostname = Spec.hostname` on all strings: `C18.hostname_exact`).  So the C16 theorems
hold for every host name `NetAddress` lets through, with no separate assumption.
-/
namespace Aiorpcx.C16
open Aiorpcx.Socks

theorem labelChar_ascii {c : Nat} (h : C18.Spec.labelChar c = true) : c < 128 ∧ c ≠ 0 := by
  simp only [C18.Spec.labelChar, C18.Spec.isLetter, C18.Spec.isDigit, Bool.or_eq_true,
    Bool.and_eq_true, decide_eq_true_eq, beq_iff_eq] at h
  omega

/-- at most one trailing dot is ignored: the string is at most one character longer than what
    the 1-253 bound applies to -/
theorem length_le_stripDot (s : C18.Str) : s.length ≤ (C18.stripDot s).length + 1 := by
  unfold C18.stripDot
  split
  · simp only [List.length_dropLast]; omega
  · omega

/-- **Bridge lemma**: every string C18's host-name grammar accepts satisfies the C16
    hypothesis - at most 254 characters (253 + an optional trailing dot), all ASCII, none NUL. -/
theorem validHostName_of_c18 {s : List Nat} (h : C18.Spec.hostname s = true) : ValidHostName s := by
  refine ⟨?_, ?_⟩
  · have hl := length_le_stripDot s
    unfold C18.Spec.hostname at h
    simp only [Bool.and_eq_true, decide_eq_true_eq] at h
    omega
  · intro c hc
    rcases C18.hostname_chars h c hc with h1 | h1
    · exact labelChar_ascii h1
    · subst h1; omega

example : C18.Spec.hostname wwwAppleCom = true := by decide

/-- the SOCKS4a and SOCKS5 host-name theorems with C18's grammar in place of `ValidHostName` -/
theorem socks4a_parse_c18 (s : List Nat) (port : Nat) (a : Auth) (ub : Bytes)
    (hport : port < 65536) (hu : userBytes a = .ok ub) (hnul : userHasNul a = false)
    (hs : C18.Spec.hostname s = true) :
    mkCfg .socks4a (.name s) port a = .ok (.s4 (.name s) port a) ∧
    ∃ msg, firstMessage (.s4 (.name s) port a) = .msg msg ∧
      Spec.parseSocks4Request true msg =
        some (⟨4, 1, port, [0, 0, 0, 1], ub, some (s.map Nat.toUInt8)⟩, []) :=
  socks4a_parse s port a ub hport hu hnul (validHostName_of_c18 hs)

theorem socks5_name_parse_c18 (s : List Nat) (port : Nat) (hport : port < 65536)
    (hs : C18.Spec.hostname s = true) :
    ∃ cfg, mkCfg .socks5 (.name s) port none = .ok cfg ∧
      Spec.parseConnect (socks5Connect cfg.dst) =
        some (⟨5, 1, 0, .domain (s.map Nat.toUInt8), port⟩, []) := by
  obtain ⟨dst, hd⟩ := socks5_valid_host_accepted s port (validHostName_of_c18 hs) hport
  obtain ⟨cfg, hc⟩ := accepts_expressible.2.2.2.1 (.name s) port dst hd
  obtain ⟨addr, hp, hb, hu, _, rfl⟩ := socks5_connect_parse (.name s) port none cfg hport hc
  obtain ⟨h1, _, _⟩ := validHost_utf8 (validHostName_of_c18 hs)
  rw [h1] at hu
  cases hu
  exact ⟨cfg, hc, hp⟩

/-- what `NetAddress` refuses never reaches the classes: NUL, a non-ASCII character or more than
    254 characters make `C18.Spec.hostname` false -/
theorem c18_rejects_unexpressible_names (s : List Nat)
    (h : 0 ∈ s ∨ (∃ c ∈ s, 128 ≤ c) ∨ 254 < s.length) : C18.Spec.hostname s = false := by
  cases hv : C18.Spec.hostname s with
  | false => rfl
  | true =>
    obtain ⟨h1, h2⟩ := validHostName_of_c18 hv
    rcases h with h | ⟨c, hc, h⟩ | h
    · exact absurd rfl (h2 0 h).2
    · have := (h2 c hc).1; omega
    · omega

def strOf (s : String) : List Nat := s.toList.map Char.toNat

def lab63 : List Nat := List.replicate 63 120
def n253 : List Nat := lab63 ++ [46] ++ lab63 ++ [46] ++ lab63 ++ [46] ++ List.replicate 61 121

/-- the probe names of `tools/facts/c16.py: host_probes`, in order -/
def hostProbes : List (List Nat) :=
  [strOf "a.bc", [97, 0, 98], [97, 46, 98, 0], [0xE9, 46, 99, 111, 109], [0x212A, 46, 99, 111, 109],
   n253, n253 ++ [46], n253 ++ [121], n253 ++ [121, 46], List.replicate 64 120 ++ strOf ".com",
   strOf "a b.com", []]

/-- **the real `NetAddress` takes as a host name exactly the probe names C18's grammar
    accepts** - among them: NUL, non-ASCII characters and more than 253 (+ trailing dot)
    characters are refused, so they never reach the protocol classes (non-stub tie of the
    `ValidHostName` hypothesis) -/
theorem facts_host_names :
    Facts.C16.hostAccepted = hostProbes.map C18.Spec.hostname := by decide +kernel

/-- what the connection opened for one entry receives: the messages of a handshake from the
    initial state on that entry's replies (`none`: no connection) -/
def entrySent (cfg : Cfg) : Attempt → Option (List Bytes)
  | .talks s o | .peernameFails s o => some (handshake o (Client.init cfg) ⟨s, 0⟩).sent
  | _ => none

/-- `_connect_one` builds a protocol object per entry: the connections made are an initial
    segment of the entries, and each receives what a **fresh** handshake sends on its own
    replies, whatever happened on the entries tried before -/
theorem connectOneSent_prefix (cfg : Cfg) :
    ∀ as : List Attempt, connectOneSent (.ok cfg) as <+: as.map (entrySent cfg)
  | [] => List.prefix_refl _
  | a :: as => by
    have one (y : Option (List Bytes)) (l) : [y] <+: y :: l := ⟨l, rfl⟩
    have cons (y : Option (List Bytes)) :
        y :: connectOneSent (.ok cfg) as <+: y :: as.map (entrySent cfg) :=
      List.cons_prefix_cons.2 ⟨rfl, connectOneSent_prefix cfg as⟩
    cases a with
    | connectFails => exact cons _
    | socketFails => exact one _ _
    | talks s o =>
      simp only [connectOneSent, List.map_cons, entrySent]
      split
      · exact one _ _
      · split
        · exact cons _
        · exact one _ _
    | peernameFails s o =>
      simp only [connectOneSent, List.map_cons, entrySent]
      split
      · exact cons _
      · split
        · exact cons _
        · exact one _ _

/-- what `_connect_one` sends on each connection depends on that connection's replies only -
    never on what happened on an earlier connection: each tried entry that talks receives
    exactly the messages of a **fresh** handshake (`sentSpec` for SOCKS5: greeting first) -/
theorem connectOneSent_fresh (dst ab : Bytes) (ms : List UInt8) :
    ∀ (as : List Attempt) (x : Option (List Bytes)), x ∈ connectOneSent (.ok (.s5 dst ab ms)) as →
      x = none ∨ ∃ s o, (Attempt.talks s o ∈ as ∨ Attempt.peernameFails s o ∈ as) ∧
        x = some (C17.sentSpec dst ab ms s) := by
  intro as x hx
  obtain ⟨a, ha, rfl⟩ := List.mem_map.1 ((connectOneSent_prefix _ as).subset hx)
  cases a with
  | talks s o => exact .inr ⟨s, o, .inl ha, congrArg some (C17.sent_spec ..)⟩
  | peernameFails s o => exact .inr ⟨s, o, .inr ha, congrArg some (C17.sent_spec ..)⟩
  | _ => exact .inl rfl

/-- the same for SOCKS4 / SOCKS4a: every connection that is made receives the one request -/
theorem connectOneSent_fresh4 (h : Host) (port : Nat) (a : Auth) (b : Bytes)
    (hs : socks4Start h port a = .ok b) :
    ∀ (as : List Attempt) (x : Option (List Bytes)), x ∈ connectOneSent (.ok (.s4 h port a)) as →
      x = none ∨ x = some [b] := by
  have key : ∀ s o, (handshake o (Client.init (.s4 h port a)) ⟨s, 0⟩).sent = [b] := by
    intro s o
    have h1 := congrArg C17.RefRun.sent (C17.handshake_ref o (Client.init (.s4 h port a)) ⟨s, 0⟩)
    simp only [C17.refOf] at h1
    rw [h1, C17.runRef_start_s4 h port a b s hs, C17.runRef_first4]
    simp only [C17.consMsg]
    split
    · split
      · rfl
      · split <;> rfl
    · rfl
  intro as x hx
  obtain ⟨a, ha, rfl⟩ := List.mem_map.1 ((connectOneSent_prefix _ as).subset hx)
  cases a with
  | talks s o => exact .inr (congrArg some (key s o))
  | peernameFails s o => exact .inr (congrArg some (key s o))
  | _ => exact .inl rfl

/-- the three attempts of the proxy probe -/
def probeAttempts (o : Nat → Nat) : List Attempt :=
  [.talks [5, 2] o, .talks [5] o, .talks [5, 0, 5, 0, 0, 1, 0, 0, 0, 0, 0, 0] o]

/-- **the proxy probe**: what each of the three connections of the real `create_connection`
    received (first address selects method 2 and hangs up, second hangs up after `05`, third
    selects method 0 and grants) is what the model's `_connect_one` sends - in particular the
    second and third connection start again with the greeting (a protocol object re-used
    across addresses would send nothing, or the tail of the previous exchange) -/
theorem facts_proxy_probe :
    (connectOneSent (mkCfg .socks5 (.name probeName) 0x0506 probeAuth)
        (probeAttempts (fun _ => 1))).map (fun x => (x.getD []).flatten) = Facts.C16.proxyProbe ∧
    Facts.C16.proxyProbeResult = "ok" := by
  have hc : mkCfg .socks5 (.name probeName) 0x0506 probeAuth =
      .ok (.s5 [3, 4, 97, 46, 98, 99, 5, 6] [1, 2, 97, 98, 3, 99, 100, 101] [0, 2]) := by decide
  have h1 : handshake (fun _ => 1) (Client.init (.s5 [3, 4, 97, 46, 98, 99, 5, 6]
      [1, 2, 97, 98, 3, 99, 100, 101] [0, 2])) ⟨[5, 2], 0⟩ =
      ⟨some .socksProtocolError, [[5, 2, 0, 2], [1, 2, 97, 98, 3, 99, 100, 101]], [],
       [(2, 1), (1, 1), (2, 0)]⟩ := C17.handshakeFuel_sound _ 20 _ _ _ (by decide +kernel)
  have h2 : handshake (fun _ => 1) (Client.init (.s5 [3, 4, 97, 46, 98, 99, 5, 6]
      [1, 2, 97, 98, 3, 99, 100, 101] [0, 2])) ⟨[5], 0⟩ =
      ⟨some .socksProtocolError, [[5, 2, 0, 2]], [], [(2, 1), (1, 0)]⟩ :=
    C17.handshakeFuel_sound _ 20 _ _ _ (by decide +kernel)
  have h3 : handshake (fun _ => 1) (Client.init (.s5 [3, 4, 97, 46, 98, 99, 5, 6]
      [1, 2, 97, 98, 3, 99, 100, 101] [0, 2])) ⟨[5, 0, 5, 0, 0, 1, 0, 0, 0, 0, 0, 0], 0⟩ =
      ⟨none, [[5, 2, 0, 2], [5, 1, 0, 3, 4, 97, 46, 98, 99, 5, 6]], [],
       [(2, 1), (1, 1), (5, 1), (4, 1), (3, 1), (2, 1), (1, 1), (5, 1), (4, 1), (3, 1), (2, 1),
        (1, 1)]⟩ := C17.handshakeFuel_sound _ 40 _ _ _ (by decide +kernel)
  refine ⟨?_, by decide⟩
  rw [hc]
  simp only [probeAttempts, connectOneSent, h1, h2, h3, isCaught, if_true]
  decide

end Aiorpcx.C16
