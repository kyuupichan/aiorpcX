import Aiorpcx.C16.Model
import Aiorpcx.C16.Spec
namespace Aiorpcx.C16
open Aiorpcx.Socks

theorem toUInt8_toNat {n : Nat} (h : n < 256) : n.toUInt8.toNat = n := by
  simp [Nat.toUInt8, UInt8.toNat_ofNat']
  omega

theorem toUInt8_of_toNat {n : Nat} {b : UInt8} (h : n = b.toNat) : n.toUInt8 = b := by
  subst h; simp [Nat.toUInt8]

theorem toUInt8_eq_zero_iff {n : Nat} (h : n < 256) : n.toUInt8 = 0 ↔ n = 0 :=
  ⟨fun hz => by rw [← toUInt8_toNat h, hz]; rfl, fun h0 => h0 ▸ rfl⟩

theorem be16_pack {port : Nat} (h : port < 65536) :
    Spec.be16 (port / 256).toUInt8 (port % 256).toUInt8 = port := by
  rw [Spec.be16, toUInt8_toNat (Nat.div_lt_of_lt_mul h), toUInt8_toNat (Nat.mod_lt _ (by decide)),
    Nat.div_add_mod']

theorem packH_ok {port : Nat} (h : port < 65536) :
    packH port = .ok [(port / 256).toUInt8, (port % 256).toUInt8] := by
  simp [packH, h]

theorem utf8_cons_ok {c : Nat} {cs : List Nat} {b : Bytes} (h : utf8 (c :: cs) = .ok b) :
    ∃ b1 b2, utf8Char c = .ok b1 ∧ utf8 cs = .ok b2 ∧ b = b1 ++ b2 := by
  unfold utf8 at h
  split at h
  · simp at h
  · rename_i a ha
    split at h
    · simp at h
    · rename_i b2 hb
      simp at h
      exact ⟨a, b2, ha, hb, h.symm⟩

theorem utf8_cons_of {c : Nat} {cs : List Nat} {b1 b2 : Bytes}
    (h1 : utf8Char c = .ok b1) (h2 : utf8 cs = .ok b2) : utf8 (c :: cs) = .ok (b1 ++ b2) := by
  simp only [utf8, h1, h2]

theorem untilNul_append : ∀ (x r : Bytes), (0 : UInt8) ∉ x → Spec.untilNul (x ++ 0 :: r) = some (x, r)
  | [], r, _ => by simp [Spec.untilNul]
  | b :: bs, r, h => by
    have hb : b ≠ 0 := fun hz => h (by simp [hz])
    have hbs : (0 : UInt8) ∉ bs := fun hz => h (by simp [hz])
    simp [Spec.untilNul, hb, untilNul_append bs r hbs]

theorem utf8_ascii : ∀ (s : List Nat), (∀ c ∈ s, c < 128) → utf8 s = .ok (s.map Nat.toUInt8)
  | [], _ => rfl
  | c :: cs, h => by
    have hc : c < 128 := h c (by simp)
    have := utf8_ascii cs (fun x hx => h x (by simp [hx]))
    simp [utf8, utf8Char, hc, this]

theorem vec4_toList (v : Vector UInt8 4) : ∃ a b c d, v.toList = [a, b, c, d] := by
  have h : v.toList.length = 4 := by simp
  match hv : v.toList, h with
  | [a, b, c, d], _ => exact ⟨a, b, c, d, rfl⟩

end Aiorpcx.C16
