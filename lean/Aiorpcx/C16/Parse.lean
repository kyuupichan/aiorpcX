import Aiorpcx.C16.Lemmas
/-! C16 — the model's messages in closed form, and the spec parsers applied to byte strings of
    that form. -/
namespace Aiorpcx.C16
open Aiorpcx.Socks

/-- `auth.username.encode()` when credentials are given, `b''` otherwise -/
def userBytes : Auth → Except PyExc Bytes
  | some (u, _) => utf8 u
  | none => .ok []

theorem socks4Start_ipv4 (ip : Vector UInt8 4) (port : Nat) (a : Auth) (ub : Bytes)
    (hp : port < 65536) (hu : userBytes a = .ok ub) :
    socks4Start (.ipv4 ip) port a =
      .ok ([4, 1, (port / 256).toUInt8, (port % 256).toUInt8] ++ ip.toList ++ ub ++ [0]) := by
  unfold socks4Start
  cases a with
  | none =>
    simp only [userBytes, Except.ok.injEq] at hu; subst hu
    simp [packH_ok hp]
  | some up =>
    obtain ⟨u, p⟩ := up
    simp only [userBytes] at hu
    simp [hu, packH_ok hp]

theorem socks4Start_name (s : List Nat) (port : Nat) (a : Auth) (ub hb : Bytes)
    (hp : port < 65536) (hu : userBytes a = .ok ub) (hh : utf8 s = .ok hb) :
    socks4Start (.name s) port a =
      .ok ([4, 1, (port / 256).toUInt8, (port % 256).toUInt8, 0, 0, 0, 1] ++ ub ++ [0] ++ hb ++ [0]) := by
  unfold socks4Start
  cases a with
  | none =>
    simp only [userBytes, Except.ok.injEq] at hu; subst hu
    simp [packH_ok hp, hh]
  | some up =>
    obtain ⟨u, p⟩ := up
    simp only [userBytes] at hu
    simp [hu, hh, packH_ok hp]

/-- the plain form (no host name) is read back by a SOCKS4 server, and by a SOCKS4a server
    (`e`) unless the address is one of the markers 0.0.0.x, x ≠ 0 -/
theorem parse4_ipv4 (e : Bool) (vn cd p1 p2 : UInt8) (ip : Vector UInt8 4) (ub r : Bytes)
    (h0 : (0 : UInt8) ∉ ub) (hm : e = true → isMarker ip = false) :
    Spec.parseSocks4Request e ([vn, cd, p1, p2] ++ ip.toList ++ ub ++ 0 :: r) =
      some (⟨vn, cd, Spec.be16 p1 p2, ip.toList, ub, none⟩, r) := by
  obtain ⟨a, b, c, d, hv⟩ := vec4_toList ip
  simp only [isMarker, hv] at hm
  simp only [hv, Spec.parseSocks4Request, List.cons_append, List.nil_append,
    untilNul_append ub r h0]
  rw [if_neg]
  rintro ⟨he, rfl, rfl, rfl, hd⟩
  simpa [hd] using hm he

theorem parse4a_marker (vn cd p1 p2 d : UInt8) (ub hb r : Bytes) (h0 : (0 : UInt8) ∉ ub)
    (h1 : (0 : UInt8) ∉ hb) (hd : d ≠ 0) :
    Spec.parseSocks4Request true ([vn, cd, p1, p2, 0, 0, 0, d] ++ ub ++ 0 :: (hb ++ 0 :: r)) =
      some (⟨vn, cd, Spec.be16 p1 p2, [0, 0, 0, d], ub, some hb⟩, r) := by
  simp only [Spec.parseSocks4Request, List.cons_append, List.nil_append, untilNul_append ub _ h0]
  simp [hd, untilNul_append hb r h1]

theorem parseGreeting_greeting (ms : List UInt8) (r : Bytes) (h : ms.length < 256) :
    Spec.parseGreeting (socks5Greeting ms ++ r) = some (5, ms, r) := by
  simp [Spec.parseGreeting, socks5Greeting, toUInt8_toNat h]

theorem parseUserPass_msg (ub pb r : Bytes) (hu : ub.length < 256) (hp : pb.length < 256) :
    Spec.parseUserPass ([1, ub.length.toUInt8] ++ ub ++ [pb.length.toUInt8] ++ pb ++ r) =
      some (1, ub, pb, r) := by
  simp [Spec.parseUserPass, toUInt8_toNat hu, toUInt8_toNat hp]

/-! the CONNECT request up to the port, for each address type -/

theorem parseConnect_v4 (ip : Vector UInt8 4) (p : Bytes) :
    Spec.parseConnect (socks5Connect (1 :: ip.toList ++ p)) =
      Spec.takePort 5 1 0 (.ipv4 ip.toList) p := by
  obtain ⟨a, b, c, d, hv⟩ := vec4_toList ip
  rw [hv]
  rfl

theorem parseConnect_v6 (ip : Vector UInt8 16) (p : Bytes) :
    Spec.parseConnect (socks5Connect (4 :: ip.toList ++ p)) =
      Spec.takePort 5 1 0 (.ipv6 ip.toList) p := by
  have : ¬ 16 + p.length < 16 := by omega
  simp [Spec.parseConnect, socks5Connect, this]

theorem parseConnect_name (hb : Bytes) (hl : hb.length < 256) (p : Bytes) :
    Spec.parseConnect (socks5Connect (3 :: hb.length.toUInt8 :: hb ++ p)) =
      Spec.takePort 5 1 0 (.domain hb) p := by
  have : ¬ hb.length + p.length < hb.length := by omega
  simp [Spec.parseConnect, socks5Connect, toUInt8_toNat hl, this]

end Aiorpcx.C16
