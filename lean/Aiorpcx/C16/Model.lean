/-! C16 / C17 — model of `aiorpcx/socks.py` (shared by both properties).
    No Mathlib imports: the drivers link this.

    * request construction: `SOCKS4.__init__/_check_remote_host/_start`, `SOCKS4a`,
      `SOCKS5.__init__/_destination_bytes/_authentication/_start/_request_connection`  (C16)
    * reply parsing: `SOCKSBase._read/receive_data/next_message`, `SOCKS4._first_response`,
      `SOCKS5._first_response/_auth_response/_connect_response/_connect_response_rest`   (C17)
    * `SOCKSProxy._handshake` over an abstract socket, `_connect_one`, `_detect_proxy`,
      `_connect`                                                                        (C17)

    Python failure modes are explicit: `str.encode()` of a lone surrogate
    (`UnicodeEncodeError`), the `assert len(host) <= 255`, `struct.pack('>H', ..)` out of
    range, `.encode` on an `IPv6Address`. -/
namespace Aiorpcx.Socks

abbrev Bytes := List UInt8

deriving instance DecidableEq for Except

inductive PyExc where
  | socksProtocolError
  | socksFailure
  | unicodeEncodeError
  | assertionError
  | structError
  | attributeError
  | osError
  | unboundLocalError
  deriving DecidableEq, Repr

/-! ## `str.encode()` : UTF-8, strict (a Python `str` is a list of code points; lone
    surrogates exist and cannot be encoded) -/

def utf8Char (c : Nat) : Except PyExc Bytes :=
  if c < 0x80 then .ok [c.toUInt8]
  else if c < 0x800 then .ok [(0xC0 + c / 64).toUInt8, (0x80 + c % 64).toUInt8]
  else if 0xD800 ≤ c ∧ c < 0xE000 then .error .unicodeEncodeError
  else if c < 0x10000 then
    .ok [(0xE0 + c / 4096).toUInt8, (0x80 + c / 64 % 64).toUInt8, (0x80 + c % 64).toUInt8]
  else if c < 0x110000 then
    .ok [(0xF0 + c / 262144).toUInt8, (0x80 + c / 4096 % 64).toUInt8,
         (0x80 + c / 64 % 64).toUInt8, (0x80 + c % 64).toUInt8]
  else .error .unicodeEncodeError     -- not a code point a Python str can hold

def utf8 : List Nat → Except PyExc Bytes
  | [] => .ok []
  | c :: cs =>
    match utf8Char c with
    | .error e => .error e
    | .ok a =>
      match utf8 cs with
      | .error e => .error e
      | .ok b => .ok (a ++ b)

/-- `struct.pack('>H', n)` -/
def packH (n : Nat) : Except PyExc Bytes :=
  if n < 65536 then .ok [(n / 256).toUInt8, (n % 256).toUInt8] else .error .structError

/-! ## destinations and credentials -/

/-- `NetAddress.host`: an `IPv4Address` (`.packed` = 4 bytes), an `IPv6Address` (16 bytes) or
    a `str` (a validated host name; kept as code points so that `.encode()` is modelled) -/
inductive Host where
  | ipv4 (b : Vector UInt8 4)
  | ipv6 (b : Vector UInt8 16)
  /-- an `IPv6Address` carrying a zone (scope id), e.g. `fe80::1%eth0`; `.packed` is the 16
      address bytes, the zone is not part of them -/
  | ipv6z (b : Vector UInt8 16)
  | name (s : List Nat)
  deriving DecidableEq

/-- `None` or `SOCKSUserAuth(username, password)` -/
abbrev Auth := Option (List Nat × List Nat)

inductive Proto where
  | socks4 | socks4a | socks5
  deriving DecidableEq, Repr

/-! ## SOCKS4 / SOCKS4a requests -/

/-- `0 < int(host) < 256`: an IPv4 address of the form 0.0.0.x, x ≠ 0, which SOCKS4A.protocol
    reserves as the "host name follows" marker -/
def isMarker (b : Vector UInt8 4) : Bool :=
  match b.toList with
  | [x, y, z, w] => x == 0 && y == 0 && z == 0 && w != 0
  | _ => false

/-- `SOCKS4._check_remote_host` and the `SOCKS4a` override **as on the pinned tree** (finding
    F26: SOCKS4a accepts the marker addresses 0.0.0.x) -/
def checkRemoteHostPinned (p : Proto) : Host → Except PyExc Unit
  | .ipv4 _ => .ok ()
  | .name _ => if p = .socks4a then .ok () else .error .socksProtocolError
  | .ipv6 _ => .error .socksProtocolError
  | .ipv6z _ => .error .socksProtocolError

/-- `SOCKS4._check_remote_host` and the `SOCKS4a` override with the repair
    `fixes/F26-socks4a-marker-address.diff`: SOCKS4a cannot name the IPv4 destinations
    0.0.0.x (x ≠ 0) - a SOCKS4a server reads such a DSTIP as "a host name follows" - and
    refuses them -/
def checkRemoteHost (p : Proto) : Host → Except PyExc Unit
  | .ipv4 b => if p = .socks4a ∧ isMarker b = true then .error .socksProtocolError else .ok ()
  | .name _ => if p = .socks4a then .ok () else .error .socksProtocolError
  | .ipv6 _ => .error .socksProtocolError
  | .ipv6z _ => .error .socksProtocolError

/-- `'\0' in auth.username` -/
def userHasNul : Auth → Bool
  | some (u, _) => u.contains 0
  | none => false

/-- `SOCKS4.__init__` as it is on the pinned tree (finding F15: no NUL check) -/
def socks4InitPinned (p : Proto) (h : Host) (_a : Auth) : Except PyExc Unit :=
  checkRemoteHostPinned p h

/-- `SOCKS4.__init__` with the repair `fixes/F15-socks4-nul-userid.diff`: a user id containing
    NUL cannot be expressed (the field is NUL-terminated) and is refused -/
def socks4Init (p : Proto) (h : Host) (a : Auth) : Except PyExc Unit :=
  if userHasNul a then .error .socksProtocolError else checkRemoteHost p h

/-- `SOCKS4._start`: the CONNECT request.  Evaluation order as in the code: host name
    encoded first, then the user id, then the port packed. -/
def socks4Start (h : Host) (port : Nat) (a : Auth) : Except PyExc Bytes :=
  let hostPart : Except PyExc (Bytes × Bytes) :=
    match h with
    | .ipv4 b => .ok (b.toList, [])
    | .name s =>
      match utf8 s with
      | .error e => .error e
      | .ok e => .ok ([0, 0, 0, 1], e ++ [0])
    | .ipv6 _ => .error .attributeError   -- `IPv6Address.encode`; unreachable after `__init__`
    | .ipv6z _ => .error .attributeError
  match hostPart with
  | .error e => .error e
  | .ok (ip, hostBytes) =>
    let user : Except PyExc Bytes :=
      match a with
      | some (u, _) => utf8 u
      | none => .ok []
    match user with
    | .error e => .error e
    | .ok userId =>
      match packH port with
      | .error e => .error e
      | .ok p => .ok ([4, 1] ++ p ++ ip ++ userId ++ [0] ++ hostBytes)

/-! ## SOCKS5 requests -/

/-- the address part of `SOCKS5._destination_bytes` **as on the pinned tree** (finding F27: a
    zone-scoped IPv6 destination is sent as the bare 16 address bytes, the zone is silently
    lost) -/
def socks5AddrBytesPinned : Host → Except PyExc Bytes
  | .ipv4 b => .ok (1 :: b.toList)
  | .ipv6 b => .ok (4 :: b.toList)
  | .ipv6z b => .ok (4 :: b.toList)
  | .name s =>
    match utf8 s with
    | .error e => .error e
    | .ok e => if e.length ≤ 255 then .ok (3 :: e.length.toUInt8 :: e)
               else .error .assertionError

/-- `SOCKS5._destination_bytes` with the repair `fixes/F27-socks5-scoped-ipv6.diff`: RFC 1928
    has no field for a zone, so a scoped IPv6 destination is refused -/
def socks5DestinationBytes (h : Host) (port : Nat) : Except PyExc Bytes :=
  let addr : Except PyExc Bytes :=
    match h with
    | .ipv4 b => .ok (1 :: b.toList)
    | .ipv6 b => .ok (4 :: b.toList)
    | .ipv6z _ => .error .socksProtocolError
    | .name s =>
      match utf8 s with
      | .error e => .error e
      | .ok e => if e.length ≤ 255 then .ok (3 :: e.length.toUInt8 :: e)
                 else .error .assertionError
  match addr with
  | .error e => .error e
  | .ok a =>
    match packH port with
    | .error e => .error e
    | .ok p => .ok (a ++ p)

/-- the whole pinned `_destination_bytes` -/
def socks5DestinationBytesPinned (h : Host) (port : Nat) : Except PyExc Bytes :=
  match socks5AddrBytesPinned h with
  | .error e => .error e
  | .ok a =>
    match packH port with
    | .error e => .error e
    | .ok p => .ok (a ++ p)

/-- `SOCKS5._authentication` : (RFC 1929 message, offered methods) -/
def socks5Authentication : Auth → Except PyExc (Bytes × List UInt8)
  | none => .ok ([], [0])
  | some (u, p) =>
    match utf8 u with
    | .error e => .error e
    | .ok ub =>
      if !(0 < ub.length && ub.length < 256) then .error .socksProtocolError
      else
        match utf8 p with
        | .error e => .error e
        | .ok pb =>
          if !(0 < pb.length && pb.length < 256) then .error .socksProtocolError
          else .ok ([1, ub.length.toUInt8] ++ ub ++ [pb.length.toUInt8] ++ pb, [0, 2])

/-- `SOCKS5._start`: the greeting -/
def socks5Greeting (methods : List UInt8) : Bytes :=
  5 :: methods.length.toUInt8 :: methods

/-- `SOCKS5._request_connection` -/
def socks5Connect (dst : Bytes) : Bytes := [5, 1, 0] ++ dst

/-! ## the protocol objects -/

/-- what `__init__` leaves in the object -/
inductive Cfg where
  | s4 (h : Host) (port : Nat) (a : Auth)
  | s5 (dst : Bytes) (authBytes : Bytes) (methods : List UInt8)
  deriving DecidableEq

/-- `protocol(remote_address, auth)` (repaired `SOCKS4.__init__`) -/
def mkCfg (p : Proto) (h : Host) (port : Nat) (a : Auth) : Except PyExc Cfg :=
  match p with
  | .socks5 =>
    match socks5DestinationBytes h port with
    | .error e => .error e
    | .ok dst =>
      match socks5Authentication a with
      | .error e => .error e
      | .ok (ab, ms) => .ok (.s5 dst ab ms)
  | _ =>
    match socks4Init p h a with
    | .error e => .error e
    | .ok () => .ok (.s4 h port a)

/-- the same with the pinned `SOCKS4.__init__` -/
def mkCfgPinned (p : Proto) (h : Host) (port : Nat) (a : Auth) : Except PyExc Cfg :=
  match p with
  | .socks5 => mkCfg p h port a
  | _ =>
    match socks4InitPinned p h a with
    | .error e => .error e
    | .ok () => .ok (.s4 h port a)

def Cfg.methods : Cfg → List UInt8
  | .s5 _ _ m => m
  | .s4 .. => []

def Cfg.authBytes : Cfg → Bytes
  | .s5 _ ab _ => ab
  | .s4 .. => []

def Cfg.dst : Cfg → Bytes
  | .s5 d _ _ => d
  | .s4 .. => []

/-- `self._state` -/
inductive St where
  | start
  | first4
  | first5
  | authResp
  | connect
  | rest (addrLen : Nat)
  deriving DecidableEq, Repr

structure Client where
  cfg : Cfg
  st : St
  buf : Bytes
  deriving DecidableEq

def Client.init (cfg : Cfg) : Client := ⟨cfg, .start, []⟩

/-- result of one `next_message()` call -/
inductive Res where
  | msg (b : Bytes)        -- bytes to send
  | fin                    -- `None`: handshake complete
  | need (k : Nat)         -- `NeedData(k)` raised
  | raise (e : PyExc)
  deriving DecidableEq, Repr

/-- `SOCKSBase._read`: `Except.error k` is `NeedData(k)`; nothing changes in that case -/
def Client.read (c : Client) (size : Nat) : Except Nat (Bytes × Client) :=
  if c.buf.length < size then .error (size - c.buf.length)
  else .ok (c.buf.take size, { c with buf := c.buf.drop size })

/-- `SOCKSBase.receive_data` -/
def Client.receiveData (c : Client) (d : Bytes) : Client := { c with buf := c.buf ++ d }

def byteAt (d : Bytes) (i : Nat) : UInt8 := d.getD i 0

/-- `data = self._read(size)` followed by the rest of the method: `NeedData` propagates
    out of `next_message()` with nothing changed -/
def withRead (c : Client) (size : Nat) (f : Bytes → Client → Client × Res) : Client × Res :=
  match c.read size with
  | .error k => (c, .need k)
  | .ok (d, c') => f d c'

/-- `SOCKS5._connect_response_rest(addr_len)` -/
def restStep (c : Client) (addrLen : Nat) : Client × Res :=
  withRead c (addrLen + 2) fun _ c' => (c', .fin)

/-- `SOCKS5._request_connection` -/
def requestConnection (c : Client) : Client × Res :=
  ({ c with st := .connect }, .msg (socks5Connect c.cfg.dst))

/-- `SOCKS4._first_response` after the read -/
def first4Body (d : Bytes) (c' : Client) : Client × Res :=
  if byteAt d 0 != 0 then (c', .raise .socksProtocolError)
  else if byteAt d 1 != 90 then (c', .raise .socksFailure)
  else (c', .fin)

/-- `SOCKS5._first_response` after the read -/
def first5Body (d : Bytes) (c' : Client) : Client × Res :=
  if byteAt d 0 != 5 then (c', .raise .socksProtocolError)
  else if !(c'.cfg.methods.contains (byteAt d 1)) then (c', .raise .socksFailure)
  else if byteAt d 1 == 2 then ({ c' with st := .authResp }, .msg c'.cfg.authBytes)
  else requestConnection c'

/-- `SOCKS5._auth_response` after the read -/
def authBody (d : Bytes) (c' : Client) : Client × Res :=
  if byteAt d 0 != 1 then (c', .raise .socksProtocolError)
  else if byteAt d 1 != 0 then (c', .raise .socksFailure)
  else requestConnection c'

/-- `addr_len` of `SOCKS5._connect_response` -/
def addrLenOf (atyp len : UInt8) : Nat :=
  if atyp == 1 then 3 else if atyp == 3 then len.toNat else 15

/-- `SOCKS5._connect_response` after the read -/
def connectBody (d : Bytes) (c' : Client) : Client × Res :=
  if byteAt d 0 != 5 || byteAt d 2 != 0
      || !(byteAt d 3 == 1 || byteAt d 3 == 3 || byteAt d 3 == 4) then
    (c', .raise .socksProtocolError)
  else if byteAt d 1 != 0 then (c', .raise .socksFailure)
  else
    -- `self._state = partial(self._connect_response_rest, addr_len); return self.next_message()`
    restStep { c' with st := .rest (addrLenOf (byteAt d 3) (byteAt d 4)) }
      (addrLenOf (byteAt d 3) (byteAt d 4))

/-- `SOCKS4._start` / `SOCKS5._start` -/
def startStep (c : Client) : Client × Res :=
  match c.cfg with
  | .s4 h port a =>
    -- `self._state = self._first_response` is the first statement
    match socks4Start h port a with
    | .ok b => ({ c with st := .first4 }, .msg b)
    | .error e => ({ c with st := .first4 }, .raise e)
  | .s5 _ _ methods => ({ c with st := .first5 }, .msg (socks5Greeting methods))

/-- `next_message()` = `self._state()`.  As in the code, a step that raises leaves `_state`
    where it was but has consumed the bytes it read. -/
def nextMessage (c : Client) : Client × Res :=
  match c.st with
  | .start => startStep c
  | .first4 => withRead c 8 first4Body
  | .first5 => withRead c 2 first5Body
  | .authResp => withRead c 2 authBody
  | .connect => withRead c 5 connectBody
  | .rest n => restStep c n

/-! ## the socket and `SOCKSProxy._handshake` -/

/-- the proxy side of the socket: the reply bytes not yet received, and how many `recv`
    calls were made (index into the segmentation oracle) -/
structure Sock where
  stream : Bytes
  idx : Nat

/-- number of bytes a `recv(k)` returns when `avail ≥ 1` bytes are still to come and the
    oracle proposes `want`: anything in `[1, min k avail]` -/
def clamp (want k avail : Nat) : Nat := max 1 (min want (min k avail))

/-- what `_handshake` did -/
structure Run where
  /-- `none`: returned normally; `some e`: `e` escaped -/
  outcome : Option PyExc
  /-- arguments of the `sock_sendall` calls, in order -/
  sent : List Bytes
  /-- reply bytes never received (left on the socket) -/
  unread : Bytes
  /-- (bytes requested, bytes returned) of every `sock_recv`, in order; returned 0 = EOF -/
  recvs : List (Nat × Nat)
  deriving DecidableEq, Repr

/-- bytes the parser step in state `st` reads in total -/
def St.size : St → Nat
  | .start => 0
  | .first4 => 8
  | .first5 => 2
  | .authResp => 2
  | .connect => 5
  | .rest n => n + 2

def St.rank : St → Nat
  | .start => 4
  | .first5 => 3
  | .authResp => 2
  | .connect => 1
  | .first4 => 0
  | .rest _ => 0

/-- termination measure of the driver loop: (parser stage, bytes the stage still misses) -/
def Client.measure (c : Client) : Nat × Nat := (c.st.rank, c.st.size - c.buf.length)

theorem withRead_cases (c : Client) (size : Nat) (f : Bytes → Client → Client × Res) :
    (c.buf.length < size ∧ withRead c size f = (c, .need (size - c.buf.length))) ∨
    (size ≤ c.buf.length ∧
      withRead c size f = f (c.buf.take size) { c with buf := c.buf.drop size }) := by
  unfold withRead Client.read
  by_cases h : c.buf.length < size
  · left; simp [h]
  · right; simp [h]; omega

theorem read_cfg_st (c : Client) (size : Nat) :
    ({ c with buf := c.buf.drop size } : Client).cfg = c.cfg ∧
    ({ c with buf := c.buf.drop size } : Client).st = c.st := ⟨rfl, rfl⟩

/-- what the driver loop's termination needs of one `next_message()` step from `c`: a message
    moves the parser on; `NeedData(k)` asks for exactly what the parser step now current still
    misses, and that step is the old one unchanged or a later one -/
def StepOk (c : Client) : Client × Res → Prop
  | (c', .msg _) => c'.st.rank < c.st.rank
  | (c', .need k) => c'.buf.length < c'.st.size ∧ k = c'.st.size - c'.buf.length ∧
      (c'.st.rank < c.st.rank ∨ c' = c)
  | _ => True

theorem withRead_step {c0 c : Client} {size : Nat} {f : Bytes → Client → Client × Res}
    (hs : c.st.size = size) (hc : c.st.rank < c0.st.rank ∨ c = c0)
    (hf : size ≤ c.buf.length →
      StepOk c0 (f (c.buf.take size) { c with buf := c.buf.drop size })) :
    StepOk c0 (withRead c size f) := by
  rcases withRead_cases c size f with ⟨h1, h2⟩ | ⟨h1, h2⟩ <;> rw [h2]
  · exact ⟨hs ▸ h1, hs ▸ rfl, hc⟩
  · exact hf h1

theorem nextMessage_step (c : Client) : StepOk c (nextMessage c) := by
  obtain ⟨cfg, st, buf⟩ := c
  cases st <;> unfold nextMessage <;> dsimp only
  · unfold startStep
    dsimp only
    split
    · split <;> simp [StepOk, St.rank]
    · simp [StepOk, St.rank]
  · refine withRead_step rfl (.inr rfl) fun _ => ?_
    fun_cases first4Body <;> trivial
  · refine withRead_step rfl (.inr rfl) fun _ => ?_
    fun_cases first5Body <;> first | trivial | simp [StepOk, requestConnection, St.rank]
  · refine withRead_step rfl (.inr rfl) fun _ => ?_
    fun_cases authBody <;> first | trivial | simp [StepOk, requestConnection, St.rank]
  · refine withRead_step rfl (.inr rfl) fun _ => ?_
    fun_cases connectBody
    · trivial
    · trivial
    · -- `_connect_response` hands over to `_connect_response_rest` and calls it at once
      exact withRead_step rfl (.inl Nat.zero_lt_one) fun _ => trivial
  · exact withRead_step rfl (.inr rfl) fun _ => trivial

theorem nextMessage_msg_rank {c c' : Client} {b : Bytes} (h : nextMessage c = (c', .msg b)) :
    c'.st.rank < c.st.rank := by
  have := nextMessage_step c
  rwa [h] at this

/-- `NeedData(k)` out of `next_message()`: `k` is positive, it is exactly what the current
    parser step still misses, and the only state change can be `_connect_response` handing
    over to `_connect_response_rest` -/
theorem nextMessage_need {c c' : Client} {k : Nat} (h : nextMessage c = (c', .need k)) :
    c'.buf.length < c'.st.size ∧ k = c'.st.size - c'.buf.length ∧
      (c'.st.rank < c.st.rank ∨ c' = c) := by
  have := nextMessage_step c
  rwa [h] at this

/-- `SOCKSProxy._handshake(client, sock, loop)`.  `oracle i` proposes the size of the segment
    the `i`-th `sock_recv` returns (clamped to `[1, min requested available]`); `recv` on an
    exhausted stream returns `b''` (EOF).  `if count:` is the `need` branch: `NeedData`'s
    argument is always positive (`nextMessage_need`). -/
def handshake (oracle : Nat → Nat) (c : Client) (s : Sock) : Run :=
  match h : nextMessage c with
  | (_, .raise e) => ⟨some e, [], s.stream, []⟩
  | (_, .fin) => ⟨none, [], s.stream, []⟩
  | (c', .msg b) =>
    let r := handshake oracle c' s
    { r with sent := b :: r.sent }
  | (c', .need k) =>
    if hne : s.stream.isEmpty then ⟨some .socksProtocolError, [], [], [(k, 0)]⟩
    else
      let n := clamp (oracle s.idx) k s.stream.length
      let r := handshake oracle (c'.receiveData (s.stream.take n)) ⟨s.stream.drop n, s.idx + 1⟩
      { r with recvs := (k, n) :: r.recvs }
termination_by c.measure
decreasing_by
  · have := nextMessage_msg_rank h
    exact Prod.Lex.left _ _ this
  · obtain ⟨h1, h2, h3⟩ := nextMessage_need h
    rcases h3 with h3 | h3
    · exact Prod.Lex.left _ _ h3
    · subst h3
      simp only [Client.measure, Client.receiveData]
      apply Prod.Lex.right
      have hpos : 0 < s.stream.length := by
        cases hs : s.stream with
        | nil => simp [hs] at hne
        | cons a t => simp
      have : 1 ≤ clamp (oracle s.idx) k s.stream.length ∧
          clamp (oracle s.idx) k s.stream.length ≤ s.stream.length := by
        unfold clamp; omega
      simp [List.length_take]
      omega

/-! ## driving a protocol object by hand (as the repo's tests do): chunks of any size are
    pushed with `receive_data` whenever `next_message()` raises `NeedData` -/

/-- observable results of the successive `next_message()` calls -/
def driveObject : (fuel : Nat) → Client → List Bytes → List Res
  | 0, _, _ => []
  | fuel + 1, c, chunks =>
    match nextMessage c with
    | (_, .raise e) => [.raise e]
    | (_, .fin) => [.fin]
    | (c', .msg b) => .msg b :: driveObject fuel c' chunks
    | (c', .need k) =>
      match chunks with
      | [] => [.need k]
      | d :: ds => .need k :: driveObject fuel (c'.receiveData d) ds

/-! ## `_connect_one`, `_detect_proxy` -/

/-- one `getaddrinfo` entry tried by `_connect_one`: `socket.socket(family)` raises `OSError`
    (outside the `try`), `sock_connect` raises `OSError`, the peer answers with a reply stream
    delivered under some segmentation, or it does so and `sock.getpeername()` then raises
    `OSError` -/
inductive Attempt where
  | connectFails
  | talks (stream : Bytes) (oracle : Nat → Nat)
  | socketFails
  | peernameFails (stream : Bytes) (oracle : Nat → Nat)

inductive OneRes where
  | sock (attempt : Nat) (unread : Bytes)   -- returned the open socket of attempt number ..
  | returned (e : PyExc)                    -- returned the last exception object
  | escaped (e : PyExc)                     -- an exception propagated out of `_connect_one`
  deriving DecidableEq, Repr

/-- `except (OSError, SOCKSError)` -/
def isCaught : PyExc → Bool
  | .osError | .socksProtocolError | .socksFailure => true
  | _ => false

/-- `SOCKSProxy._connect_one`; `mk` is the result of `self.protocol(remote_address, self.auth)`,
    which is evaluated outside the `try` for every entry (a **fresh** protocol object per
    entry), as is `socket.socket(family=info[0])` -/
def connectOne (mk : Except PyExc Cfg) : List Attempt → Nat → Option PyExc → OneRes
  | [], _, some e => .returned e
  | [], _, none => .escaped .unboundLocalError
  | a :: as, i, _ =>
    match mk with
    | .error e => .escaped e
    | .ok cfg =>
      match a with
      | .socketFails => .escaped .osError
      | .connectFails => connectOne mk as (i + 1) (some .osError)
      | .talks s o =>
        let r := handshake o (Client.init cfg) ⟨s, 0⟩
        match r.outcome with
        | none => .sock i r.unread
        | some e => if isCaught e then connectOne mk as (i + 1) (some e) else .escaped e
      | .peernameFails s o =>
        let r := handshake o (Client.init cfg) ⟨s, 0⟩
        match r.outcome with
        | none => connectOne mk as (i + 1) (some .osError)   -- `getpeername()` raised
        | some e => if isCaught e then connectOne mk as (i + 1) (some e) else .escaped e

/-- what the proxy received on the connection each tried entry opened (`none`: no connection
    was made), in the order tried - the bytes C16 is about at the level of `_connect_one` -/
def connectOneSent (mk : Except PyExc Cfg) : List Attempt → List (Option (List Bytes))
  | [] => []
  | a :: as =>
    match mk with
    | .error _ => []
    | .ok cfg =>
      match a with
      | .socketFails => [none]
      | .connectFails => none :: connectOneSent mk as
      | .talks s o =>
        let r := handshake o (Client.init cfg) ⟨s, 0⟩
        match r.outcome with
        | none => [some r.sent]
        | some e => if isCaught e then some r.sent :: connectOneSent mk as else [some r.sent]
      | .peernameFails s o =>
        let r := handshake o (Client.init cfg) ⟨s, 0⟩
        match r.outcome with
        | none => some r.sent :: connectOneSent mk as
        | some e => if isCaught e then some r.sent :: connectOneSent mk as else [some r.sent]

def vec4 (a b c d : UInt8) : Vector UInt8 4 := ⟨#[a, b, c, d], rfl⟩

/-- code points of `'www.apple.com'` -/
def wwwAppleCom : List Nat := [119, 119, 119, 46, 97, 112, 112, 108, 101, 46, 99, 111, 109]

/-- `SOCKSProxy._detect_proxy` -/
def detectProxy (p : Proto) (a : Auth) (attempts : List Attempt) : Except PyExc Bool :=
  let mk := if p = .socks4a then mkCfg p (.name wwwAppleCom) 80 a
            else mkCfg p (.ipv4 (vec4 8 8 8 8)) 53 a
  match connectOne mk attempts 0 none with
  | .sock _ _ => .ok true
  | .returned e => .ok (e == .socksFailure)
  | .escaped e => .error e

/-! ## `_connect` : one `_connect_one` per remote address -/

/-- what `_connect_one(remote_address)` gave, as `_connect` sees it.  `reprId` stands for
    `repr(exception)`: only equality of reprs matters. -/
inductive AddrOutcome where
  | sock (unread : Bytes)
  | exc (e : PyExc) (reprId : Nat)
  | escaped (e : PyExc)
  deriving DecidableEq, Repr

inductive ConnectRes where
  | connected (addrIndex : Nat) (unread : Bytes)
  | raised (e : PyExc)
  deriving DecidableEq, Repr

def isSocksError : PyExc → Bool
  | .socksProtocolError | .socksFailure => true
  | _ => false

/-- the final `raise` of `_connect` **as on the pinned tree** (finding F28): differing reprs
    give a bare `OSError`, also when every attempt failed at SOCKS level -/
def aggregatePinned : List (PyExc × Nat) → PyExc
  | [] => .assertionError
  | (e, r) :: rest => if rest.all (fun x => x.2 == r) then e else .osError

/-- the final `raise` of `_connect` with the repair `fixes/F28-connect-socks-error.diff`: when
    every collected exception is a `SOCKSError` the aggregate is one too (`SOCKSFailure` if
    all are refusals, else `SOCKSProtocolError`); `OSError` only if some attempt failed at
    socket level -/
def aggregate : List (PyExc × Nat) → PyExc
  | [] => .assertionError
  | (e, r) :: rest =>
    if rest.all (fun x => x.2 == r) then e
    else if ((e, r) :: rest).all (fun x => isSocksError x.1) then
      (if ((e, r) :: rest).all (fun x => x.1 == .socksFailure) then .socksFailure
       else .socksProtocolError)
    else .osError

/-- the `for` loop of `_connect` (with the exceptions collected so far, in order) and the final
    `raise`, parameterised by the aggregation -/
def connectLoopWith (agg : List (PyExc × Nat) → PyExc) :
    List AddrOutcome → Nat → List (PyExc × Nat) → ConnectRes
  | [], _, acc => .raised (agg acc)          -- `[]`: `assert remote_addresses`
  | .sock u :: _, i, _ => .connected i u
  | .escaped e :: _, _, _ => .raised e
  | .exc e r :: as, i, acc => connectLoopWith agg as (i + 1) (acc ++ [(e, r)])

def connectLoop := connectLoopWith aggregate

/-- `SOCKSProxy._connect(remote_addresses)` (repaired) -/
def connect (outcomes : List AddrOutcome) : ConnectRes := connectLoop outcomes 0 []

/-- `SOCKSProxy._connect(remote_addresses)` on the pinned tree -/
def connectPinned (outcomes : List AddrOutcome) : ConnectRes :=
  connectLoopWith aggregatePinned outcomes 0 []

/-- how `_connect` sees the result of one `_connect_one` (`reprId` 0: a single address) -/
def OneRes.toAddr : OneRes → AddrOutcome
  | .sock _ u => .sock u
  | .returned e => .exc e 0
  | .escaped e => .escaped e

/-- `create_connection(factory, host, port)` with `resolve=False` (one remote address) as far
    as the proxy is concerned: `_connect([address])` over `_connect_one(address)` -/
def createConnection1 (mk : Except PyExc Cfg) (attempts : List Attempt) : ConnectRes :=
  connect [(connectOne mk attempts 0 none).toAddr]

end Aiorpcx.Socks
