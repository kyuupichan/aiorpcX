import Aiorpcx.C16.Parse
import Aiorpcx.C16.Utf8
import Aiorpcx.Facts.C16
/-!
# C16 — SOCKS requests are byte-exact per SOCKS4, SOCKS4a, RFC 1928 and RFC 1929

Model: `Aiorpcx.Socks` (`C16/Model.lean`, mirrors `socks.py`): `mkCfg p host port auth` is the
constructor call `protocol(NetAddress(host, port), auth)`, `firstMessage` / `nextMessage` the
successive `next_message()` calls.  SPEC: the *server-side* parsers of `C16/Spec.lean`, written
from the protocol documents.  Every theorem is quantified over **all** addresses, ports below
65536 (`NetAddress` only produces 1..65535), host names and credentials; no bound.

Credentials are lists of code points.  `utf8 u = .ok ub` says "the string has a UTF-8 form",
i.e. it holds no lone surrogate; for such strings `str.encode()` raises `UnicodeEncodeError`
(`surrogate_credentials_witness`, reported as a secondary finding, outside "any Unicode").
-/
namespace Aiorpcx.C16
open Aiorpcx.Socks

/-- result of the first `next_message()` of a fresh protocol object -/
def firstMessage (cfg : Cfg) : Res := (nextMessage (Client.init cfg)).2

/-- Hypothesis tied to **C18**: what `NetAddress` lets through as a host name is at most 254
    characters (253 + an optional trailing dot) of ASCII, none of them NUL. -/
def ValidHostName (s : List Nat) : Prop := s.length ≤ 254 ∧ ∀ c ∈ s, c < 128 ∧ c ≠ 0

theorem validHost_utf8 {s : List Nat} (h : ValidHostName s) :
    utf8 s = .ok (s.map Nat.toUInt8) ∧ (s.map Nat.toUInt8).length ≤ 255 ∧
      (0 : UInt8) ∉ s.map Nat.toUInt8 := by
  have h1 := utf8_ascii s (fun c hc => (h.2 c hc).1)
  refine ⟨h1, by simp; have := h.1; omega, ?_⟩
  exact utf8_no_nul h1 (fun h0 => (h.2 0 h0).2 rfl)

theorem firstMessage_s4 (h : Host) (port : Nat) (a : Auth) (b : Bytes)
    (hs : socks4Start h port a = .ok b) : firstMessage (.s4 h port a) = .msg b := by
  simp [firstMessage, nextMessage, Client.init, startStep, hs]

theorem userBytes_no_nul {a : Auth} {ub : Bytes} (hu : userBytes a = .ok ub)
    (hnul : userHasNul a = false) : (0 : UInt8) ∉ ub := by
  cases a with
  | none => cases hu; exact List.not_mem_nil
  | some up => exact utf8_no_nul hu (by simpa [userHasNul] using hnul)

/-- the request for an IPv4 destination, as a SOCKS4 server reads it and as a SOCKS4a server
    (`e`) does when the address is not one of its markers -/
theorem socks4_ipv4_request (e : Bool) (ip : Vector UInt8 4) (port : Nat) (a : Auth) (ub : Bytes)
    (hport : port < 65536) (hu : userBytes a = .ok ub) (hnul : userHasNul a = false)
    (hm : e = true → isMarker ip = false) :
    ∃ msg, firstMessage (.s4 (.ipv4 ip) port a) = .msg msg ∧
      Spec.parseSocks4Request e msg = some (⟨4, 1, port, ip.toList, ub, none⟩, []) := by
  refine ⟨_, firstMessage_s4 _ _ _ _ (socks4Start_ipv4 ip port a ub hport hu), ?_⟩
  rw [parse4_ipv4 e 4 1 _ _ ip ub [] (userBytes_no_nul hu hnul) hm, be16_pack hport]

/-- **SOCKS4, IPv4 destination.**  For every IPv4 address, port and user id without NUL (or no
    credentials: empty user id) the constructor accepts, and a SOCKS4 server parsing the first
    message reads exactly version 4, command 1 (CONNECT), the port, the address and the user
    id, and consumes every byte. -/
theorem socks4_parse (ip : Vector UInt8 4) (port : Nat) (a : Auth) (ub : Bytes)
    (hport : port < 65536) (hu : userBytes a = .ok ub) (hnul : userHasNul a = false) :
    mkCfg .socks4 (.ipv4 ip) port a = .ok (.s4 (.ipv4 ip) port a) ∧
    ∃ msg, firstMessage (.s4 (.ipv4 ip) port a) = .msg msg ∧
      Spec.parseSocks4Request false msg = some (⟨4, 1, port, ip.toList, ub, none⟩, []) :=
  ⟨by simp [mkCfg, socks4Init, hnul, checkRemoteHost],
   socks4_ipv4_request false ip port a ub hport hu hnul nofun⟩

example : ∃ ip port a ub, port < 65536 ∧ userBytes a = .ok ub ∧ userHasNul a = false ∧
    ub = [0xC3, 0xA9] ∧ mkCfg .socks4 (.ipv4 ip) port a = .ok (.s4 (.ipv4 ip) port a) :=
  ⟨vec4 1 2 3 4, 80, some ([0xE9], [112]), [0xC3, 0xA9], by decide, by decide, by decide, rfl,
   by decide⟩

/-- **SOCKS4a, host name.**  Address 0.0.0.1, then the user id and the NUL-terminated host name;
    a SOCKS4a server recovers both.  `ValidHostName` is the C18 hypothesis (a host name cannot
    contain NUL because `NetAddress` validated it). -/
theorem socks4a_parse (s : List Nat) (port : Nat) (a : Auth) (ub : Bytes)
    (hport : port < 65536) (hu : userBytes a = .ok ub) (hnul : userHasNul a = false)
    (hs : ValidHostName s) :
    mkCfg .socks4a (.name s) port a = .ok (.s4 (.name s) port a) ∧
    ∃ msg, firstMessage (.s4 (.name s) port a) = .msg msg ∧
      Spec.parseSocks4Request true msg =
        some (⟨4, 1, port, [0, 0, 0, 1], ub, some (s.map Nat.toUInt8)⟩, []) := by
  refine ⟨by simp [mkCfg, socks4Init, hnul, checkRemoteHost], ?_⟩
  obtain ⟨h1, _, h3⟩ := validHost_utf8 hs
  refine ⟨_, firstMessage_s4 _ _ _ _ (socks4Start_name s port a ub _ hport hu h1), ?_⟩
  have := parse4a_marker 4 1 (port / 256).toUInt8 (port % 256).toUInt8 1 ub _ []
    (userBytes_no_nul hu hnul) h3 (by decide)
  rw [be16_pack hport] at this
  simpa using this

example : ValidHostName wwwAppleCom := by
  refine ⟨by decide, ?_⟩
  decide

theorem mkCfg_socks4a_ipv4 (ip : Vector UInt8 4) (port : Nat) (a : Auth) (cfg : Cfg) :
    mkCfg .socks4a (.ipv4 ip) port a = .ok cfg ↔
      isMarker ip = false ∧ userHasNul a = false ∧ cfg = .s4 (.ipv4 ip) port a := by
  cases hn : userHasNul a <;> cases hm : isMarker ip <;>
    simp [mkCfg, socks4Init, hn, checkRemoteHost, hm, eq_comm]

/-- which IPv4 destinations the (repaired) SOCKS4a constructor takes: all but the marker
    addresses 0.0.0.x, x ≠ 0 (and, as for SOCKS4, no NUL in the user id) -/
theorem socks4a_ipv4_accepts_iff (ip : Vector UInt8 4) (port : Nat) (a : Auth) :
    (∃ cfg, mkCfg .socks4a (.ipv4 ip) port a = .ok cfg) ↔
      (isMarker ip = false ∧ userHasNul a = false) := by
  simp only [mkCfg_socks4a_ipv4, exists_and_left, exists_eq, and_true]

/-- **SOCKS4a, IPv4 destination**: whenever the constructor accepts, the request is the plain
    SOCKS4 form and a SOCKS4a server - parsing **with** the 4a extension - reads exactly that
    destination.  (F26, repaired: the addresses 0.0.0.x, x ≠ 0, which SOCKS4A.protocol reserves
    as the host-name marker, are refused: `rejects_inexpressible`;
    `socks4a_marker_fails_pinned` keeps the pinned-tree counter-example.) -/
theorem socks4a_ipv4_parse (ip : Vector UInt8 4) (port : Nat) (a : Auth) (ub : Bytes) (cfg : Cfg)
    (hport : port < 65536) (hu : userBytes a = .ok ub)
    (hc : mkCfg .socks4a (.ipv4 ip) port a = .ok cfg) :
    cfg = .s4 (.ipv4 ip) port a ∧
    ∃ msg, firstMessage cfg = .msg msg ∧
      Spec.parseSocks4Request true msg = some (⟨4, 1, port, ip.toList, ub, none⟩, []) := by
  obtain ⟨hmk, hnul, rfl⟩ := (mkCfg_socks4a_ipv4 ip port a cfg).1 hc
  exact ⟨rfl, socks4_ipv4_request true ip port a ub hport hu hnul fun _ => hmk⟩

example : ∃ cfg, mkCfg .socks4a (.ipv4 (vec4 0 0 0 0)) 80 none = .ok cfg :=
  (socks4a_ipv4_accepts_iff _ _ _).2 ⟨by decide, by decide⟩

theorem mkCfg_socks5_ok {h : Host} {port : Nat} {a : Auth} {cfg : Cfg}
    (hc : mkCfg .socks5 h port a = .ok cfg) :
    ∃ dst ab ms, cfg = .s5 dst ab ms ∧ socks5DestinationBytes h port = .ok dst ∧
      socks5Authentication a = .ok (ab, ms) := by
  unfold mkCfg at hc
  simp only at hc
  split at hc
  · simp at hc
  · rename_i dst hd
    split at hc
    · simp at hc
    · rename_i ab ms ha
      simp at hc
      exact ⟨dst, ab, ms, hc.symm, hd, ha⟩

theorem socks5Authentication_ok {a : Auth} {ab : Bytes} {ms : List UInt8}
    (h : socks5Authentication a = .ok (ab, ms)) :
    (a = none ∧ ab = [] ∧ ms = [0]) ∨
    ∃ u p ub pb, a = some (u, p) ∧ utf8 u = .ok ub ∧ utf8 p = .ok pb ∧
      0 < ub.length ∧ ub.length < 256 ∧ 0 < pb.length ∧ pb.length < 256 ∧ ms = [0, 2] ∧
      ab = [1, ub.length.toUInt8] ++ ub ++ [pb.length.toUInt8] ++ pb := by
  revert h
  fun_cases socks5Authentication a
  case case1 => rintro ⟨⟩; exact .inl ⟨rfl, rfl, rfl⟩
  case case6 u p ub hu hlu pb hp hlp =>
    rintro ⟨⟩
    simp only [Bool.not_eq_true, Bool.not_eq_false', Bool.and_eq_true, decide_eq_true_eq]
      at hlu hlp
    exact .inr ⟨u, p, ub, pb, rfl, hu, hp, hlu.1, hlu.2, hlp.1, hlp.2, rfl, rfl⟩
  all_goals rintro ⟨⟩

/-- **Greeting.**  Whenever the constructor accepts, the first message is an RFC 1928 greeting
    offering exactly "no authentication" — and "username/password" too only when credentials
    were given. -/
theorem socks5_greeting (h : Host) (port : Nat) (a : Auth) (cfg : Cfg)
    (hc : mkCfg .socks5 h port a = .ok cfg) :
    ∃ g, firstMessage cfg = .msg g ∧
      Spec.parseGreeting g = some (5, (if a.isSome then [0, 2] else [0]), []) := by
  obtain ⟨dst, ab, ms, rfl, _, ha⟩ := mkCfg_socks5_ok hc
  refine ⟨socks5Greeting ms, rfl, ?_⟩
  rcases socks5Authentication_ok ha with ⟨rfl, _, rfl⟩ | ⟨_, _, _, _, rfl, _, _, _, _, _, _, rfl, _⟩ <;>
    rfl

example : mkCfg .socks5 (.ipv4 (vec4 8 8 8 8)) 53 (some ([117], [112])) =
    .ok (.s5 [1, 8, 8, 8, 8, 0, 53] [1, 1, 117, 1, 112] [0, 2]) := by decide

/-- **RFC 1929 message.**  With credentials the constructor accepts exactly when both encode
    to 1..255 bytes, and the stored credential message parses back to version 1, the user name
    and the password, nothing left over. -/
theorem socks5_auth_parse (h : Host) (port : Nat) (u p : List Nat) (cfg : Cfg)
    (hc : mkCfg .socks5 h port (some (u, p)) = .ok cfg) :
    ∃ ub pb, utf8 u = .ok ub ∧ utf8 p = .ok pb ∧
      1 ≤ ub.length ∧ ub.length ≤ 255 ∧ 1 ≤ pb.length ∧ pb.length ≤ 255 ∧
      Spec.parseUserPass cfg.authBytes = some (1, ub, pb, []) := by
  obtain ⟨dst, ab, ms, rfl, _, ha⟩ := mkCfg_socks5_ok hc
  obtain ⟨⟨⟩, _⟩ | ⟨_, _, ub, pb, ⟨⟩, hu, hp, h1, h2, h3, h4, _, rfl⟩ := socks5Authentication_ok ha
  refine ⟨ub, pb, hu, hp, h1, Nat.le_of_lt_succ h2, h3, Nat.le_of_lt_succ h4, ?_⟩
  simpa [Cfg.authBytes] using parseUserPass_msg ub pb [] h2 h4

/-- ... and the *strings* come back: a server that parses the RFC 1929 message and decodes
    the two fields as UTF-8 (RFC 3629) obtains exactly the user name and password given. -/
theorem socks5_auth_strings (h : Host) (port : Nat) (u p : List Nat) (cfg : Cfg)
    (hc : mkCfg .socks5 h port (some (u, p)) = .ok cfg) :
    ∃ ub pb, Spec.parseUserPass cfg.authBytes = some (1, ub, pb, []) ∧
      Spec.decodeUtf8 (ub.length + 1) ub = some u ∧ Spec.decodeUtf8 (pb.length + 1) pb = some p := by
  obtain ⟨ub, pb, hu, hp, _, _, _, _, hparse⟩ := socks5_auth_parse h port u p cfg hc
  exact ⟨ub, pb, hparse, (utf8_decode_iff u ub).2 hu, (utf8_decode_iff p pb).2 hp⟩

/-- **The credential message is sent only if the proxy selected method 2** (and only when
    credentials exist).  For a SOCKS5 object waiting for the method-selection reply with the two
    reply bytes `v m` buffered: the next message is the credential message (and the
    object moves on to expect the RFC 1929 status) iff the reply is `05 02` and method 2 was
    offered; in every other case the object either raises or goes straight to CONNECT. -/
theorem socks5_auth_only_if_selected (h : Host) (port : Nat) (a : Auth) (cfg : Cfg)
    (hc : mkCfg .socks5 h port a = .ok cfg) (v m : UInt8) :
    let r := nextMessage ⟨cfg, .first5, [v, m]⟩
    ((r.1.st = .authResp ∧ r.2 = .msg cfg.authBytes) ↔ (v = 5 ∧ m = 2 ∧ a.isSome)) ∧
    (r.1.st ≠ .authResp →
      r.2 = .raise .socksProtocolError ∨ r.2 = .raise .socksFailure ∨
      (r.2 = .msg (socks5Connect cfg.dst) ∧ v = 5 ∧ m = 0)) := by
  obtain ⟨dst, ab, ms, rfl, _, ha⟩ := mkCfg_socks5_ok hc
  have hr : nextMessage ⟨.s5 dst ab ms, .first5, [v, m]⟩ =
      first5Body [v, m] ⟨.s5 dst ab ms, .first5, []⟩ := rfl
  simp only [hr, first5Body, byteAt, List.getD_cons_zero, List.getD_cons_succ, Cfg.methods,
    Cfg.authBytes, Cfg.dst, requestConnection]
  rcases socks5Authentication_ok ha with ⟨rfl, _, rfl⟩ | ⟨_, _, _, _, rfl, _, _, _, _, _, _, rfl, _⟩
  · by_cases hv : v = 5
    · subst hv
      by_cases h0 : m = 0
      · subst h0; simp
      · simp [h0]
    · simp [hv]
  · by_cases hv : v = 5
    · subst hv
      by_cases h2 : m = 2
      · subst h2; simp
      · by_cases h0 : m = 0
        · subst h0; simp
        · simp [h2, h0]
    · simp [hv]

/-- **CONNECT.**  Whenever the constructor accepts, the CONNECT request parses (RFC 1928 §4) to
    version 5, command 1, reserved 0, the destination typed as IPv4 (4 octets) / domain name
    (the encoded name) / IPv6 (16 octets), and the port in network byte order; nothing is left
    over. -/
theorem socks5_connect_parse (h : Host) (port : Nat) (a : Auth) (cfg : Cfg)
    (hport : port < 65536) (hc : mkCfg .socks5 h port a = .ok cfg) :
    ∃ addr, Spec.parseConnect (socks5Connect cfg.dst) = some (⟨5, 1, 0, addr, port⟩, []) ∧
      match h with
      | .ipv4 ip => addr = .ipv4 ip.toList
      | .ipv6 ip => addr = .ipv6 ip.toList
      | .ipv6z _ => False      -- refused by the constructor (F27, repaired)
      | .name s => ∃ hb, utf8 s = .ok hb ∧ hb.length ≤ 255 ∧ addr = .domain hb := by
  obtain ⟨dst, ab, ms, rfl, hd, _⟩ := mkCfg_socks5_ok hc
  have hp : ∀ addr, Spec.takePort 5 1 0 addr [(port / 256).toUInt8, (port % 256).toUInt8] =
      some (⟨5, 1, 0, addr, port⟩, []) := fun addr => by rw [Spec.takePort, be16_pack hport]
  revert hd
  simp only [socks5DestinationBytes, packH_ok hport, Cfg.dst]
  cases h with
  | ipv4 ip => rintro ⟨⟩; exact ⟨_, (parseConnect_v4 ip _).trans (hp _), rfl⟩
  | ipv6 ip => rintro ⟨⟩; exact ⟨_, (parseConnect_v6 ip _).trans (hp _), rfl⟩
  | ipv6z ip => rintro ⟨⟩
  | name s =>
    dsimp only
    cases utf8 s with
    | error e => rintro ⟨⟩
    | ok hb =>
      dsimp only
      by_cases hl : hb.length ≤ 255
      · rw [if_pos hl]
        rintro ⟨⟩
        exact ⟨_, (parseConnect_name hb (Nat.lt_succ_of_le hl) _).trans (hp _), hb, rfl, hl, rfl⟩
      · rw [if_neg hl]
        rintro ⟨⟩

/-- a host name that passed `NetAddress` never trips `assert len(host) <= 255` -/
theorem socks5_valid_host_accepted (s : List Nat) (port : Nat) (hs : ValidHostName s)
    (hport : port < 65536) :
    ∃ dst, socks5DestinationBytes (.name s) port = .ok dst := by
  obtain ⟨h1, h2, _⟩ := validHost_utf8 hs
  simp only [socks5DestinationBytes, h1, packH_ok hport, h2, if_true]
  exact ⟨_, rfl⟩

/-- **Rejections.**  Each of these constructor calls raises `SOCKSProtocolError` (a
    `SOCKSError`); no protocol object exists, so nothing can be sent (in the model:
    `connectOne_ctor_raises`; on the real `_connect_one` / `create_connection`: the C16
    harness's proxy family and C17's `con` family, where a raising constructor leaves every
    fake connection without a byte).
    (1)–(3) destinations SOCKS4 / SOCKS4a cannot name (plain or zone-scoped IPv6, host names
    for SOCKS4); (4) F15, repaired: a user id containing NUL; (5)(6) RFC 1929 fields that do
    not encode to 1..255 bytes; (7) F26, repaired: the IPv4 destinations 0.0.0.x, x ≠ 0, which a
    SOCKS4a server reads as "host name follows"; (8) F27, repaired: a zone-scoped IPv6
    destination, for which RFC 1928 has no field. -/
theorem rejects_inexpressible :
    (∀ ip port a, mkCfg .socks4 (.ipv6 ip) port a = .error .socksProtocolError ∧
                  mkCfg .socks4 (.ipv6z ip) port a = .error .socksProtocolError) ∧
    (∀ s port a, mkCfg .socks4 (.name s) port a = .error .socksProtocolError) ∧
    (∀ ip port a, mkCfg .socks4a (.ipv6 ip) port a = .error .socksProtocolError ∧
                  mkCfg .socks4a (.ipv6z ip) port a = .error .socksProtocolError) ∧
    (∀ p h port a, p ≠ .socks5 → userHasNul a = true →
        mkCfg p h port a = .error .socksProtocolError) ∧
    (∀ h port u p dst ub, socks5DestinationBytes h port = .ok dst → utf8 u = .ok ub →
        (ub.length = 0 ∨ 255 < ub.length) →
        mkCfg .socks5 h port (some (u, p)) = .error .socksProtocolError) ∧
    (∀ h port u p dst ub pb, socks5DestinationBytes h port = .ok dst → utf8 u = .ok ub →
        utf8 p = .ok pb → (pb.length = 0 ∨ 255 < pb.length) →
        mkCfg .socks5 h port (some (u, p)) = .error .socksProtocolError) ∧
    (∀ ip port a, isMarker ip = true →
        mkCfg .socks4a (.ipv4 ip) port a = .error .socksProtocolError) ∧
    (∀ ip port a, mkCfg .socks5 (.ipv6z ip) port a = .error .socksProtocolError) := by
  refine ⟨?_, ?_, ?_, ?_, ?_, ?_, ?_, ?_⟩
  · intro ip port a
    cases hn : userHasNul a <;> simp [mkCfg, socks4Init, hn, checkRemoteHost]
  · intro s port a
    cases hn : userHasNul a <;> simp [mkCfg, socks4Init, hn, checkRemoteHost]
  · intro ip port a
    cases hn : userHasNul a <;> simp [mkCfg, socks4Init, hn, checkRemoteHost]
  · intro p h port a hp hn
    cases p with
    | socks5 => exact absurd rfl hp
    | _ => simp [mkCfg, socks4Init, hn]
  · intro h port u p dst ub hd hu hl
    have : (0 < ub.length && decide (ub.length < 256)) = false := by
      rcases hl with hl | hl <;> simp [hl] <;> omega
    simp [mkCfg, hd, socks5Authentication, hu, this]
  · intro h port u p dst ub pb hd hu hp hl
    have : (0 < pb.length && decide (pb.length < 256)) = false := by
      rcases hl with hl | hl <;> simp [hl] <;> omega
    by_cases hlu : (0 < ub.length && decide (ub.length < 256)) = true
    · simp [mkCfg, hd, socks5Authentication, hu, hp, this, hlu]
    · simp [mkCfg, hd, socks5Authentication, hu, hlu]
  · intro ip port a hm
    cases hn : userHasNul a <;> simp [mkCfg, socks4Init, hn, checkRemoteHost, hm]
  · intro ip port a
    simp [mkCfg, socks5DestinationBytes]

example : isMarker (vec4 0 0 0 1) = true ∧ isMarker (vec4 0 0 0 255) = true ∧
    isMarker (vec4 0 0 0 0) = false ∧ isMarker (vec4 0 0 1 0) = false := by decide

example : userHasNul (some ([97, 0, 98], [112])) = true := by decide
example : ∃ ub, utf8 (List.replicate 128 0xE9) = .ok ub ∧ 255 < ub.length :=
  ⟨(List.replicate 128 [0xC3, 0xA9]).flatten, by decide +kernel, by decide +kernel⟩

/-- when the constructor raises inside `_connect_one` the exception propagates before any
    socket is touched -/
theorem connectOne_ctor_raises (e : PyExc) (a : Attempt) (as : List Attempt) (i : Nat)
    (last : Option PyExc) : connectOne (.error e) (a :: as) i last = .escaped e := rfl

/-- ... and no connection is made, let alone written to: `_connect_one` with a raising
    constructor tries no entry at all -/
theorem connectOneSent_ctor_raises (e : PyExc) (as : List Attempt) :
    connectOneSent (.error e) as = [] := by
  cases as <;> rfl

/-- **Completeness**: everything the protocols *can* express is accepted (so the parse theorems
    above are not vacuous): SOCKS4 with any IPv4 address, SOCKS4a with any IPv4 address other
    than the marker addresses 0.0.0.x (x ≠ 0) or any host name, SOCKS5 with any destination,
    user ids without NUL, RFC 1929 fields of 1..255 bytes. -/
theorem accepts_expressible :
    (∀ ip port a, userHasNul a = false → ∃ cfg, mkCfg .socks4 (.ipv4 ip) port a = .ok cfg) ∧
    (∀ ip port a, userHasNul a = false → isMarker ip = false →
        ∃ cfg, mkCfg .socks4a (.ipv4 ip) port a = .ok cfg) ∧
    (∀ s port a, userHasNul a = false → ∃ cfg, mkCfg .socks4a (.name s) port a = .ok cfg) ∧
    (∀ h port dst, socks5DestinationBytes h port = .ok dst →
        ∃ cfg, mkCfg .socks5 h port none = .ok cfg) ∧
    (∀ h port dst u p ub pb, socks5DestinationBytes h port = .ok dst →
        utf8 u = .ok ub → utf8 p = .ok pb → 1 ≤ ub.length → ub.length ≤ 255 →
        1 ≤ pb.length → pb.length ≤ 255 → ∃ cfg, mkCfg .socks5 h port (some (u, p)) = .ok cfg) := by
  refine ⟨?_, ?_, ?_, ?_, ?_⟩
  · intro ip port a hn; simp [mkCfg, socks4Init, hn, checkRemoteHost]
  · intro ip port a hn hm; simp [mkCfg, socks4Init, hn, checkRemoteHost, hm]
  · intro s port a hn; simp [mkCfg, socks4Init, hn, checkRemoteHost]
  · intro h port dst hd; simp [mkCfg, hd, socks5Authentication]
  · intro h port dst u p ub pb hd hu hp h1 h2 h3 h4
    have a1 : (0 < ub.length && decide (ub.length < 256)) = true := by simp; omega
    have a2 : (0 < pb.length && decide (pb.length < 256)) = true := by simp; omega
    simp [mkCfg, hd, socks5Authentication, hu, hp, a1, a2]

/-- **F15, pinned tree**: `SOCKS4.__init__` without the NUL check accepts user `a\0b` for
    1.2.3.4:80 and the request it then sends is read by a SOCKS4 server as user `a`, with 2
    bytes left over. -/
theorem socks4_nul_pinned_witness :
    mkCfgPinned .socks4 (.ipv4 (vec4 1 2 3 4)) 80 (some ([97, 0, 98], [112])) =
      .ok (.s4 (.ipv4 (vec4 1 2 3 4)) 80 (some ([97, 0, 98], [112]))) ∧
    firstMessage (.s4 (.ipv4 (vec4 1 2 3 4)) 80 (some ([97, 0, 98], [112]))) =
      .msg [4, 1, 0, 80, 1, 2, 3, 4, 97, 0, 98, 0] ∧
    Spec.parseSocks4Request false [4, 1, 0, 80, 1, 2, 3, 4, 97, 0, 98, 0] =
      some (⟨4, 1, 80, [1, 2, 3, 4], [97], none⟩, [98, 0]) ∧
    mkCfg .socks4 (.ipv4 (vec4 1 2 3 4)) 80 (some ([97, 0, 98], [112])) =
      .error .socksProtocolError := by
  decide

/-- **F26, pinned tree**: `SOCKS4a._check_remote_host` without the marker check accepts the
    IPv4 destination 0.0.0.5 and the request then sent is the plain SOCKS4 form
    `04 01 00 50 00 00 00 05 00`.  A SOCKS4a server sees DSTIP 0.0.0.x, x ≠ 0, and waits for a
    host name that never comes: the request does not parse (`none`), i.e. the full-strength
    SOCKS4a statement fails on the pinned tree.  The repaired constructor refuses. -/
theorem socks4a_marker_fails_pinned :
    checkRemoteHostPinned .socks4a (.ipv4 (vec4 0 0 0 5)) = .ok () ∧
    firstMessage (.s4 (.ipv4 (vec4 0 0 0 5)) 80 none) = .msg [4, 1, 0, 80, 0, 0, 0, 5, 0] ∧
    Spec.parseSocks4Request true [4, 1, 0, 80, 0, 0, 0, 5, 0] = none ∧
    Spec.parseSocks4Request false [4, 1, 0, 80, 0, 0, 0, 5, 0] =
      some (⟨4, 1, 80, [0, 0, 0, 5], [], none⟩, []) ∧
    mkCfg .socks4a (.ipv4 (vec4 0 0 0 5)) 80 none = .error .socksProtocolError := by
  decide

/-- the full-strength statement for SOCKS4a with an IPv4 destination, about the **pinned**
    `_check_remote_host`: every accepted IPv4 destination is read back by a SOCKS4a server -/
def socks4a_ipv4_full_pinned : Prop :=
  ∀ (ip : Vector UInt8 4) (port : Nat), port < 65536 →
    checkRemoteHostPinned .socks4a (.ipv4 ip) = .ok () →
    ∃ msg, firstMessage (.s4 (.ipv4 ip) port none) = .msg msg ∧
      Spec.parseSocks4Request true msg = some (⟨4, 1, port, ip.toList, [], none⟩, [])

theorem socks4a_ipv4_full_pinned_fails : ¬ socks4a_ipv4_full_pinned := by
  intro h
  obtain ⟨msg, h1, h2⟩ := h (vec4 0 0 0 5) 80 (by decide) (by decide)
  have : msg = [4, 1, 0, 80, 0, 0, 0, 5, 0] := by
    have h3 : firstMessage (.s4 (.ipv4 (vec4 0 0 0 5)) 80 none) =
        .msg [4, 1, 0, 80, 0, 0, 0, 5, 0] := by decide
    rw [h3] at h1
    exact (Res.msg.inj h1).symm
  subst this
  revert h2
  decide

def probeV6 : Vector UInt8 16 := ⟨#[0, 1, 2, 3, 4, 5, 6, 7, 8, 9, 10, 11, 12, 13, 14, 15], rfl⟩

/-- **F27, pinned tree**: `SOCKS5._destination_bytes` sends a zone-scoped IPv6 destination
    (`fe80::1%eth0`) as the bare 16 address bytes - byte for byte what it sends for the
    unscoped address, so the zone is silently lost; RFC 1928 cannot express it.  The repaired
    constructor refuses. -/
theorem socks5_scoped_ipv6_fails_pinned :
    (∀ ip port, socks5DestinationBytesPinned (.ipv6z ip) port =
        socks5DestinationBytesPinned (.ipv6 ip) port) ∧
    socks5DestinationBytesPinned (.ipv6z probeV6) 80 =
      .ok [4, 0, 1, 2, 3, 4, 5, 6, 7, 8, 9, 10, 11, 12, 13, 14, 15, 0, 80] ∧
    (∀ ip port a, mkCfg .socks5 (.ipv6z ip) port a = .error .socksProtocolError) ∧
    (∀ h port, (∀ ip, h ≠ .ipv6z ip) →
        socks5DestinationBytesPinned h port = socks5DestinationBytes h port) := by
  refine ⟨fun _ _ => rfl, by decide, fun ip port a => by simp [mkCfg, socks5DestinationBytes], ?_⟩
  intro h port hne
  cases h with
  | ipv6z ip => exact absurd rfl (hne ip)
  | _ => rfl

/-- a lone surrogate has no UTF-8 form: SOCKS5's constructor raises `UnicodeEncodeError`;
    SOCKS4's constructor succeeds and the first `next_message()` raises it (nothing was sent).
    Not a SOCKS error — reported as a secondary finding; such a `str` is not Unicode text. -/
theorem surrogate_credentials_witness :
    mkCfg .socks5 (.ipv4 (vec4 1 2 3 4)) 80 (some ([0xD800], [112])) = .error .unicodeEncodeError ∧
    mkCfg .socks5 (.ipv4 (vec4 1 2 3 4)) 80 (some ([117], [0xDFFF])) = .error .unicodeEncodeError ∧
    mkCfg .socks4 (.ipv4 (vec4 1 2 3 4)) 80 (some ([0xD800], [112])) =
      .ok (.s4 (.ipv4 (vec4 1 2 3 4)) 80 (some ([0xD800], [112]))) ∧
    firstMessage (.s4 (.ipv4 (vec4 1 2 3 4)) 80 (some ([0xD800], [112]))) =
      .raise .unicodeEncodeError := by
  decide

/-- conversely every string of Unicode scalar values has a UTF-8 form -/
theorem utf8_scalar_ok : ∀ (s : List Nat), (∀ c ∈ s, c < 0x110000 ∧ ¬ (0xD800 ≤ c ∧ c < 0xE000)) →
    ∃ b, utf8 s = .ok b
  | [], _ => ⟨[], rfl⟩
  | c :: cs, h => by
    obtain ⟨b2, h2⟩ := utf8_scalar_ok cs (fun x hx => h x (List.mem_cons_of_mem _ hx))
    obtain ⟨hc, hs⟩ := h c List.mem_cons_self
    obtain ⟨b1, h1⟩ : ∃ b1, utf8Char c = .ok b1 := by
      fun_cases utf8Char c
      case case3 h => exact absurd h hs
      case case6 h => exact absurd hc h
      all_goals exact ⟨_, rfl⟩
    exact ⟨b1 ++ b2, utf8_cons_of h1 h2⟩

/-! ## facts regenerated from the source tree -/

def msgsOf : List Res → List Bytes
  | [] => []
  | .msg b :: rs => b :: msgsOf rs
  | _ :: rs => msgsOf rs

/-- messages of a scripted dialogue with a fresh object -/
def dialogue (p : Proto) (h : Host) (port : Nat) (a : Auth) (chunks : List Bytes) :
    Option (List Bytes) :=
  match mkCfg p h port a with
  | .ok cfg => some (msgsOf (driveObject 12 (Client.init cfg) chunks))
  | .error _ => none

def probeAuth : Auth := some ([97, 98], [99, 100, 101])
def probeName : List Nat := [97, 46, 98, 99]

/-- the probe requests produced by the real classes are what the model emits -/
theorem facts_probes :
    dialogue .socks4 (.ipv4 (vec4 1 2 3 4)) 0x0506 probeAuth [] = some [Facts.C16.socks4Probe] ∧
    dialogue .socks4 (.ipv4 (vec4 1 2 3 4)) 0x0506 none [] = some [Facts.C16.socks4NoAuthProbe] ∧
    dialogue .socks4a (.name probeName) 0x0506 probeAuth [] = some [Facts.C16.socks4aProbe] ∧
    dialogue .socks5 (.ipv4 (vec4 1 2 3 4)) 0x0506 none [[5, 0]] = some Facts.C16.socks5NoAuthSel0 ∧
    dialogue .socks5 (.ipv4 (vec4 1 2 3 4)) 0x0506 none [[5, 2], [1, 0]] =
      some Facts.C16.socks5NoAuthSel2 ∧
    dialogue .socks5 (.name probeName) 0x0506 probeAuth [[5, 0]] = some Facts.C16.socks5AuthSel0 ∧
    dialogue .socks5 (.ipv6 probeV6) 0x0506 probeAuth [[5, 2], [1, 0]] =
      some Facts.C16.socks5AuthSel2 := by
  decide

def accepts (p : Proto) (h : Host) (a : Auth) : Bool :=
  match mkCfg p h 0x0506 a with
  | .ok _ => true
  | .error _ => false

/-- which destination kinds each class accepts: IPv4, IPv6, host name, the SOCKS4a marker
    form 0.0.0.5 (F26) and a zone-scoped IPv6 address (F27) -/
theorem facts_accepts :
    Facts.C16.socks4Accepts =
      [accepts .socks4 (.ipv4 (vec4 1 2 3 4)) none, accepts .socks4 (.ipv6 probeV6) none,
       accepts .socks4 (.name probeName) none, accepts .socks4 (.ipv4 (vec4 0 0 0 5)) none,
       accepts .socks4 (.ipv6z probeV6) none] ∧
    Facts.C16.socks4aAccepts =
      [accepts .socks4a (.ipv4 (vec4 1 2 3 4)) none, accepts .socks4a (.ipv6 probeV6) none,
       accepts .socks4a (.name probeName) none, accepts .socks4a (.ipv4 (vec4 0 0 0 5)) none,
       accepts .socks4a (.ipv6z probeV6) none] ∧
    Facts.C16.socks5Accepts =
      [accepts .socks5 (.ipv4 (vec4 1 2 3 4)) none, accepts .socks5 (.ipv6 probeV6) none,
       accepts .socks5 (.name probeName) none, accepts .socks5 (.ipv4 (vec4 0 0 0 5)) none,
       accepts .socks5 (.ipv6z probeV6) none] := by
  decide

/-- **Assumption made visible**: credentials are a `SOCKSUserAuth`; any other object - here the
    plain tuple `("ab", "cde")` - is treated exactly like `None` (no method 2 offered, nothing
    of it sent) -/
theorem facts_tuple_auth_is_no_auth :
    Facts.C16.socks5TupleAuthSel0 = Facts.C16.socks5NoAuthSel0 := by decide

/-- the accepted RFC 1929 field lengths are exactly 1..255 -/
theorem facts_credential_lengths :
    Facts.C16.userLenAccepted = (List.range 301).filter (fun n => decide (1 ≤ n ∧ n ≤ 255)) ∧
    Facts.C16.passLenAccepted = (List.range 301).filter (fun n => decide (1 ≤ n ∧ n ≤ 255)) := by
  decide +kernel

/-- ... and the model's constructor accepts exactly the lengths the real one accepts -/
theorem facts_credential_lengths_model :
    Facts.C16.userLenAccepted = (List.range 301).filter (fun n =>
      accepts .socks5 (.ipv4 (vec4 1 2 3 4)) (some (List.replicate n 97, [112]))) ∧
    Facts.C16.passLenAccepted = (List.range 301).filter (fun n =>
      accepts .socks5 (.ipv4 (vec4 1 2 3 4)) (some ([117], List.replicate n 97))) := by
  decide +kernel

end Aiorpcx.C16
