import Aiorpcx.C16.Lemmas
/-! C16 — the credential / host-name *strings* survive: a UTF-8 decoder written from RFC 3629
    (strict: continuation bytes, shortest form, no surrogates, at most U+10FFFF) applied to
    `utf8 s` gives back `s`. -/
namespace Aiorpcx.C16
open Aiorpcx.Socks

namespace Spec

/-- value bits of a continuation byte `10xxxxxx`; any other byte is not a continuation byte -/
def cont (b : UInt8) : Option Nat :=
  if 0x80 ≤ b.toNat ∧ b.toNat < 0xC0 then some (b.toNat - 0x80) else none

/-- RFC 3629 §3/§4, strict: 1-byte `0xxxxxxx`, 2-byte `110xxxxx 10xxxxxx`, 3-byte
    `1110xxxx 10.. 10..`, 4-byte `11110xxx 10.. 10.. 10..`; every trailing byte must be a
    continuation byte `10xxxxxx`; over-long forms (`C0`/`C1` leads, 3-byte forms below U+0800,
    4-byte forms below U+10000), UTF-16 surrogates U+D800..U+DFFF and values above U+10FFFF are
    not UTF-8 -/
def decodeUtf8 : (fuel : Nat) → List UInt8 → Option (List Nat)
  | 0, _ => none
  | _ + 1, [] => some []
  | f + 1, b0 :: rest =>
    if b0.toNat < 0x80 then (decodeUtf8 f rest).map (b0.toNat :: ·)
    else if b0.toNat < 0xC2 then none
    else if b0.toNat < 0xE0 then
      match rest with
      | b1 :: r =>
        match cont b1 with
        | some c1 => (decodeUtf8 f r).map (((b0.toNat - 0xC0) * 64 + c1) :: ·)
        | none => none
      | _ => none
    else if b0.toNat < 0xF0 then
      match rest with
      | b1 :: b2 :: r =>
        match cont b1, cont b2 with
        | some c1, some c2 =>
          if (b0.toNat - 0xE0) * 4096 + c1 * 64 + c2 < 0x800 ∨
              (0xD800 ≤ (b0.toNat - 0xE0) * 4096 + c1 * 64 + c2 ∧
                (b0.toNat - 0xE0) * 4096 + c1 * 64 + c2 < 0xE000) then none
          else (decodeUtf8 f r).map (((b0.toNat - 0xE0) * 4096 + c1 * 64 + c2) :: ·)
        | _, _ => none
      | _ => none
    else if b0.toNat < 0xF5 then
      match rest with
      | b1 :: b2 :: b3 :: r =>
        match cont b1, cont b2, cont b3 with
        | some c1, some c2, some c3 =>
          if (b0.toNat - 0xF0) * 262144 + c1 * 4096 + c2 * 64 + c3 < 0x10000 ∨
              0x110000 ≤ (b0.toNat - 0xF0) * 262144 + c1 * 4096 + c2 * 64 + c3 then none
          else (decodeUtf8 f r).map
            (((b0.toNat - 0xF0) * 262144 + c1 * 4096 + c2 * 64 + c3) :: ·)
        | _, _, _ => none
      | _ => none
    else none

end Spec

/-- the decoder is strict about the byte layout: a lead byte followed by a non-continuation
    byte, over-long forms and encoded surrogates are refused (so `utf8_roundtrip` pins the
    RFC 3629 layout, not merely "some injective encoding") -/
theorem decodeUtf8_strict :
    Spec.decodeUtf8 9 [0xC3, 0x28] = none ∧ Spec.decodeUtf8 9 [0xC1, 0x80] = none ∧
    Spec.decodeUtf8 9 [0xC0, 0xC0] = none ∧ Spec.decodeUtf8 9 [0xE0, 0x80, 0x80] = none ∧
    Spec.decodeUtf8 9 [0xED, 0xA0, 0x80] = none ∧ Spec.decodeUtf8 9 [0xF4, 0x90, 0x80, 0x80] = none ∧
    Spec.decodeUtf8 9 [0xE2, 0x82, 0x41] = none ∧ Spec.decodeUtf8 9 [0x80] = none ∧
    Spec.decodeUtf8 9 [0xC3, 0xA9] = some [0xE9] ∧ Spec.decodeUtf8 9 [0xE2, 0x82, 0xAC] = some [0x20AC] ∧
    Spec.decodeUtf8 9 [0xF0, 0x9F, 0x98, 0x80] = some [0x1F600] := by decide

/-! base 64: the payload bits of a multi-byte form are the base-64 digits of the scalar value, the
    lead byte carrying the most significant one.  `utf8Char` takes the digits apart with `/` and
    `%`, `decodeUtf8` puts them together with `*` and `+`; both are related to the nested form
    `(x * 64 + d1) * 64 + d2 ..` , on which one digit at a time comes off. -/

theorem div_4096 (m : Nat) : m / 4096 = m / 64 / 64 := (Nat.div_div_eq_div_mul m 64 64).symm

theorem div_262144 (m : Nat) : m / 262144 = m / 64 / 64 / 64 := by
  rw [Nat.div_div_eq_div_mul, Nat.div_div_eq_div_mul]

theorem horner3 (x a b : Nat) : x * 4096 + a * 64 + b = (x * 64 + a) * 64 + b := by
  simp only [Nat.add_mul, Nat.mul_assoc, Nat.reduceMul]

theorem horner4 (x a b c : Nat) :
    x * 262144 + a * 4096 + b * 64 + c = ((x * 64 + a) * 64 + b) * 64 + c := by
  simp only [Nat.add_mul, Nat.mul_assoc, Nat.reduceMul]

theorem digit_div {a d : Nat} (h : d < 64) : (a * 64 + d) / 64 = a := by
  rw [Nat.mul_comm, Nat.mul_add_div (by decide), Nat.div_eq_of_lt h, Nat.add_zero]

theorem digit_mod {a d : Nat} (h : d < 64) : (a * 64 + d) % 64 = d := by
  rw [Nat.mul_comm, Nat.mul_add_mod, Nat.mod_eq_of_lt h]

theorem cont_of {d : Nat} (h : d < 64) : Spec.cont (0x80 + d).toUInt8 = some d := by
  rw [Spec.cont, toUInt8_toNat (by omega), if_pos (by omega), Nat.add_sub_cancel_left]

theorem cont_some {b : UInt8} {d : Nat} (h : Spec.cont b = some d) :
    d < 64 ∧ b = (0x80 + d).toUInt8 := by
  unfold Spec.cont at h
  split at h
  · obtain rfl := Option.some.inj h
    exact ⟨by omega, (toUInt8_of_toNat (by omega)).symm⟩
  · cases h

/-! ## the four forms

Each multi-byte form is written the way `utf8Char` produces it, lead and continuation bytes as
offset plus digit: the encoder produces it from the digits' value (`utf8Char_*`) and the decoder
reads that value back from it (`decodeUtf8_*`). -/

/-- a lead byte `l + x` fails every test against a threshold up to its offset `l` -/
theorem lead_not_lt {l m : Nat} (x : Nat) (h : m ≤ l) : ¬ l + x < m :=
  Nat.not_lt.2 (Nat.le_trans h (Nat.le_add_right l x))

theorem decodeUtf8_one {b0 : UInt8} {f : Nat} {r : Bytes} (h : b0.toNat < 0x80) :
    Spec.decodeUtf8 (f + 1) (b0 :: r) = (Spec.decodeUtf8 f r).map (b0.toNat :: ·) :=
  (Spec.decodeUtf8.eq_def _ _).trans (if_pos h)

theorem utf8Char_two {x d1 c : Nat} (h1 : d1 < 64) (hc : x * 64 + d1 = c)
    (lo : ¬ c < 0x80) (hi : c < 0x800) :
    utf8Char c = .ok [(0xC0 + x).toUInt8, (0x80 + d1).toUInt8] := by
  rw [utf8Char, if_neg lo, if_pos hi, ← hc, digit_div h1, digit_mod h1]

theorem decodeUtf8_two {x d1 c f : Nat} {r : Bytes} (lo : 2 ≤ x) (hi : x < 32) (h1 : d1 < 64)
    (hc : x * 64 + d1 = c) :
    Spec.decodeUtf8 (f + 1) ((0xC0 + x).toUInt8 :: (0x80 + d1).toUInt8 :: r) =
      (Spec.decodeUtf8 f r).map (c :: ·) := by
  refine (Spec.decodeUtf8.eq_def _ _).trans ?_
  dsimp only
  rw [toUInt8_toNat (show 0xC0 + x < 256 by omega), if_neg (lead_not_lt x (by decide)),
    if_neg (by omega), if_pos (by omega), cont_of h1]
  dsimp only
  rw [Nat.add_sub_cancel_left, hc]

theorem utf8Char_three {x d1 d2 c : Nat} (h1 : d1 < 64) (h2 : d2 < 64)
    (hc : x * 4096 + d1 * 64 + d2 = c) (hi : c < 0x10000)
    (hr : ¬ (c < 0x800 ∨ (0xD800 ≤ c ∧ c < 0xE000))) :
    utf8Char c = .ok [(0xE0 + x).toUInt8, (0x80 + d1).toUInt8, (0x80 + d2).toUInt8] := by
  rw [utf8Char, if_neg (by omega), if_neg (by omega), if_neg (by omega), if_pos hi, ← hc,
    div_4096, horner3, digit_div h2, digit_mod h2, digit_div h1, digit_mod h1]

theorem decodeUtf8_three {x d1 d2 c f : Nat} {r : Bytes} (hi : x < 16) (h1 : d1 < 64)
    (h2 : d2 < 64) (hc : x * 4096 + d1 * 64 + d2 = c)
    (hr : ¬ (c < 0x800 ∨ (0xD800 ≤ c ∧ c < 0xE000))) :
    Spec.decodeUtf8 (f + 1)
        ((0xE0 + x).toUInt8 :: (0x80 + d1).toUInt8 :: (0x80 + d2).toUInt8 :: r) =
      (Spec.decodeUtf8 f r).map (c :: ·) := by
  refine (Spec.decodeUtf8.eq_def _ _).trans ?_
  dsimp only
  rw [toUInt8_toNat (show 0xE0 + x < 256 by omega), if_neg (lead_not_lt x (by decide)),
    if_neg (lead_not_lt x (by decide)), if_neg (lead_not_lt x (by decide)), if_pos (by omega),
    cont_of h1, cont_of h2]
  dsimp only
  rw [Nat.add_sub_cancel_left, hc, if_neg hr]

theorem utf8Char_four {x d1 d2 d3 c : Nat} (h1 : d1 < 64) (h2 : d2 < 64) (h3 : d3 < 64)
    (hc : x * 262144 + d1 * 4096 + d2 * 64 + d3 = c) (hr : ¬ (c < 0x10000 ∨ 0x110000 ≤ c)) :
    utf8Char c = .ok [(0xF0 + x).toUInt8, (0x80 + d1).toUInt8, (0x80 + d2).toUInt8,
      (0x80 + d3).toUInt8] := by
  rw [utf8Char, if_neg (by omega), if_neg (by omega), if_neg (by omega), if_neg (by omega),
    if_pos (by omega), ← hc, div_262144, div_4096, horner4, digit_div h3, digit_mod h3,
    digit_div h2, digit_mod h2, digit_div h1, digit_mod h1]

theorem decodeUtf8_four {x d1 d2 d3 c f : Nat} {r : Bytes} (hi : x < 5) (h1 : d1 < 64)
    (h2 : d2 < 64) (h3 : d3 < 64) (hc : x * 262144 + d1 * 4096 + d2 * 64 + d3 = c)
    (hr : ¬ (c < 0x10000 ∨ 0x110000 ≤ c)) :
    Spec.decodeUtf8 (f + 1) ((0xF0 + x).toUInt8 :: (0x80 + d1).toUInt8 ::
        (0x80 + d2).toUInt8 :: (0x80 + d3).toUInt8 :: r) =
      (Spec.decodeUtf8 f r).map (c :: ·) := by
  refine (Spec.decodeUtf8.eq_def _ _).trans ?_
  dsimp only
  rw [toUInt8_toNat (show 0xF0 + x < 256 by omega), if_neg (lead_not_lt x (by decide)),
    if_neg (lead_not_lt x (by decide)), if_neg (lead_not_lt x (by decide)),
    if_neg (lead_not_lt x (by decide)), if_pos (by omega), cont_of h1, cont_of h2, cont_of h3]
  dsimp only
  rw [Nat.add_sub_cancel_left, hc, if_neg hr]

/-- the form of one character is not empty and the decoder reads it back: its bytes are the
    digits `c / 64 ^ k % 64`, which the decoder puts together again -/
theorem decode_char {c : Nat} {bs : Bytes} (h : utf8Char c = .ok bs) :
    0 < bs.length ∧ ∀ (f : Nat) (rest : Bytes),
      Spec.decodeUtf8 (f + 1) (bs ++ rest) = (Spec.decodeUtf8 f rest).map (c :: ·) := by
  have d64 (m : Nat) : m % 64 < 64 := Nat.mod_lt _ (by decide)
  revert h
  fun_cases utf8Char c
  case case1 h1 =>
    rintro ⟨⟩
    have e0 := toUInt8_toNat (n := c) (by omega)
    refine ⟨Nat.succ_pos _, fun f rest => ?_⟩
    rw [List.singleton_append, decodeUtf8_one (by rwa [e0]), e0]
  case case2 h1 h2 =>
    rintro ⟨⟩
    exact ⟨Nat.succ_pos _, fun f rest => decodeUtf8_two
      ((Nat.le_div_iff_mul_le (by decide)).2 (Nat.not_lt.1 h1)) (Nat.div_lt_of_lt_mul h2) (d64 _)
      (Nat.div_add_mod' c 64)⟩
  case case4 h1 h2 hs h3 =>
    rintro ⟨⟩
    exact ⟨Nat.succ_pos _, fun f rest => decodeUtf8_three (Nat.div_lt_of_lt_mul h3) (d64 _) (d64 _)
      (by rw [horner3, div_4096, Nat.div_add_mod', Nat.div_add_mod']) (by omega)⟩
  case case5 h1 h2 hs h3 h4 =>
    rintro ⟨⟩
    exact ⟨Nat.succ_pos _, fun f rest => decodeUtf8_four
      (Nat.div_lt_of_lt_mul (Nat.lt_trans h4 (by decide))) (d64 _) (d64 _) (d64 _)
      (by rw [horner4, div_262144, div_4096, Nat.div_add_mod', Nat.div_add_mod', Nat.div_add_mod'])
      (by omega)⟩
  all_goals rintro ⟨⟩

/-- **String round trip**: whatever `str.encode()` produced decodes back to the same string
    (fuel: any number above the byte count). -/
theorem utf8_roundtrip : ∀ (s : List Nat) (b : Bytes), utf8 s = .ok b →
    ∀ f, b.length < f → Spec.decodeUtf8 f b = some s
  | [], b, h, f + 1, _ => by cases h; rfl
  | c :: cs, b, h, f + 1, hf => by
    obtain ⟨b1, b2, h1, h2, rfl⟩ := utf8_cons_ok h
    obtain ⟨hpos, hdec⟩ := decode_char h1
    rw [List.length_append] at hf
    rw [hdec, utf8_roundtrip cs b2 h2 f (by omega)]
    rfl

/-- the lead byte of a multi-byte form is its offset plus the leading digit -/
theorem lead_eq {b : UInt8} {l : Nat} (h : ¬ b.toNat < l) : (l + (b.toNat - l)).toUInt8 = b :=
  toUInt8_of_toNat (Nat.add_sub_of_le (Nat.not_lt.1 h))

/-- **Converse of the round trip**: the strict decoder accepts only what `str.encode()` produces -
    if bytes decode to a string, encoding that string gives back exactly those bytes (so the
    encoding is the unique UTF-8 form: no second byte string stands for the same text). -/
theorem utf8_of_decode : ∀ (f : Nat) (b : Bytes) (s : List Nat),
    Spec.decodeUtf8 f b = some s → utf8 s = .ok b := by
  intro f b s h
  fun_induction Spec.decodeUtf8 f b generalizing s
  case case2 => cases h; rfl
  case case3 f b0 rest h0 ih =>
    obtain ⟨t, ht, rfl⟩ := Option.map_eq_some_iff.1 h
    have := utf8_cons_of (if_pos h0) (ih t ht)
    rwa [toUInt8_of_toNat rfl] at this
  case case5 f b0 _ lo hi b1 r c1 h1 ih =>
    obtain ⟨t, ht, rfl⟩ := Option.map_eq_some_iff.1 h
    obtain ⟨k1, rfl⟩ := cont_some h1
    have := utf8_cons_of (utf8Char_two (x := b0.toNat - 0xC0) k1 rfl (by omega) (by omega)) (ih t ht)
    rwa [lead_eq (by omega)] at this
  case case9 f b0 _ _ lo hi b1 b2 r c1 c2 h2 h1 hr ih =>
    obtain ⟨t, ht, rfl⟩ := Option.map_eq_some_iff.1 h
    obtain ⟨k1, rfl⟩ := cont_some h1
    obtain ⟨k2, rfl⟩ := cont_some h2
    have := utf8_cons_of (utf8Char_three (x := b0.toNat - 0xE0) k1 k2 rfl (by omega) hr) (ih t ht)
    rwa [lead_eq lo] at this
  case case13 f b0 _ _ _ lo hi b1 b2 b3 r c1 c2 c3 h3 h2 h1 hr ih =>
    obtain ⟨t, ht, rfl⟩ := Option.map_eq_some_iff.1 h
    obtain ⟨k1, rfl⟩ := cont_some h1
    obtain ⟨k2, rfl⟩ := cont_some h2
    obtain ⟨k3, rfl⟩ := cont_some h3
    have := utf8_cons_of (utf8Char_four k1 k2 k3 rfl hr) (ih t ht)
    rwa [lead_eq lo] at this
  all_goals cases h

/-- a 0 byte in strict UTF-8 is the character NUL: lead bytes of longer forms and continuation
    bytes are at least `0x80` -/
theorem decodeUtf8_nul (f : Nat) (b : Bytes) (s : List Nat) (h : Spec.decodeUtf8 f b = some s)
    (h0 : (0 : UInt8) ∈ b) : 0 ∈ s := by
  have lead {b : UInt8} (h : ¬ b.toNat < 0x80) : ¬ 0 = b := by rintro rfl; exact h (by decide)
  have cont {b : UInt8} {d : Nat} (h : Spec.cont b = some d) : ¬ 0 = b := by rintro rfl; cases h
  fun_induction Spec.decodeUtf8 f b generalizing s
  case case2 => cases h0
  case case3 f b0 rest hb ih =>
    obtain ⟨t, ht, rfl⟩ := Option.map_eq_some_iff.1 h
    rcases List.mem_cons.1 h0 with h0 | h0
    · rw [← h0]; exact List.mem_cons_self
    · exact List.mem_cons_of_mem _ (ih t ht h0)
  case case5 f b0 lo _ _ b1 r c1 h1 ih =>
    obtain ⟨t, ht, rfl⟩ := Option.map_eq_some_iff.1 h
    simp only [List.mem_cons, lead lo, cont h1, false_or] at h0
    exact List.mem_cons_of_mem _ (ih t ht h0)
  case case9 f b0 lo _ _ _ b1 b2 r c1 c2 h2 h1 _ ih =>
    obtain ⟨t, ht, rfl⟩ := Option.map_eq_some_iff.1 h
    simp only [List.mem_cons, lead lo, cont h1, cont h2, false_or] at h0
    exact List.mem_cons_of_mem _ (ih t ht h0)
  case case13 f b0 lo _ _ _ _ b1 b2 b3 r c1 c2 c3 h3 h2 h1 _ ih =>
    obtain ⟨t, ht, rfl⟩ := Option.map_eq_some_iff.1 h
    simp only [List.mem_cons, lead lo, cont h1, cont h2, cont h3, false_or] at h0
    exact List.mem_cons_of_mem _ (ih t ht h0)
  all_goals cases h

theorem utf8_no_nul {s : List Nat} {b : Bytes} (h : utf8 s = .ok b) (hs : (0 : Nat) ∉ s) :
    (0 : UInt8) ∉ b :=
  fun h0 => hs (decodeUtf8_nul _ b s (utf8_roundtrip s b h _ (Nat.lt_succ_self _)) h0)

/-- encoder and strict decoder are mutually inverse: `b` decodes to `s` iff `s` encodes to `b` -/
theorem utf8_decode_iff (s : List Nat) (b : Bytes) :
    Spec.decodeUtf8 (b.length + 1) b = some s ↔ utf8 s = .ok b :=
  ⟨utf8_of_decode _ b s, fun h => utf8_roundtrip s b h _ (by omega)⟩

end Aiorpcx.C16
