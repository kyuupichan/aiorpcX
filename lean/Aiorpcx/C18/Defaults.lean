import Aiorpcx.C18.RoundTrip
/-!
# C18 — the `default_func` paths of `NetAddress.from_string` / `Service.from_string`
-/
namespace Aiorpcx.C18

theorem fromStringD_none {α : Type} (L : IPLib α) (cfg : Cfg) (v : PyVal α) :
    NetAddr.fromStringD L cfg none v = NetAddr.fromString L cfg v := by
  cases v <;> rfl

/-- defaults are used only for a missing part: when both parts are present in the text the result
is that of the plain `from_string` -/
theorem fromStringD_present {α : Type} (L : IPLib α) (cfg : Cfg) (d : Option (PyVal α × PyVal α))
    (s : Str) (h1 : (splitAddress s).1 ≠ []) (h2 : (splitAddress s).2 ≠ []) :
    NetAddr.fromStringD L cfg d (.str s) = NetAddr.fromString L cfg (.str s) := by
  cases d with
  | none => rfl
  | some dd =>
    simp only [NetAddr.fromStringD, NetAddr.fromString, checkedMk, orDefault,
      List.isEmpty_eq_false_iff.mpr h1, List.isEmpty_eq_false_iff.mpr h2, Bool.false_eq_true,
      ↓reduceIte, PyVal.truthy, Bool.not_false, Bool.not_true, Bool.or_self]

theorem Host.toStr_ne_nil {α : Type} (L : IPLib α) (laws : IPLaws L) (h : Host α) (hv : h.Valid) :
    h.toStr L ≠ [] := by
  intro h0
  cases h with
  | name s => rw [show s = [] from h0] at hv; cases hv
  | ip4 x => simp [Host.toStr, show4] at h0
  | ip6 x => exact absurd (laws.colon x) (by rw [show L.show6 x = [] from h0]; simp)

theorem showInt_ne_nil (n : Int) : showInt n ≠ [] := by
  cases n with
  | ofNat k => exact showDec_ne_nil k
  | negSucc k => simp [showInt]

/-- with any defaults, printing a valid `NetAddress` and parsing it back gives an equal object:
its text always has both parts -/
theorem netaddr_roundtrip_defaults {α : Type} (L : IPLib α) (laws : IPLaws L) (cfg : Cfg)
    (ok : CfgOK cfg) (d : Option (PyVal α × PyVal α)) (a : NetAddr α) (hv : a.Valid) :
    NetAddr.fromStringD L cfg d (.str (a.toStr L)) = .ok a := by
  have hs := splitAddress_toStr L a hv
  rw [fromStringD_present L cfg d _
    (by rw [hs]; exact Host.toStr_ne_nil L laws _ ((NetAddr.valid_iff a).1 hv).2.2)
    (by rw [hs]; exact showInt_ne_nil _)]
  exact netaddr_roundtrip L laws cfg ok a hv

/-- with any `default_func`, printing a valid `Service` and parsing it back gives an equal object -/
theorem service_roundtrip_defaults {α : Type} (L : IPLib α) (laws : IPLaws L) (cfg : Cfg)
    (ok : CfgOK cfg) (low : PyLower) (g : SvcDefaults α) (s : Service α) (hv : s.Valid) :
    Service.fromStringD L cfg low g (.str (s.toStr L)) = .ok s := by
  obtain ⟨proto, addr⟩ := s
  obtain ⟨h1, h2, h3⟩ := hv
  simp only at h1 h2
  simp only [Service.fromStringD, Service.toStr, pickProtocol,
    splitOnce_scheme proto _ (protocol_no_colon h1), withProtocol,
    netaddr_roundtrip_defaults L laws cfg ok _ addr h3, mkService, validateProtocol_str cfg ok, h1,
    ↓reduceIte, h2]

end Aiorpcx.C18
