import Aiorpcx.C18.Exact
import Aiorpcx.C18.RoundTrip
import Aiorpcx.C18.Defaults
import Aiorpcx.C18.Pinned
import Aiorpcx.C18.Helpers
import Aiorpcx.Facts.C18
/-!
# C18 — property theorems

Model: `Aiorpcx/C18/Model.lean` (mirrors `aiorpcx/util.py:42-248`), regex semantics:
`Aiorpcx/C18/Regex.lean`.  The configuration every theorem below talks about is
`Aiorpcx.Facts.C18.cfg`, **generated on every run by running the real functions of the current
source tree** (tools/facts/c18.py): the class of code points accepted at every position of a
protocol name / host-name label / all-digit last label (each obtained by calling the function on
every code point 0..0x10FFFF in that position), the repeat bounds and length limits (decision
tables over lengths), whether a final newline slips through (anchor kind), the port interval (every
integer -2..65537).  Nothing is read from the shape of the source, so a rewrite that keeps the
behaviour keeps the generated file byte for byte.  The `facts_*` lemmas are the proof obligations
that tie those generated values to the property's grammar (`Aiorpcx/C18/Spec.lean`); they are closed
by `rfl` (shape, anchors, bounds), by linear arithmetic over the concrete ranges (classes: unfold,
then `grind`) and by kernel evaluation (the small behaviour tables against the model under `cfg`).

All theorems are quantified over **all** strings / integers / objects; no bound.
-/
namespace Aiorpcx.C18
open Aiorpcx.Facts.C18

/-! ## facts ties (proof obligations over the generated constants) -/

/-- the behaviour observed on the position and length tables fits the family of the property's
grammar (position-independent classes, contiguous lengths, one port interval, one dot stripped) -/
theorem facts_supported : supported = true ∧ unsupportedWhy = [] := ⟨rfl, rfl⟩

/-- a protocol is one character of class H, then one or more of class T, and nothing else (no
final newline slips through) -/
theorem facts_protocol_shape :
    ∃ e, cfg.protocol.rx = shapeProtocol protocol_c0 protocol_c1 e ∧
      endExact e cfg.protocol.mode = true := ⟨_, rfl, rfl⟩

/-- code points accepted as first character of a protocol = the ASCII letters -/
theorem facts_protocol_head_class : ∀ c, inCls protocol_c0 c = Spec.isLetter c := by
  intro c
  simp only [inCls, List.any_cons, List.any_nil, protocol_c0, Spec.isLetter]
  grind

/-- code points accepted after the first = letters, digits, `+`, `-`, `.` (F1: not `,`) -/
theorem facts_protocol_tail_class : ∀ c, inCls protocol_c1 c = Spec.protoTailChar c := by
  intro c
  simp only [inCls, List.any_cons, List.any_nil, protocol_c1, Spec.protoTailChar, Spec.isLetter,
    Spec.isDigit]
  grind

/-- a label is `[A]([B]{0,61}[A'])?` + exact end (F2) -/
theorem facts_label_shape :
    ∃ e, cfg.label.rx = shapeLabel label_c0 label_c1 label_c2 61 e ∧
      endExact e cfg.label.mode = true := ⟨_, rfl, rfl⟩

/-- first character of a label = ASCII letters, digits, `_` (F3: nothing else) -/
theorem facts_label_first_class : ∀ c, inCls label_c0 c = edgeChar c := by
  intro c
  simp only [inCls, List.any_cons, List.any_nil, label_c0, edgeChar, Spec.labelChar, Spec.isLetter,
    Spec.isDigit]
  grind

/-- middle characters of a label = ASCII letters, digits, `-`, `_` -/
theorem facts_label_middle_class : ∀ c, inCls label_c1 c = Spec.labelChar c := by
  intro c
  simp only [inCls, List.any_cons, List.any_nil, label_c1, Spec.labelChar, Spec.isLetter,
    Spec.isDigit]
  grind

/-- last character of a label = ASCII letters, digits, `_` -/
theorem facts_label_last_class : ∀ c, inCls label_c2 c = edgeChar c := by
  intro c
  simp only [inCls, List.any_cons, List.any_nil, label_c2, edgeChar, Spec.labelChar, Spec.isLetter,
    Spec.isDigit]
  grind

/-- the refused last labels are `[D]+` + exact end -/
theorem facts_numeric_shape :
    ∃ e, cfg.numeric.rx = shapeNumeric numeric_c0 e ∧ endExact e cfg.numeric.mode = true :=
  ⟨_, rfl, rfl⟩

/-- one-character last labels refused although fine elsewhere = ASCII digits -/
theorem facts_numeric_class : ∀ c, inCls numeric_c0 c = Spec.isDigit c := by
  intro c
  simp only [inCls, List.any_cons, List.any_nil, numeric_c0, Spec.isDigit]
  grind

/-- `validate_port` accepts `1 ≤ p ≤ 65535`; names longer than 253 are refused -/
theorem facts_bounds : cfg.portLo = 1 ∧ cfg.portHi = 65535 ∧ cfg.hostMaxLen = 253 := by decide

/-- the decision tables themselves: integer ports accepted on the grid -2..65537 are exactly
1..65535 and come back unchanged; well-formed names are accepted exactly at total lengths 1..253,
with or without one trailing dot; labels exactly at lengths 1..63; exactly one trailing dot is
ignored -/
theorem facts_decision_tables :
    portIntervals = [(1, 65535)] ∧ portValueIsArgument = true ∧
    hostLengths = [(1, 253)] ∧ hostLengthsDot = [(1, 253)] ∧ labelLengths = [(1, 63)] ∧
    trailingDots = [true, true, false, false] := by decide

/-- the model under the generated configuration answers the hand-picked host names exactly as the
real `is_valid_hostname` did (dots, hyphens, digits, newlines, non-ASCII) -/
theorem facts_host_table :
    hostTable.all (fun p => isValidHostnameStr cfg p.1 == p.2) = true := by decide +kernel

/-- … and the hand-picked protocol strings as the real `validate_protocol` did -/
theorem facts_proto_table :
    protoTable.all (fun p => cfg.protocol.test p.1 == p.2) = true := by decide +kernel

/-- … and the hand-picked port strings (leading zeros, signs, blanks, underscores, Unicode
digits, superscripts) as the real `validate_port` did -/
theorem facts_port_table :
    portTable.all (fun p =>
      (match validatePort (α := Unit) cfg (.str p.1) with
        | .ok n => some n
        | .error _ => none) == p.2) = true := by decide +kernel

/-- the model's `splitAddress` cuts every text over `{a 1 . : [ ] % /}` up to length 3 (585 texts)
and the longer bracket cases exactly where the real `NetAddress.from_string` did (observed through a
subclass that records what the constructor is given; `splitRows` = how many texts could be observed
that way - 601 on a tree that constructs through `cls`, reported in the evidence) -/
theorem facts_split_table :
    splitTable.length = splitRows ∧
    splitTable.all (fun r => splitAddress r.1 == (r.2.1, r.2.2)) = true := by decide +kernel

/-- the interpreter's int-string digit limit cannot refuse a five-digit port -/
theorem facts_digit_limit : cfg.maxStrDigits = 0 ∨ 5 ≤ cfg.maxStrDigits := by decide

/-- the committed digit tables are those of the interpreter running the code -/
theorem facts_digit_tables :
    Aiorpcx.Facts.C18.decimalRuns = Aiorpcx.C18.decimalRuns ∧
    Aiorpcx.Facts.C18.digitOnly = Aiorpcx.C18.digitOnly := ⟨rfl, rfl⟩

/-! ## the regexes accept exactly the property's grammar -/

theorem protocol_test_facts (s : Str) : cfg.protocol.test s = Spec.protocol s := by
  obtain ⟨e, hrx, he⟩ := facts_protocol_shape
  exact protocol_test_exact _ _ _ e hrx he facts_protocol_head_class facts_protocol_tail_class s

theorem label_test_facts (l : Str) : cfg.label.test l = Spec.label l := by
  obtain ⟨e, hrx, he⟩ := facts_label_shape
  exact label_test_exact _ _ _ _ e hrx he facts_label_first_class facts_label_middle_class
    facts_label_last_class l

theorem numeric_test_facts (l : Str) : cfg.numeric.test l = (!l.isEmpty && l.all Spec.isDigit) := by
  obtain ⟨e, hrx, he⟩ := facts_numeric_shape
  exact numeric_test_exact _ _ e hrx he facts_numeric_class l

/-- **host names.**  `is_valid_hostname(s)` is `True` exactly when, ignoring one trailing dot, `s`
is 1–253 characters of dot-separated labels of 1–63 letters, digits, hyphens or underscores that
neither begin nor end with a hyphen and whose last label is not all digits — for every string. -/
theorem hostname_exact (s : Str) : isValidHostnameStr cfg s = Spec.hostname s :=
  hostname_exact_of cfg label_test_facts numeric_test_facts facts_bounds.2.2 s

/-- the same with the grammar spelled out (`hostname_grammar`: no model helper in the statement):
accepted exactly the strings that are, ignoring one trailing dot, 1-253 characters of labels joined
by dots, each label valid, the last one not all digits -/
theorem hostname_exact_grammar (s : Str) :
    isValidHostnameStr cfg s = true ↔
      ∃ ls : List Str, ls ≠ [] ∧ (s = joinWith 46 ls ∨ s = joinWith 46 ls ++ [46]) ∧
        (∀ l ∈ ls, Spec.label l = true) ∧ (ls.getLastD []).all Spec.isDigit = false ∧
        1 ≤ (joinWith 46 ls).length ∧ (joinWith 46 ls).length ≤ 253 := by
  rw [hostname_exact]; exact hostname_grammar s

/-- non-strings: `TypeError` -/
theorem hostname_type {α : Type} (v : PyVal α) :
    isValidHostname cfg v = match v with
      | .str s => .ok (Spec.hostname s)
      | _ => .error .typeError := by
  cases v <;> simp only [isValidHostname, hostname_exact]

example : isValidHostnameStr cfg [101, 120, 46, 99, 111, 109] = true := by    -- "ex.com"
  rw [hostname_exact]; decide +kernel
example : isValidHostnameStr cfg [101, 120, 46, 99, 111, 109, 10] = false := by    -- "ex.com\n"
  rw [hostname_exact]; decide +kernel
example : isValidHostnameStr cfg [383, 46, 99, 111, 109] = false := by    -- "ſ.com"
  rw [hostname_exact]; decide +kernel

/-- **protocols.**  `validate_protocol(s)` returns (the lower-cased) `s` exactly when `s` is a
letter followed by one or more letters, digits, `+`, `-` or `.`; every other string is refused
with `ValueError`, every non-string with `TypeError`. -/
theorem protocol_exact {α : Type} (v : PyVal α) :
    validateProtocol cfg v = match v with
      | .str s => if Spec.protocol s then .ok (lower s) else .error .valueError
      | _ => .error .typeError := by
  cases v <;> simp only [validateProtocol, protocol_test_facts]

example : validateProtocol (α := Unit) cfg (.str [84, 99, 112]) = .ok [116, 99, 112] := by  -- "Tcp"
  rw [protocol_exact]; rfl
example : validateProtocol (α := Unit) cfg (.str [116, 44, 112]) = .error .valueError := by  -- "t,p"
  rw [protocol_exact]; rfl
example : validateProtocol (α := Unit) cfg (.str [116, 99, 112, 10]) = .error .valueError := by
  rw [protocol_exact]; rfl

theorem cfg_ok : CfgOK cfg :=
  { host := hostname_exact, proto := protocol_test_facts, lo := facts_bounds.1,
    hi := facts_bounds.2.1, digits := facts_digit_limit }

theorem portRange_facts (n : Int) :
    portRange cfg n = if Spec.port n then .ok n else .error .valueError := by
  simp only [portRange, facts_bounds.1, facts_bounds.2.1, Spec.port, Bool.and_eq_true,
    decide_eq_true_eq]

/-- **ports.**  Integers (and `bool`, a subclass) are accepted exactly in 1..65535 and returned
unchanged; a string is accepted exactly when it is a non-empty string of decimal digits (within
the interpreter's digit limit) whose value is in 1..65535, and that value is returned; every other
string — including strings of `isdigit()` characters that `int()` refuses, such as `'²'` — gives
`ValueError` and nothing else; every other type `TypeError`. -/
theorem port_exact {α : Type} (v : PyVal α) :
    validatePort cfg v = match v with
      | .int n => if Spec.port n then .ok n else .error .valueError
      | .bool b => if b then .ok 1 else .error .valueError
      | .str s =>
        if cfg.maxStrDigits ≠ 0 ∧ s.length > cfg.maxStrDigits then .error .valueError
        else match Spec.decimalValue s with
          | some n => if Spec.port n then .ok n else .error .valueError
          | none => .error .valueError
      | _ => .error .typeError := by
  cases v with
  | int n => exact portRange_facts n
  | bool b => cases b <;> rfl
  | str s =>
    simp only [validatePort_str, portRange_facts]
    split
    · rfl
    · cases Spec.decimalValue s <;> rfl
  | _ => rfl

/-- the familiar reading: a non-empty string of ASCII digits (leading zeros allowed) within the
digit limit is accepted exactly when its decimal value is in 1..65535 -/
theorem port_exact_ascii {α : Type} (s : Str) (hne : s ≠ []) (hd : s.all Spec.isDigit = true)
    (hlen : cfg.maxStrDigits = 0 ∨ s.length ≤ cfg.maxStrDigits) :
    validatePort (α := α) cfg (.str s) =
      if Spec.port (parseDec s) then .ok (parseDec s) else .error .valueError := by
  rw [validatePort_ascii cfg s hne hd hlen, portRange_facts]
  rfl

example : validatePort (α := Unit) cfg (.int 65535) = .ok 65535 := by rw [port_exact]; rfl
example : validatePort (α := Unit) cfg (.int 65536) = .error .valueError := by rw [port_exact]; rfl
example : validatePort (α := Unit) cfg (.int 0) = .error .valueError := by rw [port_exact]; rfl
example : validatePort (α := Unit) cfg (.str [48, 56, 48]) = .ok 80 := by     -- "080"
  rw [port_exact_ascii _ (by decide) (by decide) (by decide)]; rfl
example : validatePort (α := Unit) cfg (.str [178]) = .error .valueError := by    -- "²"
  rw [port_exact]; rfl
example : validatePort (α := Unit) cfg (.str [1635, 65296]) = .ok 30 := by    -- "٣０"
  rw [port_exact]; rfl

/-- **classify_host is total.**  A valid host name is returned as is; any other string must parse
as an IPv4 or IPv6 literal (and is returned as that address) or is refused with `ValueError`;
address objects are returned unchanged; `TypeError` only for non-strings. -/
theorem classify_host_total {α : Type} (L : IPLib α) (v : PyVal α) :
    classifyHost L cfg v = match v with
      | .str s =>
        if Spec.hostname s then .ok (.name s)
        else match ipAddress L s with
          | some ip => .ok ip
          | none => .error .valueError
      | .ip4 x => .ok (.ip4 x)
      | .ip6 x => .ok (.ip6 x)
      | _ => .error .typeError := by
  cases v with
  | str s => exact classifyHost_str L cfg cfg_ok s
  | _ => rfl

/-- **NetAddress round trip.**  For every valid `NetAddress` (host a valid name, an IPv4 or an
IPv6 address; port in 1..65535) `NetAddress.from_string(str(a)) == a`. -/
theorem netaddress_roundtrip {α : Type} (L : IPLib α) (laws : IPLaws L) (a : NetAddr α)
    (hv : a.Valid) : NetAddr.fromString L cfg (.str (a.toStr L)) = .ok a :=
  netaddr_roundtrip L laws cfg cfg_ok a hv

/-- every object `NetAddress(host, port)` constructs is valid (so the round trip applies to it) -/
theorem netaddress_constructor_valid {α : Type} (L : IPLib α) (host port : PyVal α)
    (hwf : host.WF) (a : NetAddr α) (h : mkNetAddress L cfg host port = .ok a) : a.Valid :=
  mkNetAddress_valid L cfg cfg_ok host port hwf a h

/-- **Service round trip.**  For every valid `Service`, `Service.from_string(str(s)) == s`. -/
theorem service_roundtrip {α : Type} (L : IPLib α) (laws : IPLaws L) (s : Service α)
    (hv : s.Valid) : Service.fromString L cfg (.str (s.toStr L)) = .ok s :=
  service_roundtrip_of L laws cfg cfg_ok s hv

/-- every object `Service(protocol, address)` constructs is valid -/
theorem service_constructor_valid {α : Type} (L : IPLib α) (protocol : PyVal α)
    (address : AddrArg α) (haddr : ∀ a, address = .obj a → a.Valid) (s : Service α)
    (h : mkService L cfg protocol address = .ok s) : s.Valid :=
  mkService_valid L cfg cfg_ok protocol address haddr s h

/-- the defaults of `from_string` never override what `str()` printed: the round trips hold with
any `default_func` -/
theorem netaddress_roundtrip_defaults {α : Type} (L : IPLib α) (laws : IPLaws L)
    (d : Option (PyVal α × PyVal α)) (a : NetAddr α) (hv : a.Valid) :
    NetAddr.fromStringD L cfg d (.str (a.toStr L)) = .ok a :=
  netaddr_roundtrip_defaults L laws cfg cfg_ok d a hv

theorem service_roundtrip_with_defaults {α : Type} (L : IPLib α) (laws : IPLaws L)
    (low : PyLower) (g : SvcDefaults α) (s : Service α) (hv : s.Valid) :
    Service.fromStringD L cfg low g (.str (s.toStr L)) = .ok s :=
  service_roundtrip_defaults L laws cfg cfg_ok low g s hv

/-- the laws are inhabited: an IPv6 library with one address `::` -/
def unitLib : IPLib Unit :=
  { parse6 := fun s => if s = [58, 58] then some () else none, show6 := fun _ => [58, 58] }

theorem unitLib_laws : IPLaws unitLib :=
  { roundtrip := fun _ => by simp [unitLib], colon := fun _ => List.mem_cons_self }

example : (⟨.name [101, 120, 46, 99, 111, 109], 80⟩ : NetAddr Unit).Valid :=
  ⟨by decide, by decide, by show Spec.hostname _ = true; decide⟩
example : (⟨.ip4 ⟨1, 2, 3, 4⟩, 65535⟩ : NetAddr Unit).Valid :=
  ⟨by decide, by decide, by show IP4.valid _; unfold IP4.valid; decide⟩
example : (⟨.ip6 (), 1⟩ : NetAddr Unit).Valid := ⟨by decide, by decide, trivial⟩
example : (⟨[116, 99, 112], ⟨.ip6 (), 8080⟩⟩ : Service Unit).Valid :=
  ⟨by decide, by decide, by decide, by decide, trivial⟩
example : (⟨.ip6 (), 8080⟩ : NetAddr Unit).toStr unitLib = [91, 58, 58, 93, 58, 56, 48, 56, 48] := by
  decide

/-- the outcome is a value, a `ValueError` or a `TypeError` -/
def Except.isVT {β : Type} : Except PyExc β → Bool
  | .ok _ => true
  | .error .valueError => true
  | .error .typeError => true
  | .error .attributeError => false

/-- an error of a computation that raises only `ValueError` / `TypeError` is one of these,
whatever the result type it is passed on with -/
theorem isVT_error {β γ : Type} {x : Except PyExc β} {e : PyExc} (hx : Except.isVT x = true)
    (he : x = .error e) : Except.isVT (.error e : Except PyExc γ) = true := by
  subst he
  cases e
  · rfl
  · rfl
  · exact hx

theorem vt_portRange (c : Cfg) (n : Int) : Except.isVT (portRange c n) = true := by
  unfold portRange; split <;> rfl

theorem vt_isValidHostname {α : Type} (c : Cfg) (v : PyVal α) :
    Except.isVT (isValidHostname c v) = true := by
  cases v <;> rfl

theorem vt_pyIntOfDigits (m : Nat) (s : Str) : Except.isVT (pyIntOfDigits m s) = true := by
  unfold pyIntOfDigits
  split
  · rfl
  · split <;> rfl

theorem vt_validatePort {α : Type} (c : Cfg) (v : PyVal α) :
    Except.isVT (validatePort c v) = true := by
  cases v with
  | int n => exact vt_portRange c n
  | bool b => exact vt_portRange c _
  | str s =>
    simp only [validatePort]
    split
    · split
      · exact vt_portRange c _
      · next he => exact isVT_error (vt_pyIntOfDigits _ _) he
    · rfl
  | _ => rfl

theorem vt_validateProtocol {α : Type} (c : Cfg) (v : PyVal α) :
    Except.isVT (validateProtocol c v) = true := by
  cases v with
  | str s => simp only [validateProtocol]; split <;> rfl
  | _ => rfl

theorem vt_classifyHost {α : Type} (L : IPLib α) (c : Cfg) (v : PyVal α) :
    Except.isVT (classifyHost L c v) = true := by
  cases v with
  | str s =>
    simp only [classifyHost]
    split
    · rfl
    · split <;> rfl
  | _ => rfl

theorem vt_mkNetAddress {α : Type} (L : IPLib α) (c : Cfg) (u u' : PyVal α) :
    Except.isVT (mkNetAddress L c u u') = true := by
  unfold mkNetAddress
  split
  · next he => exact isVT_error (vt_classifyHost L c u) he
  · split
    · next he => exact isVT_error (vt_validatePort c u') he
    · rfl

theorem vt_fromString {α : Type} (L : IPLib α) (c : Cfg) (v : PyVal α) :
    Except.isVT (NetAddr.fromString L c v) = true := by
  cases v with
  | str s => exact vt_mkNetAddress L c _ _
  | _ => rfl

theorem vt_mkService {α : Type} (L : IPLib α) (c : Cfg) (v : PyVal α) (a : AddrArg α) :
    Except.isVT (mkService L c v a) = true := by
  unfold mkService
  split
  · next he => exact isVT_error (vt_validateProtocol c v) he
  · split
    · rfl
    · split
      · next he => exact isVT_error (vt_fromString L c _) he
      · rfl

theorem vt_serviceFromString {α : Type} (L : IPLib α) (c : Cfg) (v : PyVal α) :
    Except.isVT (Service.fromString L c v) = true := by
  cases v with
  | str s =>
    simp only [Service.fromString]
    split
    · rfl
    · split
      · next he => exact isVT_error (vt_fromString L c _) he
      · exact vt_mkService L c _ _
  | _ => rfl

theorem vt_checkedMk {α : Type} (L : IPLib α) (c : Cfg) (h p : PyVal α) :
    Except.isVT (checkedMk L c h p) = true := by
  unfold checkedMk
  split
  · rfl
  · exact vt_mkNetAddress L c _ _

theorem vt_fromStringD {α : Type} (L : IPLib α) (c : Cfg) (d : Option (PyVal α × PyVal α))
    (v : PyVal α) : Except.isVT (NetAddr.fromStringD L c d v) = true := by
  cases v with
  | str s =>
    cases d with
    | none => exact vt_mkNetAddress L c _ _
    | some dd => exact vt_checkedMk L c _ _
  | _ => rfl

theorem vt_withProtocol_str {α : Type} (L : IPLib α) (c : Cfg) (low : PyLower) (g : SvcDefaults α)
    (p address : Str) : Except.isVT (withProtocol L c low g (.str p) address) = true := by
  simp only [withProtocol]
  split
  · next he => exact isVT_error (vt_fromStringD L c _ _) he
  · exact vt_mkService L c _ _

/-- the first half of `Service.from_string` raises only `ValueError`, and the protocol it chooses
is a string taken from the text, or the callback's (truthy) default protocol -/
theorem pickProtocol_cases {α : Type} (g : SvcDefaults α) (s : Str) :
    pickProtocol g s = .error .valueError ∨ (∃ q a, pickProtocol g s = .ok (.str q, a)) ∨
    ((g none .protocol).truthy = true ∧ ∃ a, pickProtocol g s = .ok (g none .protocol, a)) := by
  unfold pickProtocol
  split
  · exact Or.inr (Or.inl ⟨_, _, rfl⟩)
  · split
    · split
      · exact Or.inl rfl
      · exact Or.inr (Or.inl ⟨_, _, rfl⟩)
    · split
      · next ht => exact Or.inr (Or.inr ⟨ht, _, rfl⟩)
      · exact Or.inl rfl

/-- with a `default_func`: still only ValueError / TypeError **provided** the callback's default
protocol is a string or falsy; a truthy non-string default protocol makes `protocol.lower()` raise
AttributeError (see the `example` below) -/
theorem vt_serviceFromStringD {α : Type} (L : IPLib α) (c : Cfg) (low : PyLower)
    (g : SvcDefaults α)
    (hg : (∃ p, g none .protocol = .str p) ∨ (g none .protocol).truthy = false) (v : PyVal α) :
    Except.isVT (Service.fromStringD L c low g v) = true := by
  cases v with
  | str s =>
    simp only [Service.fromStringD]
    rcases pickProtocol_cases g s with he | ⟨q, a, he⟩ | ⟨ht, a, he⟩
    · rw [he]; rfl
    · rw [he]; exact vt_withProtocol_str L c low g q a
    · rw [he]
      rcases hg with ⟨q, hq⟩ | hf
      · rw [hq]; exact vt_withProtocol_str L c low g q a
      · rw [hf] at ht; cases ht
  | _ => rfl

/-- the explicit failure mode: `default_func(None, PROTOCOL)` returning `5` -/
example : errIs (Service.fromStringD (α := Unit) noV6 repaired lower
    (fun _ part => if part = .protocol then .int 5 else .none) (.str [97])) .attributeError = true := by
  decide

/-- **no other exception.**  Whatever the arguments (of whatever type), each of the functions
returns or raises `ValueError` / `TypeError` — in particular `int()` of an `isdigit()` string that
is not decimal, and `re.match` on a non-string, are accounted for in the model. -/
theorem only_value_or_type_error {α : Type} (L : IPLib α) (v w : PyVal α) :
    Except.isVT (isValidHostname cfg v) = true ∧ Except.isVT (classifyHost L cfg v) = true ∧
    Except.isVT (validatePort cfg v) = true ∧ Except.isVT (validateProtocol cfg v) = true ∧
    Except.isVT (mkNetAddress L cfg v w) = true ∧
    Except.isVT (NetAddr.fromString L cfg v) = true ∧
    Except.isVT (mkService L cfg v (.val w)) = true ∧
    Except.isVT (Service.fromString L cfg v) = true :=
  ⟨vt_isValidHostname cfg v, vt_classifyHost L cfg v, vt_validatePort cfg v,
   vt_validateProtocol cfg v, vt_mkNetAddress L cfg v w, vt_fromString L cfg v,
   vt_mkService L cfg v _, vt_serviceFromString L cfg v⟩

example : Except.isVT (Except.error PyExc.attributeError : Except PyExc Nat) = false := rfl

/-! ## the driver's hand-written configuration satisfies the same specification -/

theorem repaired_cfg_ok : CfgOK repaired :=
  { host := hostname_exact_of repaired
      (label_test_exact_bos _ clsLabelEdge clsLabelMid clsLabelEdge .bigZ rfl rfl clsLabelEdge_spec
        clsLabelMid_spec clsLabelEdge_spec)
      (numeric_test_exact _ clsDigit .bigZ rfl rfl clsDigit_spec) rfl
    proto := protocol_test_exact _ clsLetter clsProtoTail .bigZ rfl rfl clsLetter_spec
      clsProtoTail_spec
    lo := rfl, hi := rfl, digits := by decide }

/-- so the model the harness runs (`repaired`) and the configuration generated from the source
accept the same host names and the same protocol names -/
theorem facts_agree_with_model (s : Str) :
    isValidHostnameStr cfg s = isValidHostnameStr repaired s ∧
    cfg.protocol.test s = repaired.protocol.test s := by
  rw [hostname_exact, repaired_cfg_ok.host, protocol_test_facts, repaired_cfg_ok.proto]
  exact ⟨rfl, rfl⟩

end Aiorpcx.C18
