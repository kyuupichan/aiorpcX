import Aiorpcx.C18.Spec
/-!
# C18 — counter-examples on the pinned tree, as theorems (the harness replays them on the code)

`pinned` is the configuration of the *unrepaired* `util.py` (`Model.lean`); `validatePortPinned`,
`splitAddressPinned`, `NetAddr.fromStringPinned` are the unrepaired variants of the two functions
changed by fixes/F20 and fixes/F21.
-/
namespace Aiorpcx.C18

def okIs {β : Type} [DecidableEq β] (r : Except PyExc β) (v : β) : Bool :=
  match r with
  | .ok x => decide (x = v)
  | .error _ => false

def errIs {β : Type} (r : Except PyExc β) (e : PyExc) : Bool :=
  match r with
  | .ok _ => false
  | .error x => decide (x = e)

/-- F1: the class `[A-Za-z0-9+-.]` is the range `+`..`.` and contains `,`;
    F2: `$` matches before a trailing newline.  The repaired configuration refuses both. -/
theorem protocol_pinned_witness :
    okIs (validateProtocol (α := Unit) pinned (.str [116, 44, 112])) [116, 44, 112] = true ∧
    Spec.protocol [116, 44, 112] = false ∧
    okIs (validateProtocol (α := Unit) pinned (.str [116, 99, 112, 10])) [116, 99, 112, 10] = true ∧
    Spec.protocol [116, 99, 112, 10] = false ∧
    errIs (validateProtocol (α := Unit) repaired (.str [116, 44, 112])) .valueError = true ∧
    errIs (validateProtocol (α := Unit) repaired (.str [116, 99, 112, 10])) .valueError = true := by
  decide +kernel

/-- F2: `"ex.com\n"` and F3: `"ſ.com"`, `"K.com"` (Kelvin sign), `"İ.com"`, `"ı.com"` are accepted as
    host names by the pinned regexes (IGNORECASE on a `str` pattern folds these four letters into
    `[a-z]`), although none is in the property's grammar.  The repaired configuration refuses. -/
theorem hostname_pinned_witness :
    isValidHostnameStr pinned [101, 120, 46, 99, 111, 109, 10] = true ∧
    Spec.hostname [101, 120, 46, 99, 111, 109, 10] = false ∧
    isValidHostnameStr pinned [383, 46, 99, 111, 109] = true ∧
    Spec.hostname [383, 46, 99, 111, 109] = false ∧
    isValidHostnameStr pinned [8490, 46, 99, 111, 109] = true ∧
    isValidHostnameStr pinned [304, 46, 99, 111, 109] = true ∧
    isValidHostnameStr pinned [305, 46, 99, 111, 109] = true ∧
    isValidHostnameStr repaired [101, 120, 46, 99, 111, 109, 10] = false ∧
    isValidHostnameStr repaired [383, 46, 99, 111, 109] = false := by
  decide +kernel

def noV6 : IPLib Unit := { parse6 := fun _ => none, show6 := fun _ => [] }

/-- F20: the pinned `validate_port(True)` returns `True`, which `NetAddress.__str__` prints as
    `True`; `"a.b:True"` does not parse back. -/
theorem port_bool_pinned_witness :
    okIs (validatePortPinned (α := Unit) repaired (.bool true)) (.bool true) = true ∧
    (PortObj.bool true).toStr = [84, 114, 117, 101] ∧
    errIs (NetAddr.fromString noV6 repaired
      (.str ([97, 46, 98, 58] ++ (PortObj.bool true).toStr))) .valueError = true := by
  decide +kernel

/-- one IPv6 address with a zone id that contains `]` (accepted by `ipaddress`): `::1%]` -/
def zoneLib : IPLib Unit :=
  { parse6 := fun s => if s = [58, 58, 49, 37, 93] then some () else none,
    show6 := fun _ => [58, 58, 49, 37, 93] }

/-- F21: `str(NetAddress('::1%]', 80))` is `"[::1%]]:80"`; the pinned `_split_address` cuts at the
    first `]` and the text does not parse back; with `rfind` it does. -/
theorem split_pinned_witness :
    (⟨.ip6 (), 80⟩ : NetAddr Unit).toStr zoneLib = [91, 58, 58, 49, 37, 93, 93, 58, 56, 48] ∧
    splitAddressPinned [91, 58, 58, 49, 37, 93, 93, 58, 56, 48] = ([91], [58, 49, 37, 93, 93, 58, 56, 48]) ∧
    errIs (NetAddr.fromStringPinned zoneLib repaired
      (.str [91, 58, 58, 49, 37, 93, 93, 58, 56, 48])) .valueError = true ∧
    okIs (NetAddr.fromString zoneLib repaired
      (.str [91, 58, 58, 49, 37, 93, 93, 58, 56, 48])) ⟨.ip6 (), 80⟩ = true := by
  decide +kernel

end Aiorpcx.C18
