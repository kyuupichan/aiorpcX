import Aiorpcx.C18.Spec
/-!
# C18 — what the three regex *shapes* of util.py accept, for arbitrary classes

Everything here is quantified over all strings; the classes, the end anchor and the match mode
are parameters (instantiated with the generated facts in `Props.lean`).
-/
namespace Aiorpcx.C18

/-- `p` on every element but the last, `q` on the last; false on the empty list -/
def allButLast (p q : Nat → Bool) : Str → Bool
  | [] => false
  | [y] => q y
  | x :: y :: r => p x && allButLast p q (y :: r)

/-- `c{1}` consumes exactly one character of the class -/
theorem rep_one (c : Cls) (k : Bool → Str → Bool) (a : Bool) (s : Str) :
    rep c k 1 (some 1) a s = match s with
      | [] => false
      | x :: r => inCls c x && k false r := by
  cases s with
  | nil => simp [rep]
  | cons x r =>
    cases r with
    | nil => simp [rep]
    | cons y r' => simp [rep]

/-- `c*` up to an end-of-string continuation -/
theorem rep_star (c : Cls) (k : Bool → Str → Bool) (hk : ∀ a r, k a r = (r == []))
    (a : Bool) (s : Str) : rep c k 0 none a s = s.all (inCls c) := by
  induction s generalizing a with
  | nil => simp [rep, hk]
  | cons x r ih => simp [rep, hk, ih]

/-- `c+` up to an end-of-string continuation: non-empty and every character in the class -/
theorem rep_plus (c : Cls) (k : Bool → Str → Bool) (hk : ∀ a r, k a r = (r == []))
    (a : Bool) (s : Str) : rep c k 1 none a s = (!s.isEmpty && s.all (inCls c)) := by
  cases s with
  | nil => simp [rep]
  | cons x r => simp [rep, rep_star c k hk]

/-- `c{0,m}` followed by "exactly one more character satisfying `p`, then the end" -/
theorem rep_bounded_last (c : Cls) (p : Nat → Bool) (k : Bool → Str → Bool)
    (hk : ∀ a r, k a r = match r with | [y] => p y | _ => false)
    (m : Nat) (a : Bool) (s : Str) :
    rep c k 0 (some m) a s = (decide (s.length ≤ m + 1) && allButLast (inCls c) p s) := by
  induction s generalizing m a with
  | nil => simp [rep, hk, allButLast]
  | cons x r ih =>
    cases r with
    | nil => cases m <;> simp [rep, hk, allButLast]
    | cons y r' =>
      cases m with
      | zero => simp [rep, hk]
      | succ m' =>
        rw [rep, ih m' false, hk, allButLast]
        simp only [List.length_cons, Nat.add_le_add_iff_right, Bool.and_false, Bool.false_or,
          Bool.and_left_comm]

/-- the uses the shape lemmas cover: not `search`, and the end anchor followed by the mode's end
condition accepts exactly the end of the string (the anchor is `\Z` or the mode is `fullmatch`) -/
def endExact (e : EndKind) (m : Mode) : Bool :=
  m != .search && (e == .bigZ || m == .fullmatch)

/-- the anchor `e` followed by the end condition of mode `m` -/
def kEnd (e : EndKind) (m : Mode) : Bool → Str → Bool := fun a r => atEnd e r && finalK m a r

theorem matchAtoms_nil (k : Bool → Str → Bool) : matchAtoms [] k = k := by
  funext a s; simp [matchAtoms]

theorem matchItems_eos (e : EndKind) (m : Mode) :
    matchItems [.atom (.eos e)] (finalK m) = kEnd e m := by
  funext a r; simp [matchItems, matchAtoms, kEnd]

theorem matchItems_cls (c : Cls) (mn : Nat) (mx : Option Nat) (is : List Item)
    (k : Bool → Str → Bool) :
    matchItems (.atom (.cls c mn mx) :: is) k = rep c (matchItems is k) mn mx := by
  funext a s; simp [matchItems, matchAtoms]

theorem matchItems_bos (is : List Item) (k : Bool → Str → Bool) (s : Str) :
    matchItems (.atom .bos :: is) k true s = matchItems is k true s := by
  simp [matchItems, matchAtoms]

theorem kEnd_endsOnly (e : EndKind) (m : Mode) (h : endExact e m = true) (a : Bool) (r : Str) :
    kEnd e m a r = (r == []) := by
  -- of the six combinations `h` excludes three; in the others both sides compute
  -- (`$` with `fullmatch` on a non-empty string is `_ && false`)
  cases e <;> cases m <;> first
    | exact Bool.noConfusion h
    | (cases r <;> first | rfl | exact Bool.and_false _)

theorem pyMatch_not_search (rx : LinearRegex) (m : Mode) (h : m ≠ .search) (s : Str) :
    pyMatch rx m s = matchItems rx (finalK m) true s := by
  cases m with
  | search => exact absurd rfl h
  | _ => rfl

theorem not_search_of_endExact {e : EndKind} {m : Mode} (h : endExact e m = true) :
    m ≠ .search := by
  rintro rfl
  exact Bool.noConfusion h

/-! ## shape 1: `[H][T]+<end>`  (PROTOCOL_REGEX) -/

def shapeProtocol (h t : Cls) (e : EndKind) : LinearRegex :=
  [.atom (.cls h 1 (some 1)), .atom (.cls t 1 none), .atom (.eos e)]

theorem shapeProtocol_accepts (h t : Cls) (e : EndKind) (m : Mode) (he : endExact e m = true)
    (s : Str) :
    pyMatch (shapeProtocol h t e) m s = match s with
      | [] => false
      | x :: r => inCls h x && (!r.isEmpty && r.all (inCls t)) := by
  rw [pyMatch_not_search _ _ (not_search_of_endExact he)]
  have hk := kEnd_endsOnly e m he
  rw [shapeProtocol, matchItems_cls, matchItems_cls, matchItems_eos, rep_one]
  cases s with
  | nil => rfl
  | cons x r => simp only; rw [rep_plus t _ hk]

/-! ## shape 2: `[D]+<end>`  (NUMERIC_REGEX) -/

def shapeNumeric (d : Cls) (e : EndKind) : LinearRegex :=
  [.atom (.cls d 1 none), .atom (.eos e)]

theorem shapeNumeric_accepts (d : Cls) (e : EndKind) (m : Mode) (he : endExact e m = true)
    (s : Str) :
    pyMatch (shapeNumeric d e) m s = (!s.isEmpty && s.all (inCls d)) := by
  rw [pyMatch_not_search _ _ (not_search_of_endExact he)]
  have hk := kEnd_endsOnly e m he
  rw [shapeNumeric, matchItems_cls, matchItems_eos, rep_plus d _ hk]

/-! ## shape 3: `^[A]([B]{0,n}[A'])?<end>`  (LABEL_REGEX) -/

def shapeLabel (a b a' : Cls) (n : Nat) (e : EndKind) : LinearRegex :=
  [.atom (.cls a 1 (some 1)), .opt [.cls b 0 (some n), .cls a' 1 (some 1)], .atom (.eos e)]

/-- the same with the (redundant under `match` / `fullmatch`) leading `^` -/
def shapeLabelBos (a b a' : Cls) (n : Nat) (e : EndKind) : LinearRegex :=
  .atom .bos :: shapeLabel a b a' n e

theorem matchItems_opt2 (b a' : Cls) (n : Nat) (is : List Item) (k : Bool → Str → Bool)
    (a0 : Bool) (s : Str) :
    matchItems (.opt [.cls b 0 (some n), .cls a' 1 (some 1)] :: is) k a0 s =
      (rep b (rep a' (matchItems is k) 1 (some 1)) 0 (some n) a0 s || matchItems is k a0 s) := by
  simp [matchItems, matchAtoms]

theorem shapeLabel_accepts (a b a' : Cls) (n : Nat) (e : EndKind) (m : Mode)
    (he : endExact e m = true) (s : Str) :
    pyMatch (shapeLabel a b a' n e) m s = match s with
      | [] => false
      | x :: r => inCls a x &&
          (r.isEmpty || (decide (r.length ≤ n + 1) && allButLast (inCls b) (inCls a') r)) := by
  rw [pyMatch_not_search _ _ (not_search_of_endExact he)]
  have hk := kEnd_endsOnly e m he
  rw [shapeLabel, matchItems_cls, rep_one]
  cases s with
  | nil => rfl
  | cons x r =>
    simp only
    congr 1
    rw [matchItems_opt2, matchItems_eos]
    have hk2 : ∀ (a0 : Bool) (r0 : Str),
        rep a' (kEnd e m) 1 (some 1) a0 r0 = match r0 with | [y] => inCls a' y | _ => false := by
      intro a0 r0
      rw [rep_one]
      cases r0 with
      | nil => rfl
      | cons y r1 =>
        simp only
        rw [hk false r1]
        cases r1 <;> simp
    rw [rep_bounded_last b (inCls a') _ hk2, hk false r]
    cases r <;> simp [allButLast, Bool.or_comm]

theorem shapeLabelBos_accepts (a b a' : Cls) (n : Nat) (e : EndKind) (m : Mode)
    (he : endExact e m = true) (s : Str) :
    pyMatch (shapeLabelBos a b a' n e) m s = pyMatch (shapeLabel a b a' n e) m s := by
  rw [pyMatch_not_search _ _ (not_search_of_endExact he),
    pyMatch_not_search _ _ (not_search_of_endExact he), shapeLabelBos, matchItems_bos]

end Aiorpcx.C18
