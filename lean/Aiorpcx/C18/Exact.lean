import Aiorpcx.C18.RegexLemmas
import Aiorpcx.C18.Helpers
/-!
# C18 — exactness of the validators for any configuration of the three shapes whose classes
are extensionally the property's classes (instantiated with the generated facts in `Props.lean`)
-/
namespace Aiorpcx.C18

theorem protocol_test_exact (u : RxUse) (h t : Cls) (e : EndKind)
    (hrx : u.rx = shapeProtocol h t e) (he : endExact e u.mode = true)
    (hh : ∀ c, inCls h c = Spec.isLetter c) (ht : ∀ c, inCls t c = Spec.protoTailChar c)
    (s : Str) : u.test s = Spec.protocol s := by
  rw [RxUse.test, hrx, shapeProtocol_accepts h t e u.mode he, funext ht]
  cases s with
  | nil => rfl
  | cons x r => simp only [Spec.protocol, hh]

theorem numeric_test_exact (u : RxUse) (d : Cls) (e : EndKind)
    (hrx : u.rx = shapeNumeric d e) (he : endExact e u.mode = true)
    (hd : ∀ c, inCls d c = Spec.isDigit c) (s : Str) :
    u.test s = (!s.isEmpty && s.all Spec.isDigit) := by
  rw [RxUse.test, hrx, shapeNumeric_accepts d e u.mode he, funext hd]

/-- label character other than the hyphen (what may begin and end a label) -/
def edgeChar (c : Nat) : Bool := Spec.labelChar c && c != 45

theorem all_last_eq (f : Nat → Bool) (r : Str) (hr : r ≠ []) :
    (r.all f && r.getLast? != some 45) = allButLast f (fun y => f y && y != 45) r := by
  induction r with
  | nil => exact absurd rfl hr
  | cons y r ih =>
    cases r with
    | nil => simp [allButLast, bne]
    | cons z r' =>
      rw [allButLast, ← ih (by simp), List.getLast?_cons_cons, List.all_cons, Bool.and_assoc]

/-- `Spec.label` in the form the label regex computes: first character, then (if anything
follows) at most 62 more, all label characters, the last one not a hyphen -/
theorem spec_label_cons (x : Nat) (r : Str) :
    Spec.label (x :: r) =
      (edgeChar x && (r.isEmpty || (decide (r.length ≤ 62) && allButLast Spec.labelChar edgeChar r))) := by
  cases r with
  | nil => simp [Spec.label, edgeChar, bne]
  | cons y r' =>
    rw [← show (fun y => Spec.labelChar y && y != 45) = edgeChar from rfl,
      ← all_last_eq Spec.labelChar (y :: r') (by simp)]
    simp only [Spec.label, List.length_cons, List.all_cons, List.head?_cons,
      List.getLast?_cons_cons, List.isEmpty_cons, Bool.false_or, Nat.le_add_left, decide_true,
      Bool.true_and, show (63 : Nat) = 62 + 1 from rfl, Nat.add_le_add_iff_right, bne,
      Option.some_beq_some]
    ac_rfl

theorem label_test_exact (u : RxUse) (a b a' : Cls) (e : EndKind)
    (hrx : u.rx = shapeLabel a b a' 61 e) (he : endExact e u.mode = true)
    (ha : ∀ c, inCls a c = edgeChar c) (hb : ∀ c, inCls b c = Spec.labelChar c)
    (ha' : ∀ c, inCls a' c = edgeChar c) (s : Str) : u.test s = Spec.label s := by
  rw [RxUse.test, hrx, shapeLabel_accepts a b a' 61 e u.mode he, funext ha', funext hb]
  cases s with
  | nil => rfl
  | cons x r => simp only [spec_label_cons, ha]

theorem label_test_exact_bos (u : RxUse) (a b a' : Cls) (e : EndKind)
    (hrx : u.rx = shapeLabelBos a b a' 61 e) (he : endExact e u.mode = true)
    (ha : ∀ c, inCls a c = edgeChar c) (hb : ∀ c, inCls b c = Spec.labelChar c)
    (ha' : ∀ c, inCls a' c = edgeChar c) (s : Str) : u.test s = Spec.label s := by
  rw [← label_test_exact ⟨shapeLabel a b a' 61 e, u.mode⟩ a b a' e rfl he ha hb ha' s,
    RxUse.test, hrx, shapeLabelBos_accepts a b a' 61 e u.mode he]
  rfl

theorem hostname_exact_of (cfg : Cfg)
    (hl : ∀ l, cfg.label.test l = Spec.label l)
    (hn : ∀ l, cfg.numeric.test l = (!l.isEmpty && l.all Spec.isDigit))
    (hm : cfg.hostMaxLen = 253) (s : Str) :
    isValidHostnameStr cfg s = Spec.hostname s := by
  simp only [isValidHostnameStr, Spec.hostname, hm, hn, funext hl, Bool.if_false_left]
  generalize stripDot s = t
  have hlen : (!decide ((t.isEmpty || decide (t.length > 253)) = true)) =
      (decide (1 ≤ t.length) && decide (t.length ≤ 253)) := by
    cases t with
    | nil => rfl
    | cons x r => rw [Bool.eq_iff_iff]; simp
  rw [hlen]
  congr 1
  -- where every piece is a label the last piece is not empty, so `NUMERIC_REGEX` asks only
  -- whether it is all digits
  cases hall : (splitOn 46 t).all Spec.label
  · simp
  · have hlast : Spec.label ((splitOn 46 t).getLastD []) = true :=
      getLastD_of_forall (splitOn_ne_nil 46 t) (List.all_eq_true.mp hall)
    simp only [List.isEmpty_eq_false_iff.mpr (label_ne_nil hlast), Bool.not_false, Bool.true_and,
      Bool.and_true, Bool.decide_eq_true]

/-! ## the classes of the hand-written configuration -/

theorem clsLetter_spec (c : Nat) : inCls clsLetter c = Spec.isLetter c := by
  simp only [inCls, List.any_cons, List.any_nil, clsLetter, Spec.isLetter]
  grind

theorem clsProtoTail_spec (c : Nat) : inCls clsProtoTail c = Spec.protoTailChar c := by
  simp only [inCls, List.any_cons, List.any_nil, clsProtoTail, Spec.protoTailChar, Spec.isLetter,
    Spec.isDigit]
  grind

theorem clsLabelEdge_spec (c : Nat) : inCls clsLabelEdge c = edgeChar c := by
  simp only [inCls, List.any_cons, List.any_nil, clsLabelEdge, edgeChar, Spec.labelChar,
    Spec.isLetter, Spec.isDigit]
  grind

theorem clsLabelMid_spec (c : Nat) : inCls clsLabelMid c = Spec.labelChar c := by
  simp only [inCls, List.any_cons, List.any_nil, clsLabelMid, Spec.labelChar, Spec.isLetter,
    Spec.isDigit]
  grind

theorem clsDigit_spec (c : Nat) : inCls clsDigit c = Spec.isDigit c := by
  simp only [inCls, List.any_cons, List.any_nil, clsDigit, Spec.isDigit]
  grind

end Aiorpcx.C18
