import Aiorpcx.C18.Spec
/-!
# C18 — what the string helpers of the model compute, stated without the helpers

`Spec.hostname` is written with the model's own `stripDot` and `splitOn`, and `port_exact` on
strings goes through the model's `decimalFold`.  These lemmas pin the helpers down independently
(a `stripDot` that removed *every* trailing dot, a `splitOn` that dropped empty pieces or a
`decimalFold` reading the digits in another order would not satisfy them), so the property theorems
cannot be true merely because specification and model share a wrong helper.
-/
namespace Aiorpcx.C18

theorem getLast?_append_ne (l₁ : Str) {l₂ : Str} (h : l₂ ≠ []) :
    (l₁ ++ l₂).getLast? = l₂.getLast? := by
  rw [List.getLast?_append, List.getLast?_eq_some_getLast h, Option.some_or]

theorem not_mem_of_all {p : Nat → Bool} {s : Str} {c : Nat} (h : s.all p = true)
    (hc : p c = false) : c ∉ s :=
  fun hm => by rw [List.all_eq_true.mp h c hm] at hc; cases hc

theorem getLastD_of_forall {p : Str → Prop} {ls : List Str} (hne : ls ≠ [])
    (h : ∀ l ∈ ls, p l) : p (ls.getLastD []) := by
  rw [List.getLastD_eq_getLast?, List.getLast?_eq_some_getLast hne]
  exact h _ (List.getLast_mem hne)

/-! ## `stripDot`: exactly one trailing dot -/

theorem stripDot_snoc (t : Str) : stripDot (t ++ [46]) = t := by
  simp [stripDot]

theorem stripDot_other (s : Str) (h : s.getLast? ≠ some 46) : stripDot s = s :=
  if_neg h

/-- `stripDot` is "remove one trailing dot if there is one" -/
theorem stripDot_spec (s : Str) :
    (∃ t, s = t ++ [46] ∧ stripDot s = t) ∨ (s.getLast? ≠ some 46 ∧ stripDot s = s) := by
  by_cases h : s.getLast? = some 46
  · obtain ⟨t, rfl⟩ := List.getLast?_eq_some_iff.mp h
    exact Or.inl ⟨t, rfl, stripDot_snoc t⟩
  · exact Or.inr ⟨h, stripDot_other s h⟩

/-- only one: of two trailing dots the first one stays -/
theorem stripDot_two_dots (t : Str) : stripDot (t ++ [46, 46]) = t ++ [46] := by
  have := stripDot_snoc (t ++ [46])
  rwa [List.append_assoc] at this

example : stripDot [97, 46, 46] = [97, 46] := by decide
example : stripDot [] = [] := by decide

/-! ## `splitOn`: the pieces between the separators -/

/-- `sep.join(pieces)` -/
def joinWith (sep : Nat) : List Str → Str
  | [] => []
  | [l] => l
  | l :: l' :: ls => l ++ sep :: joinWith sep (l' :: ls)

theorem joinWith_cons_cons (sep c : Nat) (l : Str) (ls : List Str) :
    joinWith sep ((c :: l) :: ls) = c :: joinWith sep (l :: ls) := by
  cases ls <;> rfl

theorem splitOn_ne_nil (sep : Nat) (s : Str) : splitOn sep s ≠ [] := by
  cases s with
  | nil => simp [splitOn]
  | cons c r =>
    simp only [splitOn]
    split
    · simp
    · split <;> simp

/-- `splitOn` on a non-empty string, by its first character (the result is never empty, so the
third branch of the definition is dead) -/
theorem splitOn_cons (sep c : Nat) (r : Str) :
    ∃ l ls, splitOn sep r = l :: ls ∧
      splitOn sep (c :: r) = if c = sep then [] :: l :: ls else (c :: l) :: ls := by
  cases h : splitOn sep r with
  | nil => exact absurd h (splitOn_ne_nil sep r)
  | cons l ls => exact ⟨l, ls, rfl, by simp only [splitOn, h]⟩

/-- joining the pieces with the separator gives the string back (nothing is dropped, empty pieces
included) -/
theorem splitOn_join (sep : Nat) (s : Str) : joinWith sep (splitOn sep s) = s := by
  induction s with
  | nil => rfl
  | cons c r ih =>
    obtain ⟨l, ls, hr, hc⟩ := splitOn_cons sep c r
    rw [hr] at ih
    rw [hc]
    split
    · next h => rw [joinWith, ih, h]; rfl
    · rw [joinWith_cons_cons, ih]

/-- no piece contains the separator -/
theorem splitOn_sep_free (sep : Nat) (s : Str) : ∀ l ∈ splitOn sep s, sep ∉ l := by
  induction s with
  | nil => simp [splitOn]
  | cons c r ih =>
    obtain ⟨l, ls, hr, hc⟩ := splitOn_cons sep c r
    rw [hr, List.forall_mem_cons] at ih
    rw [hc]
    split
    · simpa using ih
    · next h =>
      rw [List.forall_mem_cons]
      exact ⟨by simpa [Ne.symm h] using ih.1, ih.2⟩

theorem splitOn_no_sep (sep : Nat) (s : Str) (h : sep ∉ s) : splitOn sep s = [s] := by
  induction s with
  | nil => rfl
  | cons c r ih =>
    rw [List.mem_cons, not_or] at h
    simp [splitOn, Ne.symm h.1, ih h.2]

theorem splitOn_append (sep : Nat) (a r : Str) (h : sep ∉ a) :
    splitOn sep (a ++ sep :: r) = a :: splitOn sep r := by
  induction a with
  | nil => simp [splitOn]
  | cons c a ih =>
    rw [List.mem_cons, not_or] at h
    simp [splitOn, Ne.symm h.1, ih h.2]

/-- `splitOn_join` and `splitOn_sep_free` determine the pieces: a list of separator-free pieces is
what `splitOn` returns on their join -/
theorem splitOn_joinWith (sep : Nat) (ls : List Str) (hne : ls ≠ [])
    (hfree : ∀ l ∈ ls, sep ∉ l) : splitOn sep (joinWith sep ls) = ls := by
  induction ls with
  | nil => exact absurd rfl hne
  | cons l rest ih =>
    rw [List.forall_mem_cons] at hfree
    cases rest with
    | nil => exact splitOn_no_sep sep l hfree.1
    | cons l' ls' => rw [joinWith, splitOn_append sep l _ hfree.1, ih (by simp) hfree.2]

example : splitOn 46 [97, 46, 46, 98] = [[97], [], [98]] := by decide
example : splitOn 46 [] = [[]] := by decide

theorem mem_joinWith {sep c : Nat} {ls : List Str} (h : c ∈ joinWith sep ls) :
    c = sep ∨ ∃ l ∈ ls, c ∈ l := by
  induction ls with
  | nil => simp [joinWith] at h
  | cons l rest ih =>
    cases rest with
    | nil => exact Or.inr ⟨l, by simp, h⟩
    | cons l' ls' =>
      rw [joinWith, List.mem_append, List.mem_cons] at h
      rcases h with h | h | h
      · exact Or.inr ⟨l, by simp, h⟩
      · exact Or.inl h
      · exact (ih h).imp_right fun ⟨x, hx, hc⟩ => ⟨x, List.mem_cons_of_mem _ hx, hc⟩

theorem mem_splitOn (sep : Nat) (s : Str) (c : Nat) (h : c ∈ s) :
    c = sep ∨ ∃ l ∈ splitOn sep s, c ∈ l :=
  mem_joinWith (by rwa [splitOn_join])

theorem chars_of_pieces {p : Nat → Bool} {sep : Nat} {s : Str}
    (h : ∀ l ∈ splitOn sep s, l.all p = true) (c : Nat) (hc : c ∈ s) : p c = true ∨ c = sep :=
  (mem_splitOn sep s c hc).elim Or.inr
    fun ⟨l, hl, hcl⟩ => Or.inl (List.all_eq_true.mp (h l hl) c hcl)

theorem joinWith_suffix (sep : Nat) (ls : List Str) (hne : ls ≠ []) :
    ∃ pre, joinWith sep ls = pre ++ ls.getLastD [] := by
  induction ls with
  | nil => exact absurd rfl hne
  | cons l rest ih =>
    cases rest with
    | nil => exact ⟨[], rfl⟩
    | cons l' ls' =>
      obtain ⟨pre, e⟩ := ih (by simp)
      exact ⟨l ++ sep :: pre, by rw [joinWith, e]; simp⟩

theorem joinWith_getLast (sep : Nat) (ls : List Str) (hne : ls ≠ []) (hl : ls.getLastD [] ≠ []) :
    (joinWith sep ls).getLast? = (ls.getLastD []).getLast? := by
  obtain ⟨pre, e⟩ := joinWith_suffix sep ls hne
  rw [e, getLast?_append_ne pre hl]

/-! ## `decimalFold`: base-10 value, most significant digit first -/

theorem decimalVal_ascii (c : Nat) (h : isAsciiDigit c = true) : decimalVal c = some (c - 48) := by
  simp only [isAsciiDigit, Bool.and_eq_true, decide_eq_true_eq] at h
  unfold decimalVal decimalRuns
  rw [decimalValIn]
  simp [h]

/-- appending a digit multiplies by ten and adds it (so the *last* character is the units
digit); appending anything else makes the whole string a non-number -/
theorem decimalFold_snoc (s : Str) (c v : Nat) :
    decimalFold (s ++ [c]) v =
      match decimalFold s v, decimalVal c with
      | some w, some d => some (10 * w + d)
      | _, _ => none := by
  induction s generalizing v with
  | nil =>
    simp only [List.nil_append, decimalFold]
    cases decimalVal c <;> rfl
  | cons x r ih =>
    simp only [List.cons_append, decimalFold]
    cases decimalVal x with
    | none => simp
    | some d => exact ih _

/-- on ASCII digits `decimalFold` is the fold of `parseDec` -/
theorem decimalFold_ascii (s : Str) (v : Nat) (h : s.all isAsciiDigit = true) :
    decimalFold s v = some (s.foldl (fun v c => 10 * v + (c - 48)) v) := by
  induction s generalizing v with
  | nil => rfl
  | cons c r ih =>
    rw [List.all_cons, Bool.and_eq_true] at h
    simp only [decimalFold, decimalVal_ascii c h.1, List.foldl_cons]
    exact ih _ h.2

/-- the digit values themselves: ASCII `0`..`9` are 0..9 (and e.g. ARABIC-INDIC DIGIT THREE is 3,
SUPERSCRIPT TWO is not a decimal digit) -/
theorem decimalVal_samples :
    (∀ c, isAsciiDigit c = true → decimalVal c = some (c - 48)) ∧
    decimalVal 1635 = some 3 ∧ decimalVal 65296 = some 0 ∧ decimalVal 178 = none ∧
    decimalVal 43 = none ∧ decimalVal 32 = none ∧ decimalVal 95 = none :=
  ⟨decimalVal_ascii, by decide +kernel⟩

/-! ## the host-name grammar of the property text, stated without `stripDot` / `splitOn` -/

theorem label_all {l : Str} (h : Spec.label l = true) : l.all Spec.labelChar = true := by
  simp only [Spec.label, Bool.and_eq_true] at h
  exact h.1.2

theorem label_ne_nil {l : Str} (h : Spec.label l = true) : l ≠ [] := by
  rintro rfl; simp [Spec.label] at h

/-- **The grammar, from the text.**  `Spec.hostname s` holds exactly when `s` is - ignoring one
trailing dot - a non-empty sequence of labels joined by dots, 1-253 characters long, every label
being 1-63 letters / digits / hyphens / underscores not beginning or ending with a hyphen, the
last label not all digits.  (No reference to the model's helper functions.) -/
theorem hostname_grammar (s : Str) :
    Spec.hostname s = true ↔
      ∃ ls : List Str, ls ≠ [] ∧ (s = joinWith 46 ls ∨ s = joinWith 46 ls ++ [46]) ∧
        (∀ l ∈ ls, Spec.label l = true) ∧ (ls.getLastD []).all Spec.isDigit = false ∧
        1 ≤ (joinWith 46 ls).length ∧ (joinWith 46 ls).length ≤ 253 := by
  simp only [Spec.hostname, Bool.and_eq_true, decide_eq_true_eq, List.all_eq_true,
    Bool.not_eq_eq_eq_not, Bool.not_true]
  constructor
  · rintro ⟨⟨h1, h2⟩, h3, h4⟩
    refine ⟨splitOn 46 (stripDot s), splitOn_ne_nil _ _, ?_, h3, h4, ?_⟩
    · rw [splitOn_join]
      rcases stripDot_spec s with ⟨t, e1, e2⟩ | ⟨_, e2⟩
      · exact Or.inr (e2 ▸ e1)
      · exact Or.inl e2.symm
    · rw [splitOn_join]; exact ⟨h1, h2⟩
  · rintro ⟨ls, hne, hs, hlab, hdig, h1, h2⟩
    -- the join does not end in a dot, because its last label does not
    have hlast : Spec.label (ls.getLastD []) = true := getLastD_of_forall hne hlab
    have hnd : (joinWith 46 ls).getLast? ≠ some 46 := by
      rw [joinWith_getLast 46 ls hne (label_ne_nil hlast)]
      exact fun e => not_mem_of_all (label_all hlast) rfl (List.mem_of_getLast? e)
    have hstrip : stripDot s = joinWith 46 ls := by
      rcases hs with rfl | rfl
      · exact stripDot_other _ hnd
      · exact stripDot_snoc _
    rw [hstrip, splitOn_joinWith 46 ls hne fun l hl => not_mem_of_all (label_all (hlab l hl)) rfl]
    exact ⟨⟨h1, h2⟩, hlab, hdig⟩

/-- non-vacuity: "ex.com" and "ex.com." are names, "ex.com.." and "ex.1" are not -/
example : Spec.hostname [101, 120, 46, 99, 111, 109] = true ∧
    Spec.hostname [101, 120, 46, 99, 111, 109, 46] = true ∧
    Spec.hostname [101, 120, 46, 99, 111, 109, 46, 46] = false ∧
    Spec.hostname [101, 120, 46, 49] = false := by decide +kernel

end Aiorpcx.C18
