import Aiorpcx.C18.Helpers
/-!
# C18 — decimal printing and parsing (`str(int)`, `int(str)` on ASCII digits), IPv4 dotted quads
-/
namespace Aiorpcx.C18

/-- with enough fuel `digitsAux` prints `n` in front of the accumulator -/
theorem digitsAux_eq (n : Nat) : ∀ f acc, n < f → digitsAux f n acc = showDec n ++ acc := by
  induction n using Nat.strongRecOn with
  | _ n ih =>
    intro f acc hf
    obtain ⟨f, rfl⟩ : ∃ g, f = g + 1 := ⟨f - 1, by omega⟩
    rw [showDec, digitsAux, digitsAux]
    split
    · rfl
    · have hlt : n / 10 < n := Nat.div_lt_self (by omega) (by decide)
      rw [ih _ hlt f _ (Nat.lt_of_lt_of_le hlt (Nat.le_of_lt_succ hf)), ih _ hlt n _ hlt]
      simp

theorem showDec_lt10 (n : Nat) (h : n < 10) : showDec n = [48 + n] := by
  simp [showDec, digitsAux, h]

theorem showDec_ge10 (n : Nat) (h : 10 ≤ n) : showDec n = showDec (n / 10) ++ [48 + n % 10] := by
  rw [showDec, digitsAux, if_neg (by omega),
    digitsAux_eq (n / 10) n _ (Nat.div_lt_self (by omega) (by decide))]

/-- the digits of `n` are those of `n / 10` followed by the digit `n % 10` -/
theorem showDec_induction {P : Nat → Str → Prop} (small : ∀ n, n < 10 → P n [48 + n])
    (step : ∀ n, 10 ≤ n → P (n / 10) (showDec (n / 10)) → P n (showDec (n / 10) ++ [48 + n % 10]))
    (n : Nat) : P n (showDec n) := by
  induction n using Nat.strongRecOn with
  | _ n ih =>
    by_cases h : n < 10
    · rw [showDec_lt10 n h]; exact small n h
    · rw [showDec_ge10 n (by omega)]
      exact step n (by omega) (ih _ (Nat.div_lt_self (by omega) (by decide)))

theorem showDec_ne_nil (n : Nat) : showDec n ≠ [] :=
  showDec_induction (P := fun _ s => s ≠ []) (fun _ _ => by simp) (fun _ _ _ => by simp) n

theorem showDec_digits (n : Nat) : (showDec n).all isAsciiDigit = true :=
  showDec_induction (P := fun _ s => s.all isAsciiDigit = true)
    (fun n h => by simp [isAsciiDigit]; omega)
    (fun n _ ih => by simp [ih, isAsciiDigit]; omega) n

theorem parseDec_append (l : Str) (c : Nat) : parseDec (l ++ [c]) = 10 * parseDec l + (c - 48) := by
  simp [parseDec, List.foldl_append]

theorem parseDec_showDec (n : Nat) : parseDec (showDec n) = n :=
  showDec_induction (P := fun n s => parseDec s = n) (fun n _ => by simp [parseDec])
    (fun n _ ih => by rw [parseDec_append, ih]; omega) n

/-- no leading zero, except for `0` itself -/
theorem showDec_head (n : Nat) : (showDec n).head? = some 48 → n = 0 :=
  showDec_induction (P := fun n s => s.head? = some 48 → n = 0)
    (fun n _ h => by simpa using h)
    (fun n h10 ih h => by
      cases hs : showDec (n / 10) with
      | nil => exact absurd hs (showDec_ne_nil _)
      | cons y r =>
        rw [hs] at ih h
        have := ih h
        omega) n

/-- the facts about `str(n)` that the round trips need -/
theorem showDec_spec (n : Nat) :
    showDec n ≠ [] ∧ (showDec n).all isAsciiDigit = true ∧ parseDec (showDec n) = n ∧
    ((showDec n).head? = some 48 → showDec n = [48]) :=
  ⟨showDec_ne_nil n, showDec_digits n, parseDec_showDec n, fun h => by rw [showDec_head n h]; rfl⟩

theorem showDec_length_le (k n : Nat) (h : n < 10 ^ (k + 1)) : (showDec n).length ≤ k + 1 := by
  induction k generalizing n with
  | zero => rw [showDec_lt10 n (by simpa using h)]; simp
  | succ k ih =>
    by_cases h10 : n < 10
    · rw [showDec_lt10 n h10]; simp
    · rw [showDec_ge10 n (by omega)]
      have := ih (n / 10) (Nat.div_lt_of_lt_mul (by rw [Nat.pow_succ] at h; omega))
      simp; omega

theorem parseOctet_showDec (n : Nat) (h : n < 256) : parseOctet (showDec n) = some n := by
  have hl : (showDec n).length ≤ 3 := showDec_length_le 2 n (by omega)
  have e4 : (showDec n != [48] && (showDec n).head? == some 48) = false := by
    by_cases hh : (showDec n).head? = some 48
    · rw [showDec_head n hh]; rfl
    · simp [hh]
  simp only [parseOctet, List.isEmpty_eq_false_iff.mpr (showDec_ne_nil n), showDec_digits,
    parseDec_showDec, e4, Bool.not_true, Bool.or_self, Bool.false_eq_true, ↓reduceIte,
    if_neg (show ¬ (showDec n).length > 3 by omega), if_neg (show ¬ n > 255 by omega)]

theorem splitOn_show4 (x : IP4) :
    splitOn 46 (show4 x) = [showDec x.a, showDec x.b, showDec x.c, showDec x.d] := by
  have nd := fun n => not_mem_of_all (c := 46) (showDec_digits n) rfl
  rw [show4, splitOn_append 46 _ _ (nd _), splitOn_append 46 _ _ (nd _),
    splitOn_append 46 _ _ (nd _), splitOn_no_sep 46 _ (nd _)]

theorem show4_getLast (x : IP4) : (show4 x).getLast? = (showDec x.d).getLast? :=
  joinWith_getLast 46 [showDec x.a, showDec x.b, showDec x.c, showDec x.d] (by simp)
    (showDec_ne_nil x.d)

theorem parse4_show4 (x : IP4) (hx : x.valid) : parse4 (show4 x) = some x := by
  obtain ⟨ha, hb, hc, hd⟩ := hx
  simp only [parse4, splitOn_show4, parseOctet_showDec _ ha, parseOctet_showDec _ hb,
    parseOctet_showDec _ hc, parseOctet_showDec _ hd]

theorem parseOctet_some {s : Str} {n : Nat} (h : parseOctet s = some n) :
    s.all isAsciiDigit = true ∧ n < 256 := by
  simp only [parseOctet, Option.ite_none_left_eq_some, Option.some.injEq, Bool.or_eq_true,
    Bool.not_eq_eq_eq_not, Bool.not_true, not_or, Bool.not_eq_false] at h
  exact ⟨h.1.2, by omega⟩

theorem parse4_chars {s : Str} {x : IP4} (h : parse4 s = some x) :
    (∀ c ∈ s, isAsciiDigit c = true ∨ c = 46) ∧ x.valid := by
  unfold parse4 at h
  split at h
  · next a b c d hs =>
    split at h
    · next ha hb hc hd =>
      have A := parseOctet_some ha
      have B := parseOctet_some hb
      have C := parseOctet_some hc
      have D := parseOctet_some hd
      cases h
      refine ⟨chars_of_pieces ?_, A.2, B.2, C.2, D.2⟩
      simp only [hs, List.forall_mem_cons]
      exact ⟨A.1, B.1, C.1, D.1, fun _ h => nomatch h⟩
    · cases h
  · cases h

theorem show4_chars (x : IP4) : ∀ c ∈ show4 x, isAsciiDigit c = true ∨ c = 46 := by
  refine chars_of_pieces ?_
  simp only [splitOn_show4, List.forall_mem_cons, showDec_digits]
  exact ⟨trivial, trivial, trivial, trivial, fun _ h => nomatch h⟩

end Aiorpcx.C18
