import Aiorpcx.C18.Dec
/-!
# C18 — ports as strings, `_split_address`, and the print/parse round trips, for any configuration
that validates exactly the property's grammar (`CfgOK`) and any IPv6 library obeying `IPLaws`
-/
namespace Aiorpcx.C18

/-- what the round trips need from a configuration (`cfg_ok`, `repaired_cfg_ok` in `Props`) -/
structure CfgOK (cfg : Cfg) : Prop where
  host : ∀ s, isValidHostnameStr cfg s = Spec.hostname s
  proto : ∀ s, cfg.protocol.test s = Spec.protocol s
  lo : cfg.portLo = 1
  hi : cfg.portHi = 65535
  digits : cfg.maxStrDigits = 0 ∨ 5 ≤ cfg.maxStrDigits

/-- the laws assumed of the IPv6 half of `ipaddress` -/
structure IPLaws {α : Type} (L : IPLib α) : Prop where
  /-- `IPv6Address(str(ip)) == ip` -/
  roundtrip : ∀ x, L.parse6 (L.show6 x) = some x
  /-- the text of an IPv6 address contains a colon -/
  colon : ∀ x, 58 ∈ L.show6 x

/-- the value of a string of Unicode decimal digits read in base 10 (`none`: empty, or some
character is not a decimal digit) -/
def Spec.decimalValue (s : Str) : Option Nat := if s.isEmpty then none else decimalFold s 0

theorem decimalFold_some_isDigit (s : Str) (v w : Nat) (h : decimalFold s v = some w) :
    s.all isDigitChar = true := by
  induction s generalizing v with
  | nil => rfl
  | cons c r ih =>
    simp only [decimalFold] at h
    cases hd : decimalVal c with
    | none => simp [hd] at h
    | some d =>
      simp only [hd] at h
      simp [isDigitChar, hd, ih _ h]

/-- `int()` reads only strings on which `isdigit()` is true, so the `isdigit()` test of
`validate_port` refuses nothing that has a decimal value -/
theorem decimalValue_eq (s : Str) :
    Spec.decimalValue s = if isDigitStr s then decimalFold s 0 else none := by
  unfold Spec.decimalValue isDigitStr
  cases hf : decimalFold s 0 with
  | none => simp
  | some w => simp [decimalFold_some_isDigit s 0 w hf]

theorem validatePort_str {α : Type} (cfg : Cfg) (s : Str) :
    validatePort (α := α) cfg (.str s) =
      if cfg.maxStrDigits ≠ 0 ∧ s.length > cfg.maxStrDigits then .error .valueError
      else match Spec.decimalValue s with
        | some n => portRange cfg n
        | none => .error .valueError := by
  simp only [validatePort, pyIntOfDigits, decimalValue_eq]
  by_cases hlim : cfg.maxStrDigits ≠ 0 ∧ s.length > cfg.maxStrDigits
  · simp only [if_pos hlim]; split <;> rfl
  · simp only [if_neg hlim]
    split
    · cases decimalFold s 0 <;> rfl
    · rfl

theorem validatePort_ascii {α : Type} (cfg : Cfg) (s : Str) (hne : s ≠ [])
    (hd : s.all isAsciiDigit = true) (hlen : cfg.maxStrDigits = 0 ∨ s.length ≤ cfg.maxStrDigits) :
    validatePort (α := α) cfg (.str s) = portRange cfg (Int.ofNat (parseDec s)) := by
  rw [validatePort_str, if_neg (by omega), Spec.decimalValue,
    if_neg (by simpa using hne), decimalFold_ascii s 0 hd]
  rfl

theorem portRange_iff {cfg : Cfg} (ok : CfgOK cfg) (n p : Int) :
    portRange cfg n = .ok p ↔ p = n ∧ 1 ≤ n ∧ n ≤ 65535 := by
  rw [portRange, ok.lo, ok.hi]
  split
  · next h => simp [h, eq_comm]
  · next h => simp [h]

theorem validatePort_showInt {α : Type} {cfg : Cfg} (ok : CfgOK cfg) (p : Int)
    (h1 : 1 ≤ p) (h2 : p ≤ 65535) : validatePort (α := α) cfg (.str (showInt p)) = .ok p := by
  obtain ⟨k, rfl⟩ : ∃ k : Nat, p = k := ⟨p.toNat, by omega⟩
  have hl : (showDec k).length ≤ 5 := showDec_length_le 4 k (by omega)
  have hd := ok.digits
  show validatePort cfg (.str (showDec k)) = _
  rw [validatePort_ascii cfg _ (showDec_ne_nil k) (showDec_digits k) (by omega),
    parseDec_showDec, portRange_iff ok]
  exact ⟨rfl, h1, h2⟩

theorem validatePort_range {α : Type} {cfg : Cfg} (ok : CfgOK cfg) {v : PyVal α} {p : Int}
    (h : validatePort cfg v = .ok p) : 1 ≤ p ∧ p ≤ 65535 := by
  have hr : ∀ n, portRange cfg n = .ok p → 1 ≤ p ∧ p ≤ 65535 := fun n hn => by
    obtain ⟨rfl, h⟩ := (portRange_iff ok n p).1 hn
    exact h
  unfold validatePort at h
  split at h
  · exact hr _ h
  · exact hr _ h
  · split at h
    · split at h
      · exact hr _ h
      · cases h
    · cases h
  · cases h

theorem findIdx_append (c : Nat) (h r : Str) (hn : c ∉ h) :
    findIdx c (h ++ c :: r) = some h.length := by
  induction h with
  | nil => simp [findIdx]
  | cons x t ih =>
    rw [List.mem_cons, not_or] at hn
    simp [findIdx, Ne.symm hn.1, ih hn.2]

theorem rfindIdx_none (c : Nat) (r : Str) (hn : c ∉ r) : rfindIdx c r = none := by
  induction r with
  | nil => rfl
  | cons x t ih =>
    rw [List.mem_cons, not_or] at hn
    simp [rfindIdx, ih hn.2, Ne.symm hn.1]

theorem rfindIdx_append (c : Nat) (h r : Str) (hn : c ∉ r) :
    rfindIdx c (h ++ c :: r) = some h.length := by
  induction h with
  | nil => simp [rfindIdx, rfindIdx_none c r hn]
  | cons x t ih => simp [rfindIdx, ih]

/-- `host:port` where the host neither starts with `[` nor contains a colon -/
theorem splitAddress_plain (h p : Str) (h0 : h.head? ≠ some 91) (h1 : 58 ∉ h) :
    splitAddress (h ++ 58 :: p) = (h, p) := by
  have hh : (h ++ 58 :: p).head? ≠ some 91 := by
    cases h with
    | nil => simp
    | cons x t => exact h0
  unfold splitAddress
  simp only [hh, ↓reduceIte, findIdx_append 58 h p h1]
  simp

/-- `[host]:port` where the port contains no `]` -/
theorem splitAddress_bracket (h p : Str) (hp : 93 ∉ p) :
    splitAddress (91 :: (h ++ 93 :: 58 :: p)) = (h, p) := by
  have e : rfindIdx 93 ((91 :: h) ++ 93 :: 58 :: p) = some (91 :: h).length :=
    rfindIdx_append 93 _ _ (by simp [hp])
  have l2 : ((91 :: h) ++ 93 :: 58 :: p)[(91 :: h).length + 1]? = some 58 := by
    rw [List.getElem?_append_right (Nat.le_add_right _ _)]; simp
  rw [← List.cons_append, splitAddress, e]
  simp only [List.cons_append, List.head?_cons, ↓reduceIte, List.length_cons, List.length_append,
    if_neg (show ¬ h.length + (p.length + 1 + 1) + 1 = h.length + 1 + 1 by omega)]
  rw [← List.cons_append, ← List.length_cons (a := 91), l2, if_pos rfl, List.take_left,
    List.drop_length_add_append]
  rfl

theorem hostname_chars {s : Str} (h : Spec.hostname s = true) :
    ∀ c ∈ s, Spec.labelChar c = true ∨ c = 46 := by
  simp only [Spec.hostname, Bool.and_eq_true, List.all_eq_true] at h
  have ht := chars_of_pieces (p := Spec.labelChar) fun l hl => label_all (h.2.1 l hl)
  rcases stripDot_spec s with ⟨t, rfl, e⟩ | ⟨_, e⟩
  · rw [e] at ht
    intro c hc
    rcases List.mem_append.mp hc with h1 | h1
    · exact ht c h1
    · exact Or.inr (List.mem_singleton.mp h1)
  · rwa [e] at ht

/-- the two hypotheses of `splitAddress_plain`, for a text of `p`-characters and dots where `:` and
`[` are not `p`-characters -/
theorem plain_of_chars {p : Nat → Bool} {s : Str} (h : ∀ c ∈ s, p c = true ∨ c = 46)
    (h58 : p 58 = false) (h91 : p 91 = false) : 58 ∉ s ∧ s.head? ≠ some 91 := by
  have hn : ∀ c, p c = false → c ≠ 46 → c ∉ s := fun c hp hc hm =>
    (h c hm).elim (fun h1 => by rw [hp] at h1; cases h1) hc
  exact ⟨hn 58 h58 (by decide), fun hh => hn 91 h91 (by decide) (List.mem_of_mem_head? hh)⟩

theorem hostname_no_colon {s : Str} (h : Spec.hostname s = true) : 58 ∉ s ∧ s.head? ≠ some 91 :=
  plain_of_chars (hostname_chars h) rfl rfl

theorem show4_no_colon (x : IP4) : 58 ∉ show4 x ∧ (show4 x).head? ≠ some 91 :=
  plain_of_chars (show4_chars x) rfl rfl

theorem hostname_false_of_colon {s : Str} (h : 58 ∈ s) : Spec.hostname s = false :=
  Bool.eq_false_iff.mpr fun hs => (hostname_no_colon hs).1 h

theorem parse4_none_of_colon {s : Str} (h : 58 ∈ s) : parse4 s = none :=
  Option.eq_none_iff_forall_ne_some.mpr fun _ hp =>
    (plain_of_chars (parse4_chars hp).1 rfl rfl).1 h

/-- a dotted quad is never a host name: its last label is all digits -/
theorem hostname_show4 (x : IP4) : Spec.hostname (show4 x) = false := by
  have hstrip : stripDot (show4 x) = show4 x := by
    refine stripDot_other _ fun hl => ?_
    rw [show4_getLast] at hl
    exact not_mem_of_all (showDec_digits x.d) rfl (List.mem_of_getLast? hl)
  have : (showDec x.d).all Spec.isDigit = true := showDec_digits x.d
  simp [Spec.hostname, hstrip, splitOn_show4, this]

def NetAddr.Valid {α : Type} (a : NetAddr α) : Prop :=
  1 ≤ a.port ∧ a.port ≤ 65535 ∧
  match a.host with
  | .name s => Spec.hostname s = true
  | .ip4 x => x.valid
  | .ip6 _ => True

/-- arguments a caller can actually pass: `IPv4Address` objects are well-formed -/
def PyVal.WF {α : Type} : PyVal α → Prop
  | .ip4 x => x.valid
  | _ => True

/-- the host part of `NetAddr.Valid` -/
def Host.Valid {α : Type} : Host α → Prop
  | .name s => Spec.hostname s = true
  | .ip4 x => x.valid
  | .ip6 _ => True

theorem NetAddr.valid_iff {α : Type} (a : NetAddr α) :
    a.Valid ↔ 1 ≤ a.port ∧ a.port ≤ 65535 ∧ a.host.Valid := by
  obtain ⟨h, p⟩ := a
  cases h <;> rfl

theorem classifyHost_str {α : Type} (L : IPLib α) (cfg : Cfg) (ok : CfgOK cfg) (s : Str) :
    classifyHost L cfg (.str s) =
      if Spec.hostname s then .ok (.name s)
      else match ipAddress L s with
        | some h => .ok h
        | none => .error .valueError := by
  rw [classifyHost, ok.host]
  rfl

/-- `ip_address` never answers a host name: its results are addresses -/
theorem ipAddress_is_ip {α : Type} (L : IPLib α) (s : Str) (h : Host α)
    (hs : ipAddress L s = some h) : (∃ x, h = .ip4 x ∧ x.valid) ∨ (∃ x, h = .ip6 x) := by
  unfold ipAddress at hs
  split at hs
  · next x hx =>
    cases hs
    exact Or.inl ⟨x, rfl, (parse4_chars hx).2⟩
  · obtain ⟨y, _, rfl⟩ := Option.map_eq_some_iff.mp hs
    exact Or.inr ⟨y, rfl⟩

theorem classifyHost_valid {α : Type} (L : IPLib α) (cfg : Cfg) (ok : CfgOK cfg) (host : PyVal α)
    (hwf : host.WF) (h : Host α) (hc : classifyHost L cfg host = .ok h) : h.Valid := by
  cases host with
  | ip4 x => cases hc; exact hwf
  | ip6 x => cases hc; trivial
  | str s =>
    rw [classifyHost_str L cfg ok] at hc
    split at hc
    · next hh => cases hc; exact hh
    · split at hc
      · next hip =>
        cases hc
        rcases ipAddress_is_ip L s h hip with ⟨x, rfl, hx⟩ | ⟨x, rfl⟩
        · exact hx
        · trivial
      · cases hc
  | _ => cases hc

theorem mkNetAddress_valid {α : Type} (L : IPLib α) (cfg : Cfg) (ok : CfgOK cfg)
    (host port : PyVal α) (hwf : host.WF) (a : NetAddr α)
    (h : mkNetAddress L cfg host port = .ok a) : a.Valid := by
  unfold mkNetAddress at h
  split at h
  · cases h
  · next hc =>
    split at h
    · cases h
    · next hp =>
      cases h
      have hr := validatePort_range ok hp
      exact (NetAddr.valid_iff _).2 ⟨hr.1, hr.2, classifyHost_valid L cfg ok host hwf _ hc⟩

theorem classifyHost_toStr {α : Type} (L : IPLib α) (laws : IPLaws L) (cfg : Cfg) (ok : CfgOK cfg)
    (h : Host α) (hv : h.Valid) : classifyHost L cfg (.str (h.toStr L)) = .ok h := by
  rw [classifyHost_str L cfg ok]
  cases h with
  | name s => simp only [Host.toStr, show Spec.hostname s = true from hv, ↓reduceIte]
  | ip4 x =>
    simp only [Host.toStr, hostname_show4, Bool.false_eq_true, ↓reduceIte, ipAddress,
      parse4_show4 x hv]
  | ip6 x =>
    have hc := laws.colon x
    simp only [Host.toStr, hostname_false_of_colon hc, Bool.false_eq_true, ↓reduceIte, ipAddress,
      parse4_none_of_colon hc, laws.roundtrip x, Option.map_some]

theorem showInt_no_bracket (n : Int) : 93 ∉ showInt n := by
  cases n with
  | ofNat k => exact not_mem_of_all (showDec_digits k) rfl
  | negSucc k => simpa [showInt] using not_mem_of_all (showDec_digits (k + 1)) rfl

theorem splitAddress_toStr {α : Type} (L : IPLib α) (a : NetAddr α) (hv : a.Valid) :
    splitAddress (a.toStr L) = (a.host.toStr L, showInt a.port) := by
  have hh := ((NetAddr.valid_iff a).1 hv).2.2
  obtain ⟨host, port⟩ := a
  cases host with
  | name s => exact splitAddress_plain s _ (hostname_no_colon hh).2 (hostname_no_colon hh).1
  | ip4 x => exact splitAddress_plain _ _ (show4_no_colon x).2 (show4_no_colon x).1
  | ip6 x => exact splitAddress_bracket _ _ (showInt_no_bracket port)

/-- printing a valid `NetAddress` and parsing the text back gives an equal object -/
theorem netaddr_roundtrip {α : Type} (L : IPLib α) (laws : IPLaws L) (cfg : Cfg) (ok : CfgOK cfg)
    (a : NetAddr α) (hv : a.Valid) :
    NetAddr.fromString L cfg (.str (a.toStr L)) = .ok a := by
  obtain ⟨p1, p2, hh⟩ := (NetAddr.valid_iff a).1 hv
  simp only [NetAddr.fromString, splitAddress_toStr L a hv, mkNetAddress,
    classifyHost_toStr L laws cfg ok _ hh, validatePort_showInt ok _ p1 p2]

def Service.Valid {α : Type} (s : Service α) : Prop :=
  Spec.protocol s.protocol = true ∧ lower s.protocol = s.protocol ∧ s.address.Valid

theorem lowerChar_idem (c : Nat) : lowerChar (lowerChar c) = lowerChar c := by
  grind [lowerChar]

theorem lower_idem (s : Str) : lower (lower s) = lower s := by
  simp [lower, List.map_map, Function.comp_def, lowerChar_idem]

theorem isLetter_lower (c : Nat) : Spec.isLetter (lowerChar c) = Spec.isLetter c := by
  grind [lowerChar, Spec.isLetter]

/-- lower-casing changes only letters, and those stay letters -/
theorem protoTail_lower (c : Nat) : Spec.protoTailChar (lowerChar c) = Spec.protoTailChar c := by
  rw [Spec.protoTailChar, Spec.protoTailChar, isLetter_lower]
  by_cases h : 65 ≤ c ∧ c ≤ 90
  · have : Spec.isLetter c = true := by simp [Spec.isLetter, h]
    simp only [this, Bool.true_or]
  · rw [lowerChar, if_neg h]

theorem protocol_lower (s : Str) : Spec.protocol (lower s) = Spec.protocol s := by
  cases s with
  | nil => rfl
  | cons c r =>
    simp only [lower, List.map_cons, Spec.protocol, isLetter_lower, List.isEmpty_map, List.all_map,
      Function.comp_def, protoTail_lower]

theorem protocol_no_colon {s : Str} (h : Spec.protocol s = true) : 58 ∉ s := by
  cases s with
  | nil => cases h
  | cons c r =>
    simp only [Spec.protocol, Bool.and_eq_true] at h
    rw [List.mem_cons, not_or]
    exact ⟨fun e => by subst e; exact absurd h.1 (by decide), not_mem_of_all h.2.2 (by decide)⟩

theorem splitOnce_scheme (p a : Str) (hp : 58 ∉ p) :
    splitOnce schemeSep (p ++ schemeSep ++ a) = some (p, a) := by
  induction p with
  | nil => simp [splitOnce, schemeSep, isPrefix]
  | cons x t ih =>
    rw [List.mem_cons, not_or] at hp
    have hx : (58 == x) = false := by simpa using hp.1
    have := ih hp.2
    simp only [schemeSep, List.append_assoc, List.cons_append, List.nil_append] at this ⊢
    simp only [splitOnce, isPrefix, hx, Bool.false_and, Bool.false_eq_true, ↓reduceIte, this]

theorem validateProtocol_str {α : Type} (cfg : Cfg) (ok : CfgOK cfg) (s : Str) :
    validateProtocol (α := α) cfg (.str s) =
      if Spec.protocol s then .ok (lower s) else .error .valueError := by
  simp only [validateProtocol, ok.proto]

theorem validateProtocol_valid {α : Type} {cfg : Cfg} (ok : CfgOK cfg) {v : PyVal α} {p : Str}
    (h : validateProtocol cfg v = .ok p) : Spec.protocol p = true ∧ lower p = p := by
  cases v with
  | str t =>
    rw [validateProtocol_str cfg ok] at h
    split at h
    · next ht => cases h; exact ⟨by rw [protocol_lower]; exact ht, lower_idem t⟩
    · cases h
  | _ => cases h

theorem fromString_valid {α : Type} (L : IPLib α) (cfg : Cfg) (ok : CfgOK cfg) (v : PyVal α)
    (a : NetAddr α) (h : NetAddr.fromString L cfg v = .ok a) : a.Valid := by
  cases v with
  | str t => exact mkNetAddress_valid L cfg ok (.str _) (.str _) trivial a h
  | _ => cases h

theorem mkService_valid {α : Type} (L : IPLib α) (cfg : Cfg) (ok : CfgOK cfg)
    (protocol : PyVal α) (address : AddrArg α)
    (haddr : ∀ a, address = .obj a → a.Valid) (s : Service α)
    (h : mkService L cfg protocol address = .ok s) : s.Valid := by
  unfold mkService at h
  split at h
  · cases h
  · next p hp =>
    have hpv := validateProtocol_valid ok hp
    split at h
    · next a => cases h; exact ⟨hpv.1, hpv.2, haddr a rfl⟩
    · split at h
      · cases h
      · next a ha => cases h; exact ⟨hpv.1, hpv.2, fromString_valid L cfg ok _ a ha⟩

/-- printing a valid `Service` and parsing the text back gives an equal object -/
theorem service_roundtrip_of {α : Type} (L : IPLib α) (laws : IPLaws L) (cfg : Cfg) (ok : CfgOK cfg)
    (s : Service α) (hv : s.Valid) :
    Service.fromString L cfg (.str (s.toStr L)) = .ok s := by
  obtain ⟨proto, addr⟩ := s
  obtain ⟨h1, h2, h3⟩ := hv
  simp only at h1 h2
  simp only [Service.fromString, Service.toStr, splitOnce_scheme proto _ (protocol_no_colon h1),
    netaddr_roundtrip L laws cfg ok addr h3, mkService, validateProtocol_str cfg ok, h1,
    ↓reduceIte, h2]

end Aiorpcx.C18
