import Aiorpcx.C06.Model
/-! The reader one byte at a time: `procPart_nil` / `procPart_cons` replace the well-founded
    recursion over `splitNL` by structural equations, from which the token machine (`run_eq_trun`)
    and a kernel-evaluable form of `run` (`run_eq_evalRun`) follow by plain induction. -/
namespace Aiorpcx.C06

theorem procPart_nil (max : Nat) (acc : Bytes) (sync : Bool) :
    procPart max acc sync [] =
      if fits max acc.length then ([], acc, sync) else ([Out.memErr], [], true) := by
  rw [procPart]
  split
  · next h => cases h; simp
  · next h => cases h

/-- `procPart` unfolded once; an empty residual needs no case of its own -/
theorem procPart_eq (max : Nat) (acc : Bytes) (sync : Bool) (part : Bytes) :
    procPart max acc sync part =
      match splitNL part with
      | (pre, none) =>
          if fits max (acc ++ pre).length then ([], acc ++ pre, sync) else ([Out.memErr], [], true)
      | (pre, some residual) =>
          let r := procPart max [] false residual
          ((if sync then [] else [Out.msg (acc ++ pre)]) ++ r.1, r.2.1, r.2.2) := by
  rw [procPart]
  split
  · next h => rw [h]
  · next pre res h =>
    rw [h]
    cases res with
    | nil => simp [procPart_nil, fits]
    | cons => simp

theorem procPart_cons (max : Nat) (acc : Bytes) (sync : Bool) (b : UInt8) (bs : Bytes) :
    procPart max acc sync (b :: bs) =
      if b == NL then
        let r := procPart max [] false bs
        ((if sync then [] else [Out.msg acc]) ++ r.1, r.2.1, r.2.2)
      else procPart max (acc ++ [b]) sync bs := by
  rw [procPart_eq, splitNL]
  by_cases hb : (b == NL) = true
  · simp only [hb, if_true, List.append_nil]
  · rw [if_neg hb, if_neg hb, procPart_eq max (acc ++ [b])]
    rcases splitNL bs with ⟨pre, _ | res⟩ <;> simp

theorem procPart_append (max : Nat) (pre rest : Bytes) (h : ∀ b ∈ pre, (b == NL) = false) :
    ∀ (acc : Bytes) (sync : Bool),
      procPart max acc sync (pre ++ rest) = procPart max (acc ++ pre) sync rest := by
  induction pre with
  | nil => intro acc sync; rw [List.nil_append, List.append_nil]
  | cons b bs ih =>
    intro acc sync
    rw [List.cons_append, procPart_cons, h b List.mem_cons_self, if_neg Bool.false_ne_true,
      ih (fun x hx => h x (List.mem_cons_of_mem b hx)), List.append_assoc, List.singleton_append]

theorem trun_append (max : Nat) (st : Bytes × Bool) (a b : List Tok) :
    trun max st (a ++ b) =
      ((trun max st a).1 ++ (trun max (trun max st a).2 b).1, (trun max (trun max st a).2 b).2) := by
  induction a generalizing st with
  | nil => rfl
  | cons t ts ih => simp only [List.cons_append, trun, ih, List.append_assoc]

theorem procPart_eq_trun (max : Nat) (part : Bytes) : ∀ (acc : Bytes) (sync : Bool),
    procPart max acc sync part =
      let r := trun max (acc, sync) (part.map Tok.byte ++ [Tok.cut])
      (r.1, r.2.1, r.2.2) := by
  induction part with
  | nil =>
    intro acc sync
    rw [procPart_nil]
    simp only [List.map_nil, List.nil_append, trun, tstep]
    split <;> rfl
  | cons b bs ih =>
    intro acc sync
    rw [procPart_cons]
    simp only [List.map_cons, List.cons_append, trun, tstep]
    split <;> simp [ih]

theorem run_eq_trun (max : Nat) (chunks : List Bytes) : ∀ (acc : Bytes) (sync : Bool),
    run max acc sync chunks = (trun max (acc, sync) (toks chunks)).1 := by
  induction chunks with
  | nil => intro acc sync; rfl
  | cons c cs ih =>
    intro acc sync
    rw [run, procPart_eq_trun, ih]
    simp only [toks, List.flatMap_cons, trun_append]

/-- `procPart` with the rest of the run as a continuation: structurally recursive, so that the
    kernel can evaluate it, and the outputs are consed as they arise -/
def evalPart (max : Nat) (k : Bytes → Bool → List Out) : Bytes → Bytes → Bool → List Out
  | [], acc, sync => if fits max acc.length then k acc sync else .memErr :: k [] true
  | b :: bs, acc, sync =>
    if b == NL then
      if sync then evalPart max k bs [] false else .msg acc :: evalPart max k bs [] false
    else evalPart max k bs (acc ++ [b]) sync

def evalRun (max : Nat) : List Bytes → Bytes → Bool → List Out
  | [], _, _ => []
  | c :: cs, acc, sync => evalPart max (evalRun max cs) c acc sync

theorem evalPart_eq (max : Nat) (k : Bytes → Bool → List Out) (part : Bytes) :
    ∀ (acc : Bytes) (sync : Bool), evalPart max k part acc sync =
      (procPart max acc sync part).1 ++
        k (procPart max acc sync part).2.1 (procPart max acc sync part).2.2 := by
  induction part with
  | nil => intro acc sync; rw [evalPart, procPart_nil]; split <;> rfl
  | cons b bs ih =>
    intro acc sync
    rw [evalPart, procPart_cons]
    split
    · cases sync <;> simp [ih]
    · exact ih _ _

theorem run_eq_evalRun (max : Nat) : ∀ (chunks : List Bytes) (acc : Bytes) (sync : Bool),
    run max acc sync chunks = evalRun max chunks acc sync
  | [], _, _ => rfl
  | c :: cs, acc, sync => by
    rw [run, evalRun, evalPart_eq]
    simp only [run_eq_evalRun max cs]

end Aiorpcx.C06
