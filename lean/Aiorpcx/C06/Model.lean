/-! C06 — model of `NewlineFramer` (aiorpcx/framing.py). No Mathlib imports: the driver links this. -/
namespace Aiorpcx.C06

abbrev Bytes := List UInt8
def NL : UInt8 := 10

inductive Out where
  | msg (b : Bytes)
  | memErr
  deriving Repr, DecidableEq

/-- ok to keep accumulating -/
def fits (max n : Nat) : Bool := n ≤ max || max == 0

/-- split at first newline: (bytes before it, bytes after it if there is one) -/
def splitNL : Bytes → Bytes × Option Bytes
  | [] => ([], none)
  | b :: bs =>
      if b == NL then ([], some bs)
      else let r := splitNL bs; (b :: r.1, r.2)

theorem splitNL_none (p pre : Bytes) (h : splitNL p = (pre, none)) :
    p = pre ∧ ∀ b ∈ p, (b == NL) = false := by
  induction p generalizing pre with
  | nil => cases h; exact ⟨rfl, List.forall_mem_nil _⟩
  | cons b bs ih =>
    rw [splitNL] at h
    by_cases hb : (b == NL) = true
    · rw [if_pos hb] at h; cases h
    · rw [if_neg hb] at h
      obtain ⟨rfl, h2⟩ := Prod.mk.inj h
      have := ih _ (Prod.ext rfl h2)
      exact ⟨congrArg (b :: ·) this.1, List.forall_mem_cons.2 ⟨Bool.eq_false_iff.2 hb, this.2⟩⟩

theorem splitNL_some (p pre r : Bytes) (h : splitNL p = (pre, some r)) :
    p = pre ++ NL :: r ∧ ∀ b ∈ pre, (b == NL) = false := by
  induction p generalizing pre with
  | nil => cases h
  | cons b bs ih =>
    rw [splitNL] at h
    by_cases hb : (b == NL) = true
    · rw [if_pos hb] at h; cases h
      exact ⟨by rw [eq_of_beq hb]; rfl, List.forall_mem_nil _⟩
    · rw [if_neg hb] at h
      obtain ⟨rfl, h2⟩ := Prod.mk.inj h
      have := ih _ (Prod.ext rfl h2)
      exact ⟨congrArg (b :: ·) this.1, List.forall_mem_cons.2 ⟨Bool.eq_false_iff.2 hb, this.2⟩⟩

theorem splitNL_some_length : ∀ (p pre r : Bytes), splitNL p = (pre, some r) → r.length < p.length :=
  fun p pre r h => by
    rw [(splitNL_some p pre r h).1, List.length_append, List.length_cons]
    omega

/-- chunk-level model mirroring `NewlineFramer.receive_message`:
    process one "part" (residual or chunk), given call-local accumulator and sync flag -/
def procPart (max : Nat) (acc : Bytes) (sync : Bool) (part : Bytes) : List Out × Bytes × Bool :=
  match h : splitNL part with
  | (pre, none) =>
      let acc' := acc ++ pre
      if fits max acc'.length then ([], acc', sync) else ([Out.memErr], [], true)
  | (pre, some residual) =>
      let o : List Out := if sync then [] else [Out.msg (acc ++ pre)]
      if residual.isEmpty then (o, [], false)
      else
        let r := procPart max [] false residual
        (o ++ r.1, r.2.1, r.2.2)
termination_by part.length
decreasing_by exact splitNL_some_length _ _ _ h

def run (max : Nat) : Bytes → Bool → List Bytes → List Out
  | _, _, [] => []
  | acc, sync, c :: cs =>
      let r := procPart max acc sync c
      r.1 ++ run max r.2.1 r.2.2 cs

/-- the same reader, with its outputs grouped by the chunk during whose processing they were
    produced (`receive_message()` returns a message while it is working on the chunk - or on the
    residual of the chunk - that carried the message's newline) -/
def runChunks (max : Nat) : Bytes → Bool → List Bytes → List (Bytes × List Out)
  | _, _, [] => []
  | acc, sync, c :: cs =>
      let r := procPart max acc sync c
      (c, r.1) :: runChunks max r.2.1 r.2.2 cs

/-- what can happen to the reader between two chunks: nothing, or the pending
    `receive_message()` call is cancelled while it waits for data and a new call is made.
    (Outside the property as stated - the text does not speak about cancellation; modelled only
    to document what the code does, see `cancel_*` in Props.lean.) -/
inductive Ev where
  | chunk (c : Bytes)
  | cancel
  deriving Repr, DecidableEq

/-- `parts` / `buffer_size` are locals of `receive_message`: a cancelled call forgets them;
    `synchronizing` (and `residual`, empty while the call waits) live on the framer -/
def runEv (max : Nat) : Bytes → Bool → List Ev → List Out
  | _, _, [] => []
  | acc, sync, .chunk c :: es =>
      let r := procPart max acc sync c
      r.1 ++ runEv max r.2.1 r.2.2 es
  | _, sync, .cancel :: es => runEv max [] sync es

/-- state `(parts joined, synchronizing)` of the waiting reader after the chunks `cs` -/
def stateAfter (max : Nat) : Bytes → Bool → List Bytes → Bytes × Bool
  | acc, sync, [] => (acc, sync)
  | acc, sync, c :: cs =>
      let r := procPart max acc sync c
      stateAfter max r.2.1 r.2.2 cs

inductive Tok where
  | byte (b : UInt8)   -- includes newline
  | cut
  deriving Repr, DecidableEq

def tstep (max : Nat) (st : Bytes × Bool) : Tok → List Out × (Bytes × Bool)
  | .byte b =>
      if b == NL then
        (if st.2 then [] else [Out.msg st.1], ([], false))
      else ([], (st.1 ++ [b], st.2))
  | .cut =>
      if fits max st.1.length then ([], st) else ([Out.memErr], ([], true))

def trun (max : Nat) : (Bytes × Bool) → List Tok → List Out × (Bytes × Bool)
  | st, [] => ([], st)
  | st, t :: ts =>
      let r := tstep max st t
      let r2 := trun max r.2 ts
      (r.1 ++ r2.1, r2.2)

def toks (chunks : List Bytes) : List Tok :=
  chunks.flatMap (fun c => c.map Tok.byte ++ [Tok.cut])

/-- `NewlineFramer.frame` -/
def frame (m : Bytes) : Bytes := m ++ [NL]

/-- the bytes carried by a token list (cuts erased, newlines kept) -/
def bytesOf : List Tok → Bytes
  | [] => []
  | .byte b :: ts => b :: bytesOf ts
  | .cut :: ts => bytesOf ts

/-- SPEC side: the newline-terminated segments of a byte stream, and the unterminated rest. -/
def segments : Bytes → List Bytes × Bytes
  | [] => ([], [])
  | b :: bs =>
      let r := segments bs
      if b == NL then ([] :: r.1, r.2)
      else match r.1 with
        | [] => ([], b :: r.2)
        | s :: ss => ((b :: s) :: ss, r.2)

end Aiorpcx.C06
