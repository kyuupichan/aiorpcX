import Aiorpcx.C06.Lemmas
namespace Aiorpcx.C06

def isSegTok : Tok → Bool
  | .byte b => b != NL
  | .cut => true

theorem isSegTok_iff (t : Tok) : isSegTok t = true ↔ t ≠ Tok.byte NL := by
  cases t with
  | byte b => simp [isSegTok]
  | cut => simp [isSegTok]

theorem fits_mono {max m n : Nat} (h : fits max n = true) (hmn : m ≤ n) : fits max m = true := by
  simp only [fits, Bool.or_eq_true, decide_eq_true_eq, beq_iff_eq] at h ⊢
  omega

theorem trun_byte (max : Nat) (acc : Bytes) (sync : Bool) (b : UInt8) (ts : List Tok)
    (hb : (b == NL) = false) :
    trun max (acc, sync) (.byte b :: ts) = trun max (acc ++ [b], sync) ts := by
  rw [trun, tstep, hb]; rfl

theorem trun_cut (max : Nat) (acc : Bytes) (sync : Bool) (ts : List Tok) :
    trun max (acc, sync) (.cut :: ts) =
      if fits max acc.length then trun max (acc, sync) ts
      else (Out.memErr :: (trun max ([], true) ts).1, (trun max ([], true) ts).2) := by
  rw [trun, tstep]; split <;> rfl

/-- Running the tokens of one newline-free stretch: only `memErr` can come out; if none does the
    bytes are accumulated intact; if one does, the stretch (with what was already buffered) is
    over the limit and the machine is resynchronising. -/
theorem seg_run (max : Nat) (seg : List Tok) (hseg : ∀ t ∈ seg, isSegTok t = true) :
    ∀ (acc : Bytes) (sync : Bool),
      let r := trun max (acc, sync) seg
      (∀ o ∈ r.1, o = Out.memErr) ∧
      (r.1 = [] → r.2 = (acc ++ bytesOf seg, sync)) ∧
      (r.1 ≠ [] → r.2.2 = true ∧ fits max (acc ++ bytesOf seg).length = false) ∧
      (fits max (acc ++ bytesOf seg).length = true → r.1 = []) := by
  induction seg with
  | nil =>
    intro acc sync
    exact ⟨List.forall_mem_nil _, fun _ => by rw [bytesOf, List.append_nil]; rfl,
      fun h => absurd rfl h, fun _ => rfl⟩
  | cons t ts ih =>
    intro acc sync
    have hseg' := List.forall_mem_cons.1 hseg
    cases t with
    | byte b =>
      have hb : (b == NL) = false := by simpa [isSegTok] using hseg'.1
      have := ih hseg'.2 (acc ++ [b]) sync
      rw [List.append_assoc, List.singleton_append] at this
      rw [trun_byte max acc sync b ts hb, bytesOf]
      exact this
    | cut =>
      rw [trun_cut, bytesOf]
      split
      · exact ih hseg'.2 acc sync
      · next hf =>
        obtain ⟨hall, hnil, hne, -⟩ := ih hseg'.2 [] true
        have hover : fits max (acc ++ bytesOf ts).length = false :=
          Bool.eq_false_iff.2 fun h => hf (fits_mono h (by rw [List.length_append]; omega))
        refine ⟨List.forall_mem_cons.2 ⟨rfl, hall⟩, fun h => absurd h (List.cons_ne_nil _ _),
          fun _ => ⟨?_, hover⟩, fun h => ?_⟩
        · by_cases hr : (trun max ([], true) ts).1 = []
          · exact congrArg Prod.snd (hnil hr)
          · exact (hne hr).1
        · rw [hover] at h; cases h

/-- renewal: a newline always leaves the machine in its initial state -/
theorem after_newline (max : Nat) (st : Bytes × Bool) : (tstep max st (.byte NL)).2 = ([], false) := by
  simp [tstep]

/-- one complete segment from the initial state: either exactly `[msg bytes]`, or only `memErr`s
    (at least one) and then the segment is over the limit; a fitting segment is always delivered -/
theorem segment_outcome (max : Nat) (seg : List Tok) (hseg : ∀ t ∈ seg, isSegTok t = true) :
    let r := trun max ([], false) (seg ++ [.byte NL])
    r.2 = ([], false) ∧
    ((r.1 = [Out.msg (bytesOf seg)]) ∨
     (r.1 ≠ [] ∧ (∀ o ∈ r.1, o = Out.memErr) ∧ fits max (bytesOf seg).length = false)) ∧
    (fits max (bytesOf seg).length = true → r.1 = [Out.msg (bytesOf seg)]) := by
  obtain ⟨hall, hnil, hne, hfit⟩ := seg_run max seg hseg [] false
  rw [List.nil_append] at hnil hne hfit
  have hdel (he : (trun max ([], false) seg).1 = []) :
      (trun max ([], false) (seg ++ [.byte NL])).1 = [Out.msg (bytesOf seg)] := by
    rw [trun_append, he, hnil he]; rfl
  refine ⟨by rw [trun_append]; rfl, ?_, fun hf => hdel (hfit hf)⟩
  by_cases he : (trun max ([], false) seg).1 = []
  · exact Or.inl (hdel he)
  · have hout : (trun max ([], false) (seg ++ [.byte NL])).1 = (trun max ([], false) seg).1 := by
      rw [trun_append, trun, tstep, if_pos (beq_self_eq_true NL), (hne he).1]
      exact List.append_nil _
    exact Or.inr ⟨hout ▸ he, hout ▸ hall, (hne he).2⟩

theorem segments_noNL (p : Bytes) (h : ∀ b ∈ p, (b == NL) = false) : segments p = ([], p) := by
  induction p with
  | nil => rfl
  | cons b bs ih =>
    have h' := List.forall_mem_cons.1 h
    rw [segments, ih h'.2, h'.1]
    rfl

/-- the first newline closes the first segment -/
theorem segments_append_NL (pre rest : Bytes) (h : ∀ b ∈ pre, (b == NL) = false) :
    segments (pre ++ NL :: rest) = (pre :: (segments rest).1, (segments rest).2) := by
  induction pre with
  | nil => rw [List.nil_append, segments, if_pos (beq_self_eq_true NL)]
  | cons b bs ih =>
    have h' := List.forall_mem_cons.1 h
    rw [List.cons_append, segments, ih h'.2, h'.1]
    rfl

/-- every token list is a sequence of newline-terminated stretches and an unterminated rest -/
theorem exists_segs (ts : List Tok) :
    ∃ (segs : List (List Tok)) (tail : List Tok),
      ts = segs.flatMap (· ++ [Tok.byte NL]) ++ tail ∧
      (∀ s ∈ segs, ∀ t ∈ s, isSegTok t = true) ∧ (∀ t ∈ tail, isSegTok t = true) := by
  induction ts with
  | nil => exact ⟨[], [], rfl, List.forall_mem_nil _, List.forall_mem_nil _⟩
  | cons t ts ih =>
    obtain ⟨segs, tail, rfl, hs, ht⟩ := ih
    by_cases hnl : t = Tok.byte NL
    · exact ⟨[] :: segs, tail, by rw [hnl]; rfl,
        List.forall_mem_cons.2 ⟨List.forall_mem_nil _, hs⟩, ht⟩
    · have ht' : isSegTok t = true := (isSegTok_iff t).2 hnl
      cases segs with
      | nil => exact ⟨[], t :: tail, rfl, List.forall_mem_nil _, List.forall_mem_cons.2 ⟨ht', ht⟩⟩
      | cons s ss =>
        have hs' := List.forall_mem_cons.1 hs
        exact ⟨(t :: s) :: ss, tail, rfl,
          List.forall_mem_cons.2 ⟨List.forall_mem_cons.2 ⟨ht', hs'.1⟩, hs'.2⟩, ht⟩

theorem bytesOf_append (a b : List Tok) : bytesOf (a ++ b) = bytesOf a ++ bytesOf b := by
  induction a with
  | nil => simp [bytesOf]
  | cons t ts ih => cases t <;> simp [bytesOf, ih]

theorem bytesOf_map_byte (c : Bytes) : bytesOf (c.map Tok.byte) = c := by
  induction c with
  | nil => simp [bytesOf]
  | cons b bs ih => simp [bytesOf, ih]

theorem bytesOf_toks (chunks : List Bytes) : bytesOf (toks chunks) = chunks.flatten := by
  induction chunks with
  | nil => simp [toks, bytesOf]
  | cons c cs ih =>
    have : toks (c :: cs) = (c.map Tok.byte ++ [Tok.cut]) ++ toks cs := by simp [toks]
    rw [this, bytesOf_append, bytesOf_append, bytesOf_map_byte, ih]
    simp [bytesOf]

theorem bytesOf_noNL (s : List Tok) (h : ∀ t ∈ s, isSegTok t = true) :
    ∀ b ∈ bytesOf s, (b == NL) = false := by
  induction s with
  | nil => exact List.forall_mem_nil _
  | cons t ts ih =>
    have h' := List.forall_mem_cons.1 h
    cases t with
    | cut => exact ih h'.2
    | byte c => exact List.forall_mem_cons.2 ⟨by simpa [isSegTok] using h'.1, ih h'.2⟩

theorem segments_segs (segs : List (List Tok)) (tail : List Tok)
    (hs : ∀ s ∈ segs, ∀ t ∈ s, isSegTok t = true) (ht : ∀ t ∈ tail, isSegTok t = true) :
    segments (bytesOf (segs.flatMap (· ++ [Tok.byte NL]) ++ tail)) =
      (segs.map bytesOf, bytesOf tail) := by
  induction segs with
  | nil => exact segments_noNL _ (bytesOf_noNL tail ht)
  | cons s ss ih =>
    have hs' := List.forall_mem_cons.1 hs
    rw [List.flatMap_cons, List.append_assoc, List.append_assoc, bytesOf_append]
    show segments (bytesOf s ++ NL :: bytesOf (ss.flatMap (· ++ [Tok.byte NL]) ++ tail)) = _
    rw [segments_append_NL _ _ (bytesOf_noNL s hs'.1), ih hs'.2]
    rfl

end Aiorpcx.C06
