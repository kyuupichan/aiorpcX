import Aiorpcx.C06.Seg
import Aiorpcx.Facts.C06
/-!
# C06 — property theorems for the newline framer

Model: `Aiorpcx.C06.run max [] false chunks` = the sequence of values / `MemoryError`s produced by
successive `NewlineFramer.receive_message()` calls when the chunks `chunks` arrive in that order
(`Model.lean`, mirrors `framing.py:88-116`).  Everything below is quantified over **all** byte
streams, all chunkings (empty chunks included) and all limits (0 = unlimited); no bound.
-/
namespace Aiorpcx.C06

/-- what happened to one newline-terminated segment -/
inductive SegRes where
  | delivered
  | dropped (k : Nat)     -- signalled by `k` MemoryErrors
  deriving Repr, DecidableEq

def render (s : Bytes) : SegRes → List Out
  | .delivered => [Out.msg s]
  | .dropped k => List.replicate k Out.memErr

/-- the per-segment contract of the property -/
def SegOK (max : Nat) (s : Bytes) : SegRes → Prop
  | .delivered => True
  | .dropped k => 1 ≤ k ∧ fits max s.length = false

/-- token-machine form of the framing specification -/
theorem trun_segs (max : Nat) (segs : List (List Tok)) (tail : List Tok)
    (hs : ∀ s ∈ segs, ∀ t ∈ s, isSegTok t = true) (ht : ∀ t ∈ tail, isSegTok t = true) :
    ∃ (rs : List SegRes) (k : Nat),
      rs.length = segs.length ∧
      (trun max ([], false) (segs.flatMap (· ++ [Tok.byte NL]) ++ tail)).1 =
        (List.zipWith render (segs.map bytesOf) rs).flatten ++ List.replicate k Out.memErr ∧
      (∀ p ∈ List.zip (segs.map bytesOf) rs, SegOK max p.1 p.2) ∧
      (∀ p ∈ List.zip (segs.map bytesOf) rs, fits max p.1.length = true → p.2 = .delivered) ∧
      (1 ≤ k → fits max (bytesOf tail).length = false) := by
  induction segs with
  | nil =>
    have h := seg_run max tail ht [] false
    simp only [List.nil_append] at h
    obtain ⟨hall, _, hne, hfit⟩ := h
    refine ⟨[], (trun max ([], false) tail).1.length, rfl, ?_, by simp, by simp, ?_⟩
    · simp only [List.flatMap_nil, List.nil_append, List.map_nil, List.zipWith_nil_left,
        List.flatten_nil]
      exact List.eq_replicate_iff.2 ⟨rfl, hall⟩
    · intro hk
      have : (trun max ([], false) tail).1 ≠ [] := by
        intro h0; rw [h0] at hk; simp at hk
      exact (hne this).2
  | cons s ss ih =>
    have hs' := List.forall_mem_cons.1 hs
    obtain ⟨rs, k, hlen, hout, hok, hfit, hk⟩ := ih hs'.2
    obtain ⟨hst, hcase, -⟩ := segment_outcome max s hs'.1
    have hrun : (trun max ([], false) ((s :: ss).flatMap (· ++ [Tok.byte NL]) ++ tail)).1 =
        (trun max ([], false) (s ++ [Tok.byte NL])).1 ++
          ((List.zipWith render (ss.map bytesOf) rs).flatten ++ List.replicate k Out.memErr) := by
      rw [List.flatMap_cons, List.append_assoc, trun_append, hst, hout]
    rcases hcase with hdel | ⟨hne, hall, hnofit⟩
    · exact ⟨.delivered :: rs, k, congrArg (· + 1) hlen, by rw [hrun, hdel]; rfl,
        List.forall_mem_cons.2 ⟨trivial, hok⟩, List.forall_mem_cons.2 ⟨fun _ => rfl, hfit⟩, hk⟩
    · refine ⟨.dropped (trun max ([], false) (s ++ [Tok.byte NL])).1.length :: rs, k,
        congrArg (· + 1) hlen, ?_,
        List.forall_mem_cons.2 ⟨⟨List.length_pos_iff.2 hne, hnofit⟩, hok⟩,
        List.forall_mem_cons.2 ⟨fun hf => ?_, hfit⟩, hk⟩
      · rw [hrun, List.eq_replicate_iff.2 ⟨rfl, hall⟩, List.length_replicate]
        exact (List.append_assoc ..).symm
      · rw [hnofit] at hf; cases hf

/-- **C06 main theorem.**  For every limit and every way of cutting a byte stream into chunks,
the outputs of successive `receive_message()` calls are, segment by segment and in order, either
the segment itself (exactly once, whole) or a non-empty run of `MemoryError`s — the latter only
for a segment over the limit; a segment within the limit is always delivered; after the last
newline only `MemoryError`s can appear, and only if the unterminated rest is over the limit. -/
theorem framing_spec (max : Nat) (chunks : List Bytes) :
    ∃ (rs : List SegRes) (k : Nat),
      rs.length = (segments chunks.flatten).1.length ∧
      run max [] false chunks =
        (List.zipWith render (segments chunks.flatten).1 rs).flatten ++
          List.replicate k Out.memErr ∧
      (∀ p ∈ List.zip (segments chunks.flatten).1 rs, SegOK max p.1 p.2) ∧
      (∀ p ∈ List.zip (segments chunks.flatten).1 rs,
          fits max p.1.length = true → p.2 = .delivered) ∧
      (1 ≤ k → fits max (segments chunks.flatten).2.length = false) := by
  obtain ⟨segs, tail, h1, h2, h3⟩ := exists_segs (toks chunks)
  obtain ⟨rs, k, hlen, hout, hok, hfit, hk⟩ := trun_segs max segs tail h2 h3
  have hseg := segments_segs segs tail h2 h3
  rw [← h1, bytesOf_toks] at hseg
  rw [← h1, ← run_eq_trun] at hout
  rw [hseg]
  exact ⟨rs, k, by rw [hlen, List.length_map], hout, hok, hfit, hk⟩

theorem render_all_delivered : ∀ (segs : List Bytes) (rs : List SegRes),
    rs.length = segs.length → (∀ p ∈ List.zip segs rs, p.2 = SegRes.delivered) →
    (List.zipWith render segs rs).flatten = segs.map Out.msg
  | [], _, _, _ => by simp
  | _ :: _, [], h, _ => by simp at h
  | s :: ss, r :: rs, hlen, hdel => by
    have hr : r = .delivered := hdel (s, r) (by simp)
    subst hr
    have ih := render_all_delivered ss rs (by simpa using hlen)
      (fun p hp => hdel p (by simp only [List.zip_cons_cons, List.mem_cons]; right; exact hp))
    simp [render, ih]

theorem msg_mem_render (m : Bytes) : ∀ (segs : List Bytes) (rs : List SegRes),
    Out.msg m ∈ (List.zipWith render segs rs).flatten → m ∈ segs
  | [], _, h => by simp at h
  | _ :: _, [], h => by simp at h
  | s :: ss, r :: rs, h => by
    simp only [List.zipWith_cons_cons, List.flatten_cons, List.mem_append] at h
    rcases h with h | h
    · cases r with
      | delivered => simp [render] at h; simp [h]
      | dropped j => simp [render] at h
    · have := msg_mem_render m ss rs h
      simp [this]

/-- all segments (and the rest) within the limit ⇒ the output is exactly the segments, for every
chunking: **chunking independence**. -/
theorem chunking_independent (max : Nat) (chunks : List Bytes)
    (hfit : ∀ s ∈ (segments chunks.flatten).1, fits max s.length = true)
    (hrest : fits max (segments chunks.flatten).2.length = true) :
    run max [] false chunks = (segments chunks.flatten).1.map Out.msg := by
  obtain ⟨rs, k, hlen, hout, _, hdel, hk⟩ := framing_spec max chunks
  have hk0 : k = 0 := by
    rcases Nat.eq_zero_or_pos k with h | h
    · exact h
    · have := hk h; rw [hrest] at this; cases this
  subst hk0
  rw [hout]
  simp only [List.replicate_zero, List.append_nil]
  apply render_all_delivered _ _ hlen
  intro p hp
  exact hdel p hp (hfit p.1 (List.of_mem_zip hp).1)

theorem segments_frames (ms : List Bytes) (hms : ∀ m ∈ ms, ∀ b ∈ m, (b == NL) = false) :
    segments (ms.map frame).flatten = (ms, []) := by
  induction ms with
  | nil => rfl
  | cons m ms ih =>
    have hms' := List.forall_mem_cons.1 hms
    rw [List.map_cons, List.flatten_cons, frame, List.append_assoc, List.singleton_append,
      segments_append_NL _ _ hms'.1, ih hms'.2]

/-- **Framing round trip**: frame any newline-free messages that respect the limit, concatenate,
cut the bytes anywhere: exactly those messages come back, in order. -/
theorem frame_roundtrip (max : Nat) (ms : List Bytes) (chunks : List Bytes)
    (hnl : ∀ m ∈ ms, ∀ b ∈ m, (b == NL) = false)
    (hfit : ∀ m ∈ ms, fits max m.length = true)
    (hchunks : chunks.flatten = (ms.map frame).flatten) :
    run max [] false chunks = ms.map Out.msg := by
  have hs := segments_frames ms hnl
  rw [← hchunks] at hs
  have := chunking_independent max chunks (by rw [hs]; exact hfit) (by rw [hs]; simp [fits])
  rw [this, hs]

/-- limit 0 means unlimited: a `MemoryError` is never produced -/
theorem unlimited (chunks : List Bytes) : Out.memErr ∉ run 0 [] false chunks := by
  have := chunking_independent 0 chunks (by intro s _; simp [fits]) (by simp [fits])
  rw [this]; simp

/-- No splitting / merging / truncation: every delivered message is literally one of the
stream's segments. -/
theorem delivered_is_segment (max : Nat) (chunks : List Bytes) (m : Bytes)
    (h : Out.msg m ∈ run max [] false chunks) : m ∈ (segments chunks.flatten).1 := by
  obtain ⟨rs, k, _, hout, _, _, _⟩ := framing_spec max chunks
  rw [hout] at h
  rcases List.mem_append.1 h with h | h
  · exact msg_mem_render m _ _ h
  · simp at h

theorem fits_nil (max : Nat) : fits max ([] : Bytes).length = true := by simp [fits]

/-- what `procPart` leaves buffered has passed the size test -/
theorem procPart_fits (max : Nat) (part : Bytes) : ∀ (acc : Bytes) (sync : Bool),
    fits max (procPart max acc sync part).2.1.length = true := by
  induction part with
  | nil =>
    intro acc sync
    rw [procPart_nil]
    split
    · assumption
    · exact fits_nil max
  | cons b bs ih =>
    intro acc sync
    rw [procPart_cons]
    split
    · exact ih [] false
    · exact ih _ sync

/-- a message that comes out while `part` is processed is made of buffered bytes and bytes of
    `part` -/
theorem procPart_msg_length (max : Nat) (m part : Bytes) : ∀ (acc : Bytes) (sync : Bool),
    Out.msg m ∈ (procPart max acc sync part).1 → m.length ≤ acc.length + part.length := by
  induction part with
  | nil =>
    intro acc sync h
    rw [procPart_nil] at h
    split at h <;> simp at h
  | cons b bs ih =>
    intro acc sync h
    rw [procPart_cons] at h
    rw [List.length_cons]
    split at h
    · rcases List.mem_append.1 h with h | h
      · cases sync <;> simp at h
        rw [h]; omega
      · have := ih [] false h
        rw [List.length_nil] at this; omega
    · have := ih _ sync h
      rw [List.length_append, List.length_singleton] at this; omega

/-- `runChunks` is `run` with the outputs grouped per chunk: the groups are labelled with the
    chunks, in order, and concatenating the groups gives the reader's output -/
theorem runChunks_spec (max : Nat) : ∀ (chunks : List Bytes) (acc : Bytes) (sync : Bool),
    (runChunks max acc sync chunks).map Prod.fst = chunks ∧
    (runChunks max acc sync chunks).flatMap Prod.snd = run max acc sync chunks
  | [], _, _ => by simp [runChunks, run]
  | c :: cs, acc, sync => by
    have ih := runChunks_spec max cs (procPart max acc sync c).2.1 (procPart max acc sync c).2.2
    simp only [runChunks, run, List.map_cons, List.flatMap_cons, ih.1, ih.2, and_self]

def isMsg : Out → Bool
  | .msg _ => true
  | .memErr => false

theorem procPart_msgs_le_newlines (max : Nat) (part : Bytes) : ∀ (acc : Bytes) (sync : Bool),
    ((procPart max acc sync part).1.filter isMsg).length ≤ part.count NL := by
  induction part with
  | nil => intro acc sync; rw [procPart_nil]; split <;> simp [isMsg]
  | cons b bs ih =>
    intro acc sync
    rw [procPart_cons, List.count_cons]
    split
    · have := ih [] false
      cases sync <;> simp [isMsg, List.filter_cons] <;> omega
    · exact Nat.le_trans (ih _ _) (Nat.le_add_right _ _)

theorem runChunks_bound (max : Nat) : ∀ (chunks : List Bytes) (acc : Bytes) (sync : Bool),
    fits max acc.length = true →
    ∀ p ∈ runChunks max acc sync chunks,
      (∀ m, Out.msg m ∈ p.2 → max = 0 ∨ m.length ≤ max + p.1.length) ∧
      (p.2.filter isMsg).length ≤ p.1.count NL
  | [], _, _, _, _, h => nomatch h
  | c :: cs, acc, sync, hacc, p, h => by
    rw [runChunks, List.mem_cons] at h
    rcases h with rfl | h
    · refine ⟨fun m hm => ?_, procPart_msgs_le_newlines max c acc sync⟩
      show max = 0 ∨ m.length ≤ max + c.length
      have := procPart_msg_length max m c acc sync hm
      simp only [fits, Bool.or_eq_true, decide_eq_true_eq, beq_iff_eq] at hacc
      omega
    · exact runChunks_bound max cs _ _ (procPart_fits max c acc sync) p h

/-- a delivered message never exceeds the limit by more than *its final
    chunk*: `receive_message()` returns a message only while it processes the chunk that carried
    the message's newline (`runChunks` groups the outputs by that chunk; a chunk gives rise to at
    most as many messages as it has newlines), and the message is at most `max` plus the length
    of that very chunk long. -/
theorem delivered_bound (max : Nat) (chunks : List Bytes) :
    (runChunks max [] false chunks).map Prod.fst = chunks ∧
    (runChunks max [] false chunks).flatMap Prod.snd = run max [] false chunks ∧
    ∀ p ∈ runChunks max [] false chunks,
      (∀ m, Out.msg m ∈ p.2 → max = 0 ∨ m.length ≤ max + p.1.length) ∧
      (p.2.filter isMsg).length ≤ p.1.count NL :=
  ⟨(runChunks_spec max chunks [] false).1, (runChunks_spec max chunks [] false).2,
   runChunks_bound max chunks [] false (fits_nil max)⟩

/-- the weaker form: some chunk of the stream -/
theorem delivered_bound_any (max : Nat) (chunks : List Bytes) (m : Bytes)
    (h : Out.msg m ∈ run max [] false chunks) :
    max = 0 ∨ ∃ c ∈ chunks, m.length ≤ max + c.length := by
  obtain ⟨h1, h2, h3⟩ := delivered_bound max chunks
  rw [← h2, List.mem_flatMap] at h
  obtain ⟨p, hp, hm⟩ := h
  rcases (h3 p hp).1 m hm with h0 | hb
  · exact Or.inl h0
  · refine Or.inr ⟨p.1, ?_, hb⟩
    rw [← h1]
    exact List.mem_map_of_mem hp

/-- non-vacuity: limit 3; the 2-byte message is delivered while its final chunk (6 bytes) is
    processed; the over-long message that arrives in one chunk is delivered too (7 ≤ 3 + 8) -/
example : runChunks 3 [] false [[97], [98, 10, 1, 2, 3], [4, 5, 6, 7, 10, 9, 9, 10]] =
    [([97], []), ([98, 10, 1, 2, 3], [.msg [97, 98]]),
     ([4, 5, 6, 7, 10, 9, 9, 10], [.msg [1, 2, 3, 4, 5, 6, 7], .msg [9, 9]])] := by
  simp [runChunks, procPart, splitNL, NL, fits]

/-! ## Outside the property: a reader cancelled while it waits

The text quantifies over chunkings, limits and interleavings of arrival with the reader's calls;
it does not speak about a `receive_message()` call that is *cancelled* while waiting.  `parts`
is local to the call, so the bytes it had buffered are forgotten and the next call returns only
the rest of that segment.  Recorded as an assumption (props/C06.json); the three statements
below document the behaviour, they are not part of the property. -/

theorem cancel_free (max : Nat) : ∀ (chunks : List Bytes) (acc : Bytes) (sync : Bool),
    runEv max acc sync (chunks.map Ev.chunk) = run max acc sync chunks
  | [], _, _ => by simp [runEv, run]
  | c :: cs, acc, sync => by
    simp only [List.map_cons, runEv, run, cancel_free max cs]

/-- the effect of a cancellation is exactly: the bytes buffered by the cancelled call are
    forgotten, the `synchronizing` flag is kept -/
theorem cancel_forgets_buffer (max : Nat) : ∀ (cs : List Bytes) (acc : Bytes) (sync : Bool)
    (es : List Ev),
    runEv max acc sync (cs.map Ev.chunk ++ Ev.cancel :: es) =
      run max acc sync cs ++ runEv max [] (stateAfter max acc sync cs).2 es
  | [], _, _, _ => by simp [runEv, run, stateAfter]
  | c :: cs, acc, sync, es => by
    simp only [List.map_cons, List.cons_append, runEv, run, stateAfter,
      cancel_forgets_buffer max cs, List.append_assoc]

/-- the full-strength statement with cancellation allowed ... -/
def delivered_is_segment_cancel_full : Prop :=
  ∀ (max : Nat) (cs : List Bytes) (es : List Bytes) (m : Bytes),
    Out.msg m ∈ runEv max [] false (cs.map Ev.chunk ++ Ev.cancel :: es.map Ev.chunk) →
    m ∈ (segments (cs ++ es).flatten).1

/-- ... fails: `ab` buffered, call cancelled, `c\n` arrives: `c` is delivered, the segment was
    `abc` -/
theorem cancel_truncates :
    runEv 0 [] false [.chunk [97, 98], .cancel, .chunk [99, 10]] = [.msg [99]] ∧
    ¬ delivered_is_segment_cancel_full := by
  have w : runEv 0 [] false [.chunk [97, 98], .cancel, .chunk [99, 10]] = [.msg [99]] := by
    simp [runEv, procPart, splitNL, NL, fits]
  refine ⟨w, ?_⟩
  intro h
  have := h 0 [[97, 98]] [[99, 10]] [99] (by
    simp only [List.map_cons, List.map_nil, List.cons_append, List.nil_append]
    rw [w]; simp)
  revert this
  decide

/-! ## Facts: what the real `NewlineFramer` did on small grids (regenerated from /repo on every
    run by `tools/facts/c06.py`, which only *runs* the public API), reproduced by the model -/

/-- decoding of an outcome in the generated tables -/
def outOf : Option (List UInt8) → Out
  | some m => .msg m
  | none => .memErr

/-- what `frame` appends is the model's newline, for every message; and the sampled calls of the
    real `frame` (newline / NUL inside, empty) are the model's -/
theorem facts_frame : (∀ m : Bytes, m ++ Facts.C06.frameSuffix = frame m) ∧
    ∀ r ∈ Facts.C06.frameTable, frame r.1 = r.2 := by
  refine ⟨fun m => rfl, by decide⟩

/-- the model on the one-byte chunks `a`, b, `c`, newline: the newline is the only separator -/
theorem run_separator (b : UInt8) :
    run 0 [] false [[97], [b], [99], [NL]] =
      if b == NL then [.msg [97], .msg [99]] else [.msg [97, b, 99]] := by
  rw [run_eq_evalRun]
  by_cases hb : (b == NL) = true
  · rw [if_pos hb, eq_of_beq hb]; rfl
  · have h97 : ((97 : UInt8) == NL) = false := rfl
    have h99 : ((99 : UInt8) == NL) = false := rfl
    have hfit (n : Nat) : fits 0 n = true := by simp [fits]
    simp [evalRun, evalPart, hb, h97, h99, hfit]

/-- which of the 256 byte values ends a message: the one-byte chunks `a`, b, `c`, newline were
    fed to the real framer for every b; the model gives the same outcomes, and `a` came out on
    its own exactly for b = newline -/
theorem facts_separator : Facts.C06.terminators = [NL] ∧
    ∀ r ∈ Facts.C06.sepTable, run 0 [] false [[97], [r.1], [99], [NL]] = r.2.map outOf := by
  have h : ∀ r ∈ Facts.C06.sepTable,
      (if r.1 == NL then [.msg [97], .msg [99]] else [.msg [97, r.1, 99]]) = r.2.map outOf := by
    decide +kernel
  exact ⟨by decide, fun r hr => (run_separator r.1).trans (h r hr)⟩

/-- the size test of the real framer on the grid (limits 0..3 × 0..5 buffered bytes × newline in
    its own chunk / in the same chunk / behind a residual / followed by the next segment /
    tail of a dropped segment) is the model's -/
theorem facts_limit :
    ∀ r ∈ Facts.C06.limitTable, run r.1 [] false r.2.1 = r.2.2.map outOf := by
  have h : ∀ r ∈ Facts.C06.limitTable, evalRun r.1 r.2.1 [] false = r.2.2.map outOf := by
    decide +kernel
  exact fun r hr => (run_eq_evalRun ..).trans (h r hr)

/-! ### Megabyte segments: the model on chunks of `a`s, computed on lengths only -/

/-- a chunk of `p.1` bytes `a`, followed by a newline if `p.2` -/
def aChunk (p : Nat × Bool) : Bytes := List.replicate p.1 97 ++ (if p.2 then [NL] else [])

/-- what a delivered message / a MemoryError looks like when only lengths are recorded -/
def shape : Out → Option Nat
  | .msg m => some m.length
  | .memErr => none

/-- the reader on such chunks, on lengths only -/
def runLen (max : Nat) : Nat → Bool → List (Nat × Bool) → List (Option Nat)
  | _, _, [] => []
  | acc, sync, (n, false) :: cs =>
      if fits max (acc + n) then runLen max (acc + n) sync cs else none :: runLen max 0 true cs
  | acc, sync, (n, true) :: cs =>
      (if sync then [] else [some (acc + n)]) ++ runLen max 0 false cs

theorem replicate_a_noNL (n : Nat) : ∀ b ∈ List.replicate n (97 : UInt8), (b == NL) = false := by
  intro b hb
  rw [List.eq_of_mem_replicate hb]
  decide

theorem procPart_aChunk_false (max : Nat) (acc : Bytes) (sync : Bool) (n : Nat) :
    procPart max acc sync (aChunk (n, false)) =
      if fits max (acc.length + n) then ([], acc ++ List.replicate n 97, sync)
      else ([Out.memErr], [], true) := by
  rw [aChunk, if_neg Bool.false_ne_true, procPart_append max _ _ (replicate_a_noNL n),
    procPart_nil, List.length_append, List.length_replicate]

theorem procPart_aChunk_true (max : Nat) (acc : Bytes) (sync : Bool) (n : Nat) :
    procPart max acc sync (aChunk (n, true)) =
      (if sync then [] else [Out.msg (acc ++ List.replicate n 97)], [], false) := by
  rw [aChunk, if_pos rfl, procPart_append max _ _ (replicate_a_noNL n), procPart_cons,
    procPart_nil, if_pos (beq_self_eq_true NL), if_pos (fits_nil max)]
  exact congrArg (·, [], false) (List.append_nil _)

/-- **the model on chunks of `a`s only depends on the lengths** (any sizes: no evaluation on
    megabytes of data is needed to know what the model says) -/
theorem run_aChunks (max : Nat) : ∀ (cs : List (Nat × Bool)) (acc : Bytes) (sync : Bool),
    (run max acc sync (cs.map aChunk)).map shape = runLen max acc.length sync cs
  | [], _, _ => by simp [run, runLen]
  | (n, false) :: cs, acc, sync => by
    simp only [List.map_cons, run, procPart_aChunk_false, runLen]
    split
    · have := run_aChunks max cs (acc ++ List.replicate n 97) sync
      simp only [List.length_append, List.length_replicate] at this
      simpa using this
    · simpa [shape] using run_aChunks max cs [] true
  | (n, true) :: cs, acc, sync => by
    simp only [List.map_cons, run, procPart_aChunk_true, runLen, List.map_append]
    have := run_aChunks max cs [] false
    simp only [List.length_nil] at this
    rw [this]
    cases sync <;> simp [shape]

/-- **megabyte segments on the real framer** (limit 0 = unlimited, one million, and the default of
    `NewlineFramer()`; segments of 999 999, 1 000 000, 1 000 001 and 2 500 000 bytes in two or
    more chunks, the newline in its own chunk or in the final one, followed by a short segment):
    lengths delivered / MemoryErrors are the model's.  Limit 0 never drops (`unlimited`). -/
theorem facts_big :
    ∀ r ∈ Facts.C06.bigTable,
      (run r.1 [] false (r.2.1.map aChunk)).map shape = r.2.2 := by
  intro r hr
  rw [run_aChunks]
  revert r
  decide +kernel

-- Non-vacuity: concrete, non-trivial instances of the hypotheses / conclusions.
example : run 5 [] false [[97,98,10,99], [100,10], [1,2,3,4,5,6], [7,10,8,10]]
    = [.msg [97,98], .msg [99,100], .memErr, .msg [8]] := by rw [run_eq_evalRun]; decide
example : segments [97,98,10,99,100,10,1,2,3,4,5,6,7,10,8,10]
    = ([[97,98],[99,100],[1,2,3,4,5,6,7],[8]], []) := by decide
example : run 3 [] false [[1,2],[3,4],[5,6,7,8],[9],[10,42,10]] =
    [.memErr, .memErr, .msg [42]] := by rw [run_eq_evalRun]; decide

end Aiorpcx.C06
