import Aiorpcx.C08.Basic
/-! Invariants of the C08 lifecycle model (code with repair F25), in four groups over explicit
parameters (flags + handlers, outgoing requests, tasks inside `close()`, the ghost record of the
loss), and their preservation by the building blocks of the step function. -/
namespace Aiorpcx.C08

/-- flags and handlers -/
structure HI (now : Nat) (down closing lost ce : Bool) (hook pt : Nat) (hs : List Handler) : Prop where
  ptPos : 0 < pt
  hook : hook = if down then 1 else 0
  lostDown : lost = true → down = true
  lostClosing : lost = true → closing = true
  closedThen : ce = true → lost = true ∧ ∀ h ∈ hs, h.status = .done
  ok : ∀ h ∈ hs, HOk now down closing h

/-- `_closed_event` is set as soon as message processing is torn down and every handler is done -/
def Settled (down ce : Bool) (hs : List Handler) : Prop :=
  down = true → (∀ h ∈ hs, h.status = .done) → ce = true

/-- outgoing requests -/
structure TI (now : Nat) (down : Bool) (rt : Nat) (ts : List Ticket) : Prop where
  pos : 0 < rt
  ok : ∀ t ∈ ts, TOk now down t

/-- tasks inside `close()` -/
structure CI (now : Nat) (closing ce : Bool) (ca la : Option Nat) (cs : List Closer) : Prop where
  ok : ∀ c ∈ cs, COk now ce ca la c
  closersClosing : cs ≠ [] → closing = true
  caNone : ca = none → ce = false
  caSome : ∀ T, ca = some T → ce = true ∧ T ≤ now ∧ ∃ t, la = some t ∧ t ≤ T

/-- the ghost record of the loss -/
structure LI (now : Nat) (lost stalled : Bool) (la : Option Nat) (lb : Option Cause)
    (aa : Option Nat) : Prop where
  laNone : la = none → lost = false
  laSome : ∀ t, la = some t → lost = true ∧ t ≤ now
  lbNone : lb = none → lost = false
  lbSome : ∀ w, lb = some w → lost = true
  aborted : ∀ a, aa = some a → la = some a ∧ lb = some .abort
  byAbort : lb = some .abort → aa = la
  byGraceful : lb = some .graceful → stalled = false

/-- everything but `Settled` (holds also just before `settle` runs) -/
structure Inv0 (s : S) : Prop where
  fixed : s.fixed = true
  h : HI s.now s.down s.closing s.lost s.closedEvent s.hookRuns s.procTimeout s.handlers
  t : TI s.now s.down s.reqTimeout s.tickets
  c : CI s.now s.closing s.closedEvent s.closedAt s.lostAt s.closers
  l : LI s.now s.lost s.stalled s.lostAt s.lostBy s.abortedAt

structure Inv (s : S) : Prop extends Inv0 s where
  settled : Settled s.down s.closedEvent s.handlers

theorem HI.not_lost_of_not_closing {now : Nat} {down closing lost ce : Bool} {hook pt : Nat}
    {hs : List Handler}
    (h : HI now down closing lost ce hook pt hs) (hc : closing = false) : lost = false := by
  cases hl : lost
  · rfl
  · cases hc.symm.trans (h.lostClosing hl)

section
variable {now now' rt hook pt : Nat} {down closing closing' lost ce stalled : Bool}
  {hs : List Handler} {ts : List Ticket} {cs : List Closer} {ca la la' aa : Option Nat}
  {lb : Option Cause}

theorem HI.closing_mono
    (h : HI now down closing lost ce hook pt hs) (hc : closing = true → closing' = true) :
    HI now down closing' lost ce hook pt hs :=
  ⟨h.ptPos, h.hook, h.lostDown, fun x => hc (h.lostClosing x), h.closedThen,
   forall_imp h.ok fun _ hk => hk.closing_mono hc⟩

theorem HI.ce_false
    (h : HI now down closing lost ce hook pt hs) (hl : lost = false) : ce = false := by
  cases hce : ce
  · rfl
  · cases hl.symm.trans (h.closedThen hce).1

theorem HI.not_lost_of_not_down
    (h : HI now down closing lost ce hook pt hs) (hc : down = false) : lost = false := by
  cases hl : lost
  · rfl
  · cases hc.symm.trans (h.lostDown hl)

theorem HI.map (h : HI now down closing lost ce hook pt hs) {f : Handler → Handler}
    (hc : closing = true → closing' = true)
    (hok : ∀ x, HOk now down closing x → HOk now' down closing' (f x))
    (hdone : ∀ x, x.status = .done → (f x).status = .done) :
    HI now' down closing' lost ce hook pt (hs.map f) :=
  ⟨h.ptPos, h.hook, h.lostDown, fun x => hc (h.lostClosing x),
   fun hce => ⟨(h.closedThen hce).1, forall_map (h.closedThen hce).2 hdone⟩, forall_map h.ok hok⟩

theorem HI.lose
    (h : HI now down closing false ce hook pt hs) (hc : closing = true) (hd : down = true) :
    HI now down closing true ce hook pt hs :=
  ⟨h.ptPos, h.hook, fun _ => hd, fun _ => hc, fun x => (by cases (h.ce_false rfl).symm.trans x), h.ok⟩

theorem HI.teardown (h : HI now false closing lost ce hook pt hs) :
    HI now true closing lost ce (hook + 1) pt (hs.map (cancelHandler now)) :=
  ⟨h.ptPos, by rw [h.hook]; rfl, fun _ => rfl, h.lostClosing,
   fun hce => ⟨(h.closedThen hce).1, forall_map (h.closedThen hce).2 fun _ => cancelHandler_done⟩,
   forall_map h.ok fun _ => cancelHandler_ok⟩

theorem TI.teardown (t : TI now false rt ts) : TI now true rt (ts.map cancelTicket) :=
  ⟨t.pos, forall_map t.ok fun _ => cancelTicket_ok⟩

theorem CI.ca_none (c : CI now closing ce ca la cs) (hce : ce = false) : ca = none := by
  cases h : ca with
  | none => rfl
  | some T => cases hce.symm.trans (c.caSome T h).1

theorem CI.setClosing (c : CI now closing ce ca la cs) : CI now true ce ca la cs :=
  ⟨c.ok, fun _ => rfl, c.caNone, c.caSome⟩

/-- judged against a later instant of loss -/
theorem CI.la_mono (c : CI now closing ce ca la cs) (hm : ∀ t, la = some t → la' = some t) :
    CI now closing ce ca la' cs :=
  ⟨forall_imp c.ok fun _ hk => hk.la_mono hm, c.closersClosing, c.caNone, fun T hT => by
    obtain ⟨h1, h2, t, ht, h3⟩ := c.caSome T hT
    exact ⟨h1, h2, t, hm t ht, h3⟩⟩

theorem LI.aa_none (l : LI now lost stalled la lb aa) (hl : lost = false) : aa = none := by
  cases ha : aa with
  | none => rfl
  | some a => cases hl.symm.trans (l.laSome a (l.aborted a ha).1).1

theorem LI.la_none (l : LI now lost stalled la lb aa) (hl : lost = false) : la = none := by
  cases ha : la with
  | none => rfl
  | some a => cases hl.symm.trans (l.laSome a ha).1

theorem LI.la_some (l : LI now lost stalled la lb aa) (hl : lost = true) :
    ∃ t, la = some t ∧ t ≤ now := by
  cases ha : la with
  | none => cases hl.symm.trans (l.laNone ha)
  | some a => exact ⟨a, rfl, (l.laSome a ha).2⟩

/-- nothing is lost yet, so a loss now is later than none -/
theorem LI.la_le (l : LI now lost stalled la lb aa) (hl : lost = false) (la' : Option Nat) :
    ∀ t, la = some t → la' = some t := by
  rw [l.la_none hl]; nofun

theorem LI.lose_abort : LI now true stalled (some now) (some .abort) (some now) :=
  ⟨nofun, fun _ ht => by cases ht; exact ⟨rfl, Nat.le_refl _⟩, nofun, fun _ _ => rfl,
   fun _ h => by cases h; exact ⟨rfl, rfl⟩, fun _ => rfl, nofun⟩

theorem LI.lose_other {why : Cause} (hw : why = .graceful → stalled = false) (hna : why ≠ .abort) :
    LI now true stalled (some now) (some why) none :=
  ⟨nofun, fun _ ht => by cases ht; exact ⟨rfl, Nat.le_refl _⟩, nofun, fun _ _ => rfl, nofun,
   fun h => absurd (Option.some.inj h) hna, fun h => hw (Option.some.inj h)⟩

theorem LI.tick (l : LI now lost stalled la lb aa) : LI (now + 1) lost stalled la lb aa :=
  ⟨l.laNone, fun t ht => ⟨(l.laSome t ht).1, Nat.le_succ_of_le (l.laSome t ht).2⟩,
   l.lbNone, l.lbSome, l.aborted, l.byAbort, l.byGraceful⟩

end

theorem settle_inv {s : S} (i : Inv0 s) : Inv s.settle := by
  unfold S.settle
  split
  · rename_i hc
    simp only [Bool.and_eq_true, Bool.not_eq_true', all_isDone] at hc
    obtain ⟨⟨hdn, hce⟩, hall⟩ := hc
    -- everybody inside `close()` returns now; `la`: the instant of loss, now at the latest
    have hcs : ∀ la, (∀ t, s.lostAt = some t → la = some t) → (∃ t, la = some t ∧ t ≤ s.now) →
        CI s.now true true (some s.now) la (s.closers.map (returnCloser s.now)) := by
      intro la hm hl
      refine ⟨forall_map i.c.ok fun c hk => ?_, fun _ => rfl, nofun, ?_⟩
      · rw [hce, i.c.ca_none hce] at hk
        exact returnCloser_ok (hk.la_mono hm) hl
      · intro T hT; cases hT
        exact ⟨rfl, Nat.le_refl _, hl⟩
    split
    · rename_i hl
      simp only [i.fixed, Bool.true_and, Bool.not_eq_true'] at hl
      have h0 := i.h
      rw [hl] at h0
      exact { fixed := i.fixed, t := i.t, settled := fun _ _ => rfl
              h := ⟨h0.ptPos, h0.hook, fun _ => hdn, fun _ => rfl, fun _ => ⟨rfl, hall⟩,
                    forall_imp h0.ok fun _ hk => hk.closing_mono fun _ => rfl⟩
              c := hcs _ (i.l.la_le hl _) ⟨_, rfl, Nat.le_refl _⟩
              l := LI.lose_abort }
    · rename_i hl
      have hl : s.lost = true := by simpa [i.fixed] using hl
      have hcl := i.h.lostClosing hl
      exact { fixed := i.fixed, t := i.t, l := i.l, settled := fun _ _ => rfl
              h := ⟨i.h.ptPos, i.h.hook, i.h.lostDown, i.h.lostClosing, fun _ => ⟨hl, hall⟩, i.h.ok⟩
              c := by rw [hcl]; exact hcs _ (fun _ h => h) (i.l.la_some hl) }
  · rename_i hc
    refine { toInv0 := i, settled := fun hdn hall => ?_ }
    simp only [Bool.and_eq_true, Bool.not_eq_true', all_isDone, not_and] at hc
    cases hce : s.closedEvent
    · exact absurd hall (hc ⟨hdn, hce⟩)
    · rfl

theorem Inv.resettle {s : S} (i : Inv s) : s.settle = s := by
  unfold S.settle
  split
  · rename_i hc
    simp only [Bool.and_eq_true, Bool.not_eq_true', all_isDone] at hc
    cases hc.1.2.symm.trans (i.settled hc.1.1 hc.2)
  · rfl

theorem lose_of_lost {s : S} {why : Cause} (hl : s.lost = true) : s.lose why = s := by
  unfold S.lose; rw [if_pos hl]

/-- the connection is lost now; the caller supplies the groups of the state just before
(`closing` already set, the tasks inside `close()` judged against the new instant of loss) -/
theorem lose_inv_of_not_lost {s : S} {why : Cause} (hl : s.lost = false) (hf : s.fixed = true)
    (h : HI s.now s.down s.closing false s.closedEvent s.hookRuns s.procTimeout s.handlers)
    (hc : s.closing = true)
    (t : TI s.now s.down s.reqTimeout s.tickets)
    (c : CI s.now s.closing s.closedEvent s.closedAt (some s.now) s.closers)
    (l : LI s.now true s.stalled (some s.now) (some why) s.abortedAt) : Inv (s.lose why) := by
  unfold S.lose
  rw [if_neg (by rw [hl]; nofun)]
  apply settle_inv
  split
  · rename_i hd
    exact { fixed := hf, h := h.lose hc hd, t := t, c := c, l := l }
  · rename_i hd
    have hd : s.down = false := by simpa using hd
    rw [hd] at h t
    exact { fixed := hf, h := h.teardown.lose hc rfl, t := t.teardown, c := c, l := l }

theorem Inv.setClosing {s : S} (i : Inv s) : Inv { s with closing := true } :=
  { fixed := i.fixed, h := i.h.closing_mono (fun _ => rfl), t := i.t, c := i.c.setClosing,
    l := i.l, settled := i.settled }

/-- the tasks inside `close()` when the connection, not lost so far, is lost now -/
theorem Inv.ci_lose {s : S} (i : Inv s) (hl : s.lost = false) :
    CI s.now true s.closedEvent s.closedAt (some s.now) s.closers :=
  (i.c.la_mono (i.l.la_le hl _)).setClosing

theorem lose_inv {s : S} (i : Inv s) (why : Cause) (hw : why = .graceful → s.stalled = false)
    (hna : why ≠ .abort) : Inv (S.lose { s with closing := true } why) := by
  rcases Bool.eq_false_or_eq_true s.lost with hl | hl
  · rw [lose_of_lost (s := { s with closing := true }) hl]
    exact i.setClosing
  · have h0 := i.h
    rw [hl] at h0
    exact lose_inv_of_not_lost (s := { s with closing := true }) hl i.fixed
      (h0.closing_mono (fun _ => rfl)) rfl i.t (i.ci_lose hl)
      (by rw [show s.abortedAt = none from i.l.aa_none hl]; exact LI.lose_other hw hna)

theorem doAbort_of_lost {s : S} (hl : s.lost = true) : s.doAbort = s := by
  unfold S.doAbort; rw [if_pos hl]

/-- an abort now, from a state whose groups the caller supplies (tasks inside `close()` judged
against the new instant of loss) -/
theorem doAbort_inv_of_not_lost {s : S} (hl : s.lost = false) (hf : s.fixed = true)
    (h : HI s.now s.down s.closing false s.closedEvent s.hookRuns s.procTimeout s.handlers)
    (t : TI s.now s.down s.reqTimeout s.tickets)
    (c : CI s.now true s.closedEvent s.closedAt (some s.now) s.closers) : Inv s.doAbort := by
  unfold S.doAbort
  rw [if_neg (by rw [hl]; nofun)]
  exact lose_inv_of_not_lost (s := { s with abortedAt := some s.now, closing := true }) hl hf
    (h.closing_mono (fun _ => rfl)) rfl t c LI.lose_abort

theorem doAbort_inv {s : S} (i : Inv s) : Inv s.doAbort := by
  rcases Bool.eq_false_or_eq_true s.lost with hl | hl
  · rw [doAbort_of_lost hl]; exact i
  · have h0 := i.h
    rw [hl] at h0
    exact doAbort_inv_of_not_lost hl i.fixed h0 i.t (i.ci_lose hl)

theorem transportClose_cases (s : S) : (s.closing = true ∧ s.transportClose = s) ∨
    (s.closing = false ∧ s.stalled = true ∧ s.transportClose = { s with closing := true }) ∨
    (s.closing = false ∧ s.stalled = false ∧
      s.transportClose = S.lose { s with closing := true } .graceful) := by
  unfold S.transportClose
  by_cases hc : s.closing = true
  · left; simp [hc]
  · right
    by_cases hst : s.stalled = true
    · left; simp [hc, hst]
    · right; simp [hc, hst]

theorem setClosing_eq {s : S} (hc : s.closing = true) : { s with closing := true } = s := by
  cases s; cases hc; rfl

/-- `transport.close()` from a state that is in order once `closing` is set (somebody has just
entered `close()`) -/
theorem transportClose_inv_of_setClosing {s : S} (i : Inv { s with closing := true }) :
    Inv s.transportClose := by
  rcases transportClose_cases s with ⟨hc, e⟩ | ⟨_, _, e⟩ | ⟨_, hst, e⟩ <;> rw [e]
  · rw [← setClosing_eq hc]; exact i
  · exact i
  · exact lose_inv i .graceful (fun _ => hst) nofun

theorem transportClose_inv {s : S} (i : Inv s) : Inv s.transportClose :=
  transportClose_inv_of_setClosing i.setClosing

theorem promote_inv0 {s : S} (i : Inv0 s) : Inv0 s.promote :=
  { fixed := i.fixed, h := i.h, t := ⟨i.t.pos, promoteList_ok i.t.pos i.t.ok⟩, c := i.c, l := i.l }

theorem promote_inv {s : S} (i : Inv s) : Inv s.promote :=
  { toInv0 := promote_inv0 i.toInv0, settled := i.settled }

end Aiorpcx.C08
