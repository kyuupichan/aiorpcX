import Aiorpcx.C08.Anytime
import Aiorpcx.Facts.C08
/-!
# C08 — losing or closing a connection releases every waiter and leaves no task behind

Model: `Aiorpcx.C08.step` (`Model.lean`): events request / replyClose / handlerFinish /
handlerCancel / outgoing / answer / drop / appClose / cancelClose / abort / advance over the state
of one connection, observed at quiescence; the code *with repair F25* (`fixed = true`).
Every theorem below is about **every** finite event sequence from the initial state (any
`sent_request_timeout > 0`, `processing_timeout > 0`, outgoing limit, transport stalled or not),
i.e. about every reachable state `s`.  The behaviour of the pinned code (`initPinned`) where it
differs is stated by the `..._pinned_witness` theorems.
-/
namespace Aiorpcx.C08

/-- the states reachable from the start of a connection by any finite sequence of events -/
def Reachable (s : S) : Prop :=
  ∃ rt pt ol st es, 0 < rt ∧ 0 < pt ∧ s = run (init rt pt ol st) es

theorem Reachable.inv {s : S} (h : Reachable s) : Inv s := by
  obtain ⟨rt, pt, ol, st, es, hrt, hpt, rfl⟩ := h
  exact reachable_inv rt pt ol st hrt hpt es

theorem Reachable.run {s : S} (h : Reachable s) (es : List Event) : Reachable (run s es) := by
  obtain ⟨rt, pt, ol, st, es0, hrt, hpt, rfl⟩ := h
  exact ⟨rt, pt, ol, st, es0 ++ es, hrt, hpt, (run_app es0 es _).symm⟩

theorem Reachable.ginv {s : S} (h : Reachable s) : GInv s := by
  obtain ⟨rt, pt, ol, st, es, hrt, hpt, rfl⟩ := h
  exact run_ginv es (init_inv rt pt ol st hrt hpt) (init_ginv rt pt ol st)

theorem reachable_inv' {s : S} (h : Reachable s) : Inv s ∧ GInv s := ⟨h.inv, h.ginv⟩

/-- **The connection-lost hook runs exactly once**: never twice; it has run iff message
processing has been torn down; and once the connection is lost it has run. -/
theorem hook_at_most_once {s : S} (h : Reachable s) :
    s.hookRuns ≤ 1 ∧ (s.down = true ↔ s.hookRuns = 1) ∧ (s.lost = true → s.hookRuns = 1) := by
  have hk := h.inv.h.hook
  have hld := h.inv.h.lostDown
  rcases Bool.eq_false_or_eq_true s.down with hd | hd <;> rw [hd] at hk hld <;> rw [hk, hd]
  · exact ⟨Nat.le_refl 1, ⟨fun _ => rfl, fun _ => rfl⟩, fun _ => rfl⟩
  · exact ⟨Nat.zero_le 1, ⟨nofun, nofun⟩, fun hl => nomatch hld hl⟩

/-- **`_closed_event` is set exactly when the connection is lost and every handler is done.** -/
theorem closed_iff {s : S} (h : Reachable s) :
    s.closedEvent = true ↔ (s.lost = true ∧ ∀ x ∈ s.handlers, x.status = .done) :=
  ⟨h.inv.h.closedThen, fun ⟨a, b⟩ => h.inv.settled (h.inv.h.lostDown a) b⟩

/-- in the pinned code a handler task that ends with a cancellation the session did not ask for
tears message processing down and sets `_closed_event` while the connection stays open: the
session is dead, its socket is not closed -/
theorem closed_iff_pinned_witness :
    let s := run (initPinned 30 30 50 false) [.request 1 .slow, .handlerCancel 1, .advance 100]
    s.closedEvent = true ∧ s.hookRuns = 1 ∧ s.lost = false ∧ s.closing = false := by
  have e := run_advance_idle (initPinned 30 30 50 false) [.request 1 .slow, .handlerCancel 1] 0 100
    (by decide +kernel)
  simp only [List.cons_append, List.nil_append, Nat.reduceAdd] at e
  rw [e]
  decide +kernel

/-- ... with the repair the transport is aborted as soon as message processing has ended -/
example :
    let s := run (init 30 30 50 false) [.request 1 .slow, .handlerCancel 1]
    s.closedEvent = true ∧ s.hookRuns = 1 ∧ s.lost = true ∧ s.abortedAt = some 0 := by decide +kernel

/-- **The teardown cancels every caller waiting for a response** - those whose request is out
and those still queued for a slot of the outgoing limiter - and touches no other. -/
theorem waiters_cancelled_at_teardown (s : S) :
    s.teardown.down = true ∧ s.teardown.tickets = s.tickets.map cancelTicket ∧
    (∀ t, (t.status = .pending ∨ t.status = .queued) → (cancelTicket t).status = .cancelled) ∧
    (∀ t, t.status ≠ .pending → t.status ≠ .queued → cancelTicket t = t) := by
  refine ⟨rfl, rfl, ?_, ?_⟩
  · intro t ht; unfold cancelTicket; rcases ht with h | h <;> simp [h]
  · intro t h1 h2; unfold cancelTicket; split <;> simp_all

/-- **Whatever brings the teardown - a closing handler, the link, `close()`, `abort()`, a
cancelled `close()`, a handler task ending with a cancellation - it cancels every waiting
request**: each of these events leaves the tickets alone or, if message processing was torn
down by it, turns exactly the waiting ones into cancelled ones. -/
theorem loss_cancels_waiters (s : S) (e : Event)
    (he : (∀ k, e ≠ .outgoing k) ∧ (∀ k, e ≠ .answer k) ∧ (∀ dt, e ≠ .advance dt)) :
    TicketsKeptOrCancelled s (step s e) :=
  step_tkc s e he.1 he.2.1 he.2.2

/-- the same for a second of the clock, where the teardown can only come from an abort forced
by a `close()` whose wait is cut short: request timeouts due at that very instant fire first and
the limiter hands on the slots they free, everything else waiting is cancelled -/
theorem tick_cancels_waiters (s : S) :
    TicketsKeptOrCancelled s.fired s.tick :=
  (tick_torn s).tkc

/-- **After the teardown no request registered before it is still waiting; a request is only
ever cancelled by the teardown; one registered after the hook ran is never cancelled or
answered.** -/
theorem waiters_settled {s : S} (h : Reachable s) :
    (s.down = true → ∀ t ∈ s.tickets, t.afterLoss = false →
      t.status ≠ .pending ∧ t.status ≠ .queued) ∧
    (∀ t ∈ s.tickets, t.status = .cancelled → s.down = true ∧ t.afterLoss = false) ∧
    (∀ t ∈ s.tickets, t.afterLoss = true →
      s.down = true ∧ (t.status = .queued ∨ t.status = .pending ∨ t.status = .timedOut t.deadline)) := by
  have i := h.inv.t
  refine ⟨fun hd t ht ha => ?_, fun t ht hs => ?_, fun t ht ha => ?_⟩
  · rcases (hd ▸ i.ok t ht).settled ha with hs | hs | hs <;> rw [hs] <;> exact ⟨nofun, nofun⟩
  · exact (i.ok t ht).cancelled hs
  · exact (i.ok t ht).late ha

/-- **Waiters are cancelled**: after the teardown every request that was registered before it
has been settled - cancelled if it was waiting when message processing ended
(`waiters_cancelled_at_teardown`, `loss_cancels_waiters`, `tick_cancels_waiters`), and
cancellation never comes from anywhere else. -/
theorem waiters_cancelled {s : S} (h : Reachable s) (hd : s.down = true) :
    ∀ t ∈ s.tickets, t.afterLoss = false →
      t.status = .answered ∨ t.status = .cancelled ∨ t.status = .timedOut t.deadline :=
  fun t ht ha => (hd ▸ h.inv.t.ok t ht).settled ha

/-- **Closed means clean**: once `_closed_event` is set no handler is alive, no request
registered before the teardown is still waiting, the hook ran exactly once, the message loop is
gone and nobody is still inside `close()`. -/
theorem closed_implies_clean {s : S} (h : Reachable s) (hc : s.closedEvent = true) :
    (∀ x ∈ s.handlers, x.status = .done) ∧
    (∀ t ∈ s.tickets, t.afterLoss = false → t.status ≠ .pending ∧ t.status ≠ .queued) ∧
    s.hookRuns = 1 ∧ s.loopAlive = false ∧
    (∀ c ∈ s.closers, (∃ a, c.st = .returned a) ∨ (∃ a, c.st = .cancelled a)) := by
  have i := h.inv
  have hd := i.h.lostDown (i.h.closedThen hc).1
  refine ⟨(i.h.closedThen hc).2, fun t ht ha => ?_, ?_, ?_, fun c hcm => ?_⟩
  · exact (waiters_settled h).1 hd t ht ha
  · rw [i.h.hook, hd]; rfl
  · rw [S.loopAlive, hd]; rfl
  · rcases (hc ▸ i.c.ok c hcm).of_closed with ⟨_, _, hs⟩ | hs
    · exact Or.inl ⟨_, hs⟩
    · exact Or.inr hs

example : (run (init 30 30 50 false) [.request 1 .slow, .outgoing 1, .appClose 1 7]).closedEvent = true := by
  decide +kernel

/-- a request's timeout fires at exactly its deadline: in every reachable state a pending one
has its deadline ahead, a timed-out one timed out at its deadline -/
theorem request_timeout_exact {s : S} (h : Reachable s) :
    (∀ t ∈ s.tickets, t.status = .pending → s.now < t.deadline) ∧
    (∀ t ∈ s.tickets, ∀ a, t.status = .timedOut a → a = t.deadline ∧ a ≤ s.now) :=
  ⟨fun t ht hs => (h.inv.t.ok t ht).pending hs, fun t ht _ hs => (h.inv.t.ok t ht).timedOut hs⟩

/-- **A request sent after the hook ran ends with TaskTimeout at exactly its deadline** when
time passes (nobody cancels it, nobody answers it). -/
theorem late_request_times_out (n : Nat) : ∀ {s : S}, Inv s → ∀ t ∈ s.tickets,
    t.status = .pending → t.afterLoss = true → t.deadline = s.now + n →
    { t with status := .timedOut t.deadline } ∈ (s.advance n).tickets := by
  induction n with
  | zero =>
    intro s i t ht hp _ hd
    exact absurd ((i.t.ok t ht).pending hp) (by omega)
  | succ n ih =>
    intro s i t ht hp ha hd
    show _ ∈ (s.tick.advance n).tickets
    have hmem : expireTicket (s.now + 1) t ∈ s.tick.tickets := by
      rw [tick_tickets_of_down ((i.t.ok t ht).1 ha)]
      refine mem_promoteList_of_not_queued _ _ _ (List.mem_map_of_mem ht) ?_
      unfold expireTicket; simp only [hp]; split <;> simp [hp]
    unfold expireTicket at hmem
    simp only [hp] at hmem
    by_cases hn : n = 0
    · subst hn
      rw [if_pos (Nat.le_of_eq hd), ← hd] at hmem
      exact hmem
    · rw [if_neg (by omega)] at hmem
      exact ih (tick_inv i) t hmem hp ha (by rw [tick_now]; omega)

example :
    (run (init 5 30 50 false) [.drop, .outgoing 1, .advance 5]).tickets =
      [⟨1, .timedOut 5, 5, true⟩] := by decide +kernel

/-- more callers than the outgoing limiter has slots: the loss cancels those queued as well -/
example :
    ((run (init 30 30 2 false) [.outgoing 1, .outgoing 2, .outgoing 3, .drop]).tickets.map (·.status)) =
      [.cancelled, .cancelled, .cancelled] := by decide +kernel

/-- **Loss (or any other teardown) leads to closed**: from every reachable state in which
message processing has been torn down - the connection is lost, or a handler task ended with a
cancellation - letting the longest remaining reaction of a stubborn handler pass sets
`_closed_event`, it stays set, and the connection is lost then (aborted if need be). -/
theorem loss_leads_to_closed {s : S} (h : Reachable s) (hd : s.down = true) (m : Nat)
    (hm : reactBound s ≤ m) : (s.advance m).closedEvent = true ∧ (s.advance m).lost = true := by
  have hc := closed_by_advance h.inv (Or.inl hd) (Nat.le_refl _) m (by omega)
  exact ⟨hc, ((advance_inv m h.inv).h.closedThen hc).1⟩

/-- **No data after the loss**: once the asyncio transport is closing, or message processing is
torn down, a request or a response from the peer changes nothing - in particular no new handler
can start and postpone `_closed_event`. -/
theorem no_data_after_loss (s : S) (hc : s.closing = true ∨ s.down = true) (i : Nat) (k : HKind)
    (fa : Nat) :
    step s (.request i k) = s ∧ step s (.replyClose i fa) = s ∧ step s (.answer i) = s :=
  step_ignored hc i k fa

example : (run (init 30 30 50 false) [.request 1 (.stubborn 3), .drop]).closedEvent = false ∧
    (run (init 30 30 50 false) [.request 1 (.stubborn 3), .drop, .advance 3]).closedEvent = true := by
  decide +kernel

/-- a stubborn handler's reaction to the teardown is cut short by its processing timeout -/
example : (run (init 30 5 50 false) [.request 1 (.stubborn 20), .advance 2, .drop, .advance 2]).closedEvent = false ∧
    (run (init 30 5 50 false) [.request 1 (.stubborn 20), .advance 2, .drop, .advance 3]).closedEvent = true := by
  decide +kernel

/-- **`close()` on a closed connection returns at once.** -/
theorem close_returns_immediately {s : S} (h : Reachable s) (hc : s.closedEvent = true) (c fa : Nat)
    (hu : usedCloser s c = false) :
    (step s (.appClose c fa)).closers = s.closers ++ [⟨c, s.now, s.now + fa, .returned s.now⟩] := by
  have hcl := h.inv.h.lostClosing (h.inv.h.closedThen hc).1
  rcases step_appClose_cases s c fa with ⟨h1, _⟩ | ⟨_, e⟩ | ⟨hce, _⟩ | ⟨hce, _⟩
  · cases hu.symm.trans h1
  · rw [e, S.transportClose, if_pos hcl]
  · cases hce.symm.trans hc
  · cases hce.symm.trans hc

/-- **Every `close()` returns exactly when `_closed_event` is set** (or at once if called
later): in every reachable state, if `_closed_event` was set at instant `T` every task that
called `close()` (and was not cancelled by the application) has returned, at
`max (its call instant) T`; if it is not set nobody has returned. -/
theorem close_returns_at_closed {s : S} (h : Reachable s) :
    (∀ T, s.closedAt = some T → s.closedEvent = true ∧
      ∀ c ∈ s.closers, c.st = .returned (max c.start T) ∨ ∃ a, c.st = .cancelled a) ∧
    (s.closedEvent = true → s.closedAt ≠ none) ∧
    (s.closedEvent = false → ∀ c ∈ s.closers, ∀ a, c.st ≠ .returned a) := by
  have i := h.inv.c
  refine ⟨fun T hT => ?_, fun hc hn => ?_, fun hce c hc a hs => ?_⟩
  · have hce := (i.caSome T hT).1
    refine ⟨hce, fun c hc => ?_⟩
    rcases (hce ▸ i.ok c hc).of_closed with ⟨T', hT', hs⟩ | hs
    · cases hT.symm.trans hT'
      exact Or.inl hs
    · exact Or.inr hs
  · cases hc.symm.trans (i.caNone hn)
  · obtain ⟨T, hT⟩ := (i.ok c hc).returned hs
    cases hce.symm.trans (i.caSome T hT).1

/-- **If the graceful close does not finish in time an abort is forced**: in every reachable
state, for a task inside `close()` whose `force_after` deadline has been reached (and which the
application has not cancelled), the connection was lost by that deadline - because the link
went, because the graceful close did complete (then the transport is not a stalled one), or
because `abort()` was called, at exactly that instant -; and as long as the task is in its
bounded wait the deadline is still ahead. -/
theorem close_forces_abort {s : S} (h : Reachable s) (c : Closer) (hc : c ∈ s.closers) :
    (c.deadline ≤ s.now → (∃ a, c.st = .cancelled a) ∨
      ∃ t, s.lostAt = some t ∧ t ≤ c.deadline ∧
        (s.lostBy = some .link ∨ (s.lostBy = some .graceful ∧ s.stalled = false) ∨
         (s.lostBy = some .abort ∧ s.abortedAt = some t))) ∧
    (c.st = .waiting → s.now < c.deadline) := by
  have i := h.inv.l
  have hk := h.inv.c.ok c hc
  refine ⟨fun hd => ?_, fun hs => (hk.waiting hs).1⟩
  rcases hk.of_due hd with hs | ⟨t, ht, htd⟩
  · exact Or.inl hs
  refine Or.inr ⟨t, ht, htd, ?_⟩
  -- however the connection was lost at `t`, the record says how
  cases hb : s.lostBy with
  | none => cases (i.lbNone hb).symm.trans (i.laSome t ht).1
  | some w =>
    cases w with
    | link => exact Or.inl rfl
    | graceful => exact Or.inr (Or.inl ⟨rfl, i.byGraceful hb⟩)
    | abort => exact Or.inr (Or.inr ⟨rfl, by rw [i.byAbort hb, ht]⟩)

/-- **A `close()` cut short by a cancellation of its caller still forces the abort** (repair
F25): cancelling a task in the bounded wait of `close()` leaves the connection lost. -/
theorem cancelled_close_aborts {s : S} (h : Reachable s) (c : Closer) (hc : c ∈ s.closers)
    (hw : c.st = .waiting) : (step s (.cancelClose c.id)).lost = true := by
  rcases step_cancelClose_cases s c.id with ⟨_, e⟩ | ⟨hno, _⟩
  · rw [e]; exact doAbort_lost _
  · exact absurd ⟨rfl, hw⟩ (hno h.inv.fixed c hc)

/-- **Every `close()` returns**: from every reachable state, for every task in the bounded wait
of `close()`, after its remaining `force_after` time plus the longest reaction of a handler to
its cancellation, `_closed_event` is set and nobody is inside `close()` any more. -/
theorem close_returns {s : S} (h : Reachable s) (c : Closer) (hc : c ∈ s.closers)
    (hw : c.st = .waiting) (n : Nat) (hn : (c.deadline - s.now) + reactBound s ≤ n) :
    (s.advance n).closedEvent = true ∧
    ∀ c' ∈ (s.advance n).closers, (∃ a, c'.st = .returned a) ∨ (∃ a, c'.st = .cancelled a) := by
  have hlt := ((h.inv.c.ok c hc).waiting hw).1
  have hce := closed_by_advance h.inv (Or.inr (Or.inl ⟨c, hc, hw, Nat.le_refl _⟩))
    (Nat.le_of_lt hlt) n (by omega)
  exact ⟨hce, (closed_implies_clean (h.run [.advance n]) hce).2.2.2.2⟩

/-- the property "a connection is never left half closed" of a whole connection `s0`: in every
state it can reach, while the asyncio transport is closing without `connection_lost` having
come, somebody is inside `close(force_after)` with its abort still ahead -/
def NeverHalfClosed (s0 : S) : Prop :=
  ∀ es, let s := run s0 es
    s.closing = true → s.lost = false →
      (∃ c ∈ s.closers, c.st = .waiting ∧ s.now < c.deadline) ∨
      (∃ x ∈ s.handlers, x.status = .run ∧ ∃ d, x.kind = .closer d ∧ s.now < d)

/-- **A connection is never left half closed**: while the asyncio transport is closing but
`connection_lost` has not come (a graceful close that does not complete), somebody - an
application task or a handler - is inside `close(force_after)` with the instant at which its wait
ends in an abort (its `force_after`, or the handler's processing timeout) still ahead. -/
theorem never_half_closed {s : S} (h : Reachable s) (hc : s.closing = true) (hl : s.lost = false) :
    (∃ c ∈ s.closers, c.st = .waiting ∧ s.now < c.deadline) ∨
    (∃ x ∈ s.handlers, x.status = .run ∧ ∃ d, x.kind = .closer d ∧ s.now < d) := by
  rcases h.ginv hc hl with ⟨c, hcm, hw⟩ | ⟨x, hx, hin⟩
  · exact Or.inl ⟨c, hcm, hw, ((h.inv.c.ok c hcm).waiting hw).1⟩
  · obtain ⟨d, hk, hlt, _⟩ := (h.inv.h.ok x hx).inClose hin
    exact Or.inr ⟨x, hx, ((inClose_iff x).mp hin).1, d, hk, hlt⟩

theorem never_half_closed_all (rt pt ol : Nat) (st : Bool) (hrt : 0 < rt) (hpt : 0 < pt) :
    NeverHalfClosed (init rt pt ol st) :=
  fun es => never_half_closed ⟨rt, pt, ol, st, es, hrt, hpt, rfl⟩

/-- the pinned code leaves a connection half closed for ever in three ways (four histories): (1) a handler
calls `close(force_after)` and its processing timeout fires while `close()` waits (the
TimeoutCancellationError passes `except TaskTimeout`, `abort()` never runs); (2) the application
cancels a task inside `close()`; (3) a handler task ends with a cancellation (message processing
is torn down, `_closed_event` set, the socket stays open) and a later `close()` returns at once
although the graceful close never completes.  In each case: transport closing, no
`connection_lost`, nobody inside `close()`, after 300 s. -/
theorem never_half_closed_pinned_witness :
    (let s := run (initPinned 30 30 50 true) [.request 1 (.closer 40), .advance 300]
     s.closing = true ∧ s.lost = false ∧ s.hookRuns = 0 ∧ s.closers = [] ∧
       s.handlers.all Handler.isDone = true) ∧
    (let s := run (initPinned 30 30 50 true) [.appClose 1 30, .advance 3, .cancelClose 1, .advance 300]
     s.closing = true ∧ s.lost = false ∧ s.hookRuns = 0 ∧ s.closers.map (·.st) = [.cancelled 3]) ∧
    (let s := run (initPinned 30 30 50 true)
       [.request 1 .slow, .handlerCancel 1, .appClose 1 7, .advance 300]
     s.closing = true ∧ s.lost = false ∧ s.closedEvent = true ∧
       s.closers.map (·.st) = [.returned 0]) ∧
    -- (1) as the audit reproduced it: the handler works for a second, then `await self.close()`
    -- with the default force_after 30 = processing_timeout
    (let s := run (initPinned 30 30 50 true)
       [.request 1 (.thenClose 30), .advance 1, .handlerFinish 1, .advance 300]
     s.closing = true ∧ s.lost = false ∧ s.hookRuns = 0 ∧ s.handlers.all Handler.isDone = true) := by
  -- nothing is armed any more once the handler's processing timeout has fired (first and last
  -- history), at once in the other two: the remaining seconds only move the clock
  have e1 := run_advance_idle (initPinned 30 30 50 true) [.request 1 (.closer 40)] 30 270
    (by decide +kernel)
  have e2 := run_advance_idle (initPinned 30 30 50 true)
    [.appClose 1 30, .advance 3, .cancelClose 1] 0 300 (by decide +kernel)
  have e3 := run_advance_idle (initPinned 30 30 50 true)
    [.request 1 .slow, .handlerCancel 1, .appClose 1 7] 0 300 (by decide +kernel)
  have e4 := run_advance_idle (initPinned 30 30 50 true)
    [.request 1 (.thenClose 30), .advance 1, .handlerFinish 1] 29 271 (by decide +kernel)
  simp only [List.cons_append, List.nil_append, Nat.reduceAdd] at e1 e2 e3 e4
  rw [e1, e2, e3, e4]
  decide +kernel

theorem never_half_closed_pinned_fails : ¬ NeverHalfClosed (initPinned 30 30 50 true) := by
  intro h
  obtain ⟨h1, h2, _, h4, h5⟩ := never_half_closed_pinned_witness.1
  rcases h [.request 1 (.closer 40), .advance 300] h1 h2 with ⟨c, hc, _⟩ | ⟨x, hx, hr, _⟩
  · rw [h4] at hc; cases hc
  · cases hr.symm.trans ((all_isDone _).mp h5 x hx)

/-- ... the same three histories with the repair: aborted at the processing deadline / at the
cancellation / when message processing ended -/
example :
    (run (init 30 30 50 true) [.request 1 (.closer 40), .advance 300]).abortedAt = some 30 ∧
    (run (init 30 30 50 true) [.appClose 1 30, .advance 3, .cancelClose 1, .advance 300]).abortedAt = some 3 ∧
    (run (init 30 30 50 true) [.request 1 .slow, .handlerCancel 1, .appClose 1 7, .advance 300]).abortedAt
      = some 0 ∧
    (run (init 30 30 50 true)
      [.request 1 (.thenClose 30), .advance 1, .handlerFinish 1, .advance 300]).abortedAt = some 30 := by
  have e1 := run_advance_idle (init 30 30 50 true) [.request 1 (.closer 40)] 30 270
    (by decide +kernel)
  have e2 := run_advance_idle (init 30 30 50 true)
    [.appClose 1 30, .advance 3, .cancelClose 1] 0 300 (by decide +kernel)
  have e3 := run_advance_idle (init 30 30 50 true)
    [.request 1 .slow, .handlerCancel 1, .appClose 1 7] 0 300 (by decide +kernel)
  have e4 := run_advance_idle (init 30 30 50 true)
    [.request 1 (.thenClose 30), .advance 1, .handlerFinish 1] 29 271 (by decide +kernel)
  simp only [List.cons_append, List.nil_append, Nat.reduceAdd] at e1 e2 e3 e4
  rw [e1, e2, e3, e4]
  decide +kernel

/-- once the transport is closing, or message processing torn down, the teardown is there or
on its way: somebody inside `close()` forces the loss by an instant `A` -/
theorem Reachable.will {s : S} (h : Reachable s) (hc : s.closing = true ∨ s.down = true) :
    ∃ A, s.now ≤ A ∧ Will s A := by
  rcases Bool.eq_false_or_eq_true s.down with hd | hd
  · exact ⟨s.now, Nat.le_refl _, Or.inl hd⟩
  · have hcl : s.closing = true := hc.elim id fun h1 => nomatch hd.symm.trans h1
    obtain ⟨A, hf⟩ := Forced.of_inClose (h.ginv hcl (h.inv.h.not_lost_of_not_down hd))
    exact ⟨A, Nat.le_of_lt (hf.now_lt h.inv), Or.inr hf⟩

/-- **Closing always ends closed**: from every reachable state in which the transport is
closing - after a drop, an abort, a completed or a stalled graceful close, from an application
task or from a handler - there is a time after which `_closed_event` is set for good. -/
theorem closing_leads_to_closed {s : S} (h : Reachable s) (hc : s.closing = true) :
    ∃ n, ∀ m, n ≤ m → (s.advance m).closedEvent = true := by
  obtain ⟨A, hA, w⟩ := h.will (Or.inl hc)
  refine ⟨(A - s.now) + reactBound s, fun m hm => ?_⟩
  exact closed_by_advance h.inv w hA m (by omega)

example : (run (init 30 30 50 true) [.request 1 .slow, .request 2 (.closer 7)]).closing = true ∧
    (run (init 30 30 50 true) [.request 1 .slow, .request 2 (.closer 7)]).lost = false ∧
    (run (init 30 30 50 true) [.request 1 .slow, .request 2 (.closer 7), .advance 7]).closedEvent = true := by
  decide +kernel

/-- **... whatever happens meanwhile**: from every reachable state in which the transport is
closing or message processing is torn down there is an instant `T` such that after *any*
continuation - requests, answers, more `close()` / `abort()` calls, cancellations, drops, clock
ticks in any order - that brings the clock to `T` or beyond, `_closed_event` is set.  (No new
handler can start, whoever sits in `close()` keeps its deadline or brings the loss earlier, the
handlers' reactions end by "deadline + reaction time": `Anytime.lean`.) -/
theorem closing_leads_to_closed_any {s : S} (h : Reachable s) (hc : s.closing = true ∨ s.down = true) :
    ∃ T, ∀ es, T ≤ (run s es).now → (run s es).closedEvent = true := by
  obtain ⟨A, hA, w⟩ := h.will hc
  exact ⟨A + reactBound s, fun es hT => closed_by h.inv w hA es hT⟩

/-- a stalled close from a handler, then requests, answers, a second close, cancellations: closed
at 8 (the cancelled close() aborts at 5, the stubborn handler reacts until 8) all the same -/
example :
    let s := run (init 30 30 50 true)
      [.request 1 (.stubborn 3), .outgoing 1, .request 2 (.closer 7), .advance 2, .request 3 .slow,
       .answer 1, .appClose 1 30, .advance 3, .cancelClose 1, .outgoing 2, .advance 5]
    s.closedEvent = true ∧ s.closedAt = some 8 ∧ s.abortedAt = some 5 := by decide +kernel

/-- **Closing is safe from any context, concurrently and repeatedly**: any number of
`appClose` / closing-handler / cancelClose / abort / drop events, in any order and interleaved
with anything else, keep every invariant - in particular the hook still runs once, and the
closers return together. (This is `Reachable.inv` spelled out for the events in question.) -/
theorem close_reentrant {s : S} (h : Reachable s) (es : List Event) :
    Inv (run s es) ∧ GInv (run s es) ∧ (run s es).hookRuns ≤ 1 :=
  ⟨(h.run es).inv, (h.run es).ginv, (hook_at_most_once (h.run es)).1⟩

/-! ## a conversation: two handlers (one stubborn), two outgoing requests, two concurrent
closers and a drop -/

def demo : List Event :=
  [.request 1 .slow, .request 2 (.stubborn 3), .outgoing 1, .outgoing 2, .answer 1,
   .appClose 1 7, .appClose 2 7, .drop, .advance 1]

example : (run (init 30 30 50 false) demo).hookRuns = 1 ∧
    (run (init 30 30 50 false) demo).tickets.map (·.status) = [.answered, .cancelled] ∧
    (run (init 30 30 50 false) demo).closers.map (·.st) = [.waiting, .waiting] ∧
    (run (init 30 30 50 false) demo).closedEvent = false ∧
    (run (init 30 30 50 false) (demo ++ [.advance 2])).closedEvent = true ∧
    (run (init 30 30 50 false) (demo ++ [.advance 2])).closers.map (·.st) = [.returned 3, .returned 3] ∧
    (run (init 30 30 50 false) (demo ++ [.advance 2, .appClose 3 7])).closers.map (·.st) =
      [.returned 3, .returned 3, .returned 3] := by decide +kernel

/-- the same on a transport whose graceful close never completes: the first closer's
`force_after` brings the abort at exactly 7 - still waiting for the stubborn handler -, both
return at 10 -/
example :
    let s := run (init 30 30 50 true)
      [.request 1 .slow, .request 2 (.stubborn 3), .outgoing 1, .appClose 1 7, .advance 1,
       .appClose 2 7, .advance 20]
    s.abortedAt = some 7 ∧ s.lostBy = some .abort ∧
    s.closers.map (·.st) = [.returned 10, .returned 10] ∧
    s.tickets.map (·.status) = [.cancelled] ∧ s.hookRuns = 1 := by decide +kernel

/-! ## tie to the source (`Aiorpcx.Facts.C08`: tables obtained by running the code of /repo
through its public interfaces on stubs, regenerated on every check) -/

open Facts.C08 in
/-- `connection_lost` of both transports, run on a stub with the send buffer full or not: fails
the framer with ConnectionLostError (that is what ends the message loop: the model's `lose` is
unconditional) and releases a writer blocked on the full send buffer. -/
theorem facts_connection_lost :
    lostRS = [⟨false, false, true, true⟩, ⟨true, true, true, true⟩] ∧ lostUS = lostRS := by decide

open Facts.C08 in
/-- `is_closing()` is the model's `S.isClosing` -/
theorem facts_is_closing :
    isClosingRS = [false, true].flatMap (fun ce => [false, true].map (fun tc =>
      ⟨ce, tc, ({ closedEvent := ce, closing := tc } : S).isClosing⟩)) ∧
    isClosingUS = isClosingRS := by decide

/-- the model's account of one of the `close(force_after)` table runs: a transport whose
graceful close never completes by itself, `connection_lost` `d` seconds after `close()` is a
drop of the link then, message processing that takes 2 s to end is a stubborn handler reacting
for 2 s, the caller cancelled after `k` seconds is `cancelClose` -/
def closeRow (already : Bool) (graceful : Option Nat) (fa : Nat) (cancelAt : Option Nat) :
    Facts.C08.CloseRow :=
  let pre : List Event := if already then [.drop] else [.request 1 (.stubborn 2)]
  let mid : List Event := match graceful with
    | some d => [.advance d, .drop]
    | none => []
  let can : List Event := match cancelAt with
    | some k => [.advance k, .cancelClose 1]
    | none => []
  let s := run (init 30 1000 50 true) (pre ++ [.appClose 1 fa] ++ mid ++ can ++ [.advance 40])
  ⟨already, graceful, fa, cancelAt, 1, s.abortedAt,
   match s.closers with
   | [c] => (match c.st with | .returned a => some a | _ => none)
   | _ => none,
   match s.closers with
   | [c] => (match c.st with | .cancelled _ => "CancelledError" | _ => "")
   | _ => ""⟩

open Facts.C08 in
/-- the real `close(force_after)` of both transports, run on the virtual loop in seven scenarios
(already closed; graceful close done after 0 / 3 / 9 s with force_after 7; never done with
force_after 7 / 1; never done and the caller cancelled after 3 s), does what the model does: one
transport.close(), an abort at exactly `force_after` iff not lost by then - or at the moment the
caller is cancelled (repair F25) -, return when message processing has ended, no exception but
the caller's own cancellation; before `connection_made` close() and abort() just return; the
session's `close(force_after=..)` (default observed) and `abort()` go to the transport's. -/
theorem facts_close_table :
    closeRS = [closeRow true none 7 none, closeRow false (some 0) 7 none,
               closeRow false (some 3) 7 none, closeRow false (some 9) 7 none,
               closeRow false none 7 none, closeRow false none 1 none,
               closeRow false none 7 (some 3)] ∧
    closeUS = closeRS ∧ noTransportRS = [true, true] ∧ noTransportUS = [true, true] ∧
    sessionCloseCalls = ["close 5", s!"close {defaultForceAfter}", "abort"] ∧
    0 < defaultForceAfter := by decide +kernel

open Facts.C08 in
/-- message processing of both transports ended in four ways (the session's process_messages
returns, raises ConnectionLostError - the way the message loop ends on a loss -, raises another
exception, is cancelled): the transport is closed afterwards in every case (the model's
`settle`), ConnectionLostError is swallowed and everything else propagates, and the asyncio
transport is aborted when processing ended with something else than the loss (repair F25; the
model's `settle` on a connection that is not lost, reached through `handlerCancel`). -/
theorem facts_process_messages :
    pmRS = [⟨"return", true, "returned", false⟩, ⟨"cle", true, "returned", false⟩,
            ⟨"other", true, "KeyError", true⟩, ⟨"cancel", true, "cancelled", true⟩] ∧
    pmUS = pmRS ∧
    (let s := run (init 30 30 50 true) [.request 1 .slow, .handlerCancel 1]
     s.closedEvent = true ∧ s.abortedAt.isSome = true) ∧
    (let s := run (init 30 30 50 true) [.request 1 .slow, .drop]
     s.closedEvent = true ∧ s.abortedAt.isSome = false) := by decide +kernel

open Facts.C08 in
/-- the hook runs exactly once however the message loop of either session class ends (its
`recv` fails, raises something else, the task is cancelled); RPCSession's hook cancels the
pending requests: `cancel_pending_requests` cancels what is pending and leaves what is done (the
model's `cancelTicket`) and leaves nothing registered. -/
theorem facts_hook_and_group :
    hookRuns = [1, 1, 1, 1, 1, 1] ∧
    rpcHookAfter = ["result", "cancelled", "cancelled"] ∧ cancelLeft = 0 ∧
    cancelAfter = ([⟨0, .answered, 0, false⟩, ⟨1, .pending, 0, false⟩, ⟨2, .cancelled, 0, false⟩,
                    ⟨3, .pending, 0, false⟩].map fun t =>
      match (cancelTicket t).status with
      | .answered => "result"
      | .cancelled => "cancelled"
      | _ => "pending") := by decide

open Facts.C08 in
/-- an unanswered `send_request` ends with TaskTimeout at exactly `sent_request_timeout` - also
when that attribute is set to something else -, which is positive (hypothesis `0 < reqTimeout`
of `Reachable`); so is `processing_timeout` (`0 < procTimeout`); the outgoing limiter lets a
positive number of requests out at once (the model's `outLimit`, passed to the driver). -/
theorem facts_request_timeout :
    requestOutcome = ["TaskTimeout", "TaskTimeout"] ∧
    requestTimedOutAtMs = [sentRequestTimeoutMs, 7000] ∧
    0 < sentRequestTimeoutMs ∧ 0 < processingTimeoutMs ∧ 0 < outgoingLimit := by decide

end Aiorpcx.C08
