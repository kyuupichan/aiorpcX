import Aiorpcx.C08.Live
/-! Liveness against *every* continuation, not only the passage of time: once the asyncio
transport is closing (or message processing is torn down) nothing the application, the peer or
the network does can postpone `_closed_event` beyond a bound that is fixed at that moment: no new
handler starts, whoever sits in `close()` keeps its deadline or brings the loss earlier, and the
reactions of the handlers end by "deadline + reaction time". -/
namespace Aiorpcx.C08

/-- the instant by which handler `h` is through once message processing is torn down, if the
teardown comes no later than `A` -/
def hEnd (A : Nat) (h : Handler) : Nat :=
  match h.status with
  | .run => match h.kind with
    | .stubborn r => A + r
    | _ => 0
  | .overrun _ => 0
  | .reacting u => u
  | .done => 0

/-- every handler is through by `T` if the teardown comes no later than `A` -/
def EB (s : S) (A T : Nat) : Prop := ∀ h ∈ s.handlers, hEnd A h ≤ T

/-- message processing is torn down, or somebody inside `close()` forces the loss by `A` -/
def Will (s : S) (A : Nat) : Prop := s.down = true ∨ Forced s A

theorem hEnd_cancel {A now : Nat} (hn : now ≤ A) (h : Handler) :
    hEnd A (cancelHandler now h) ≤ hEnd A h := by
  obtain ⟨id, k, st, pdl⟩ := h
  cases st with
  | run =>
    rcases k with _ | _ | (_ | r) | d | _ | _
    case stubborn.succ =>
      show min (now + (r + 1)) pdl ≤ A + (r + 1)
      omega
    all_goals exact Nat.zero_le _
  | overrun u => exact Nat.zero_le _
  | _ => exact Nat.le_refl _

theorem hEnd_fire (A n : Nat) (h : Handler) : hEnd A (fireHandler n h) ≤ hEnd A h := by
  obtain ⟨id, k, st, pdl⟩ := h
  cases st with
  | done => exact Nat.le_refl _
  | overrun u => simp only [fireHandler]; split <;> exact Nat.le_refl _
  | reacting u =>
    simp only [fireHandler]; split
    · exact Nat.zero_le _
    · exact Nat.le_refl _
  | run =>
    rcases k with _ | _ | (_ | r) | d | _ | _ <;> simp only [fireHandler] <;> split <;>
      first | exact Nat.zero_le _ | exact Nat.le_refl _

theorem hEnd_finish (A i : Nat) (h : Handler) : hEnd A (finishHandler i h) ≤ hEnd A h := by
  unfold finishHandler
  split
  · exact Nat.zero_le _
  · exact Nat.le_refl _

theorem hEnd_crash (A i : Nat) (h : Handler) : hEnd A (crashHandler i h) ≤ hEnd A h := by
  unfold crashHandler
  split
  · exact Nat.zero_le _
  · exact Nat.le_refl _

theorem hEnd_toCloser (A : Nat) (f : Bool) (n i : Nat) (h : Handler) :
    hEnd A (toCloser f n i h) ≤ hEnd A h := by
  unfold toCloser
  split
  · split
    · rename_i fa _
      by_cases hfa : fa = 0 <;> simp [hEnd, hfa]
    · exact Nat.le_refl _
  · exact Nat.le_refl _

theorem EB.map {s : S} {A T : Nat} {f : Handler → Handler} (h : EB s A T)
    (hf : ∀ x, hEnd A (f x) ≤ hEnd A x) : EB { s with handlers := s.handlers.map f } A T := by
  intro y hy
  obtain ⟨x, hx, rfl⟩ := List.mem_map.mp hy
  exact Nat.le_trans (hf x) (h x hx)

theorem EB.torn {q q' : S} {A T : Nat} (h : EB q A T) (ht : Torn q q')
    (hn : q.down = false → q.now ≤ A) : EB q' A T := by
  intro y hy
  rcases ht.2 with ⟨_, e, _⟩ | ⟨hd, _, e, _⟩ <;> rw [e] at hy
  · exact h y hy
  · obtain ⟨x, hx, rfl⟩ := List.mem_map.mp hy
    exact Nat.le_trans (hEnd_cancel (hn hd) x) (h x hx)

theorem EB_reactBound {s : S} {A : Nat} (hA : s.now ≤ A) : EB s A (A + reactBound s) := by
  intro h hh
  refine Nat.le_trans ?_ (Nat.add_le_add_left (hBound_le_reactBound hh) A)
  obtain ⟨id, k, st, pdl⟩ := h
  cases st with
  | run => cases k <;> first | exact Nat.le_refl _ | exact Nat.zero_le _
  | reacting u => show u ≤ A + (u - s.now); omega
  | _ => exact Nat.zero_le _

theorem Will.now_le {s : S} {A : Nat} (i : Inv s) (w : Will s A) : s.down = false → s.now ≤ A := by
  intro hd
  rcases w with h | h
  · cases hd.symm.trans h
  · exact Nat.le_of_lt (h.now_lt i)

theorem Will.closing_or_down {s : S} {A : Nat} (i : Inv s) (w : Will s A) :
    s.closing = true ∨ s.down = true :=
  w.elim Or.inr fun h => Or.inl (h.closing i)

theorem step_will {s : S} {A : Nat} (i : Inv s) (w : Will s A) (e : Event) : Will (step s e) A := by
  rcases w with hd | hf
  · exact Or.inl (step_down hd e)
  · -- whatever loses the connection tears message processing down
    exact (step_forced i hf e).imp (step_inv i e).h.lostDown id

theorem step_closing_or_down {s : S} (i : Inv s) {A : Nat} (w : Will s A) (e : Event) :
    (step s e).closing = true ∨ (step s e).down = true :=
  (step_will i w e).closing_or_down (step_inv i e)

theorem tick_EB {s : S} {A T : Nat} (i : Inv s) (w : Will s A) (h : EB s A T) : EB s.tick A T := by
  have hf : EB s.fired A T := h.map (hEnd_fire A _)
  refine hf.torn (tick_torn s) fun hd => ?_
  rcases w with h1 | h1
  · cases (show s.down = false from hd).symm.trans h1
  · exact h1.now_lt i

theorem advance_EB (n : Nat) : ∀ {s : S} {A T : Nat}, Inv s → Will s A → EB s A T →
    EB (s.advance n) A T := by
  induction n with
  | zero => intro s A T _ _ h; exact h
  | succ n ih => intro s A T i w h; exact ih (tick_inv i) (step_will i w (.advance 1)) (tick_EB i w h)

theorem step_EB {s : S} {A T : Nat} (i : Inv s) (w : Will s A) (h : EB s A T) (e : Event) :
    EB (step s e) A T := by
  have hn := w.now_le i
  have hcd := w.closing_or_down i
  cases e with
  | request j k => rw [(step_ignored hcd j k 0).1]; exact h
  | replyClose j fa => rw [(step_ignored hcd j .quick fa).2.1]; exact h
  | answer k => rw [(step_ignored hcd k .quick 0).2.2]; exact h
  | handlerFinish j =>
    rcases step_handlerFinish_cases s j with e | ⟨fa, _, e⟩ <;> rw [e]
    · exact h.map (hEnd_finish A j)
    · have h1 := h.map (hEnd_toCloser A s.fixed s.now j)
      split
      · exact h1.torn ((transportClose_torn _).trans (doAbort_torn _)) hn
      · exact h1.torn (transportClose_torn _) hn
  | handlerCancel j =>
    have h1 := h.map (hEnd_crash A j)
    rcases step_handlerCancel_cases s j with e | ⟨hd, hc⟩
    · rw [e]; exact h
    · have t := teardown_torn { s with handlers := s.handlers.map (crashHandler j) } hd
      rcases hc with ⟨_, _, e⟩ | ⟨_, e⟩ <;> rw [e]
      · exact h1.torn (t.trans ((doAbort_torn _).trans (settle_torn _))) hn
      · exact h1.torn (t.trans (settle_torn _)) hn
  | outgoing k => rcases step_outgoing_cases s k with e | e | e <;> rw [e] <;> exact h
  | drop => exact EB.torn (q := { s with closing := true }) h (lose_torn _ _) hn
  | appClose c fa =>
    have h1 : ∀ x, EB { s with closers := s.closers ++ [x] } A T := fun _ => h
    rcases step_appClose_cases s c fa with ⟨_, e⟩ | ⟨_, e⟩ | ⟨_, e⟩ | ⟨_, _, e⟩ <;> rw [e]
    · exact h
    · exact (h1 _).torn (transportClose_torn _) hn
    · exact (h1 _).torn ((transportClose_torn _).trans (doAbort_torn _)) hn
    · exact (h1 _).torn (transportClose_torn _) hn
  | cancelClose c =>
    rcases step_cancelClose_cases s c with ⟨_, e⟩ | ⟨_, e⟩ <;> rw [e]
    · exact EB.torn (q := { s with closers := _ }) h (doAbort_torn _) hn
    · exact h
  | abort => exact h.torn (doAbort_torn s) hn
  | advance dt => exact advance_EB dt i w h

theorem run_will (es : List Event) : ∀ {s : S} {A T : Nat}, Inv s → Will s A → EB s A T →
    Inv (run s es) ∧ Will (run s es) A ∧ EB (run s es) A T := by
  induction es with
  | nil => intro s A T i w h; exact ⟨i, w, h⟩
  | cons e es ih => intro s A T i w h; exact ih (step_inv i e) (step_will i w e) (step_EB i w h e)

theorem closed_of_will {s : S} {A T : Nat} (i : Inv s) (w : Will s A) (h : EB s A T)
    (hA : A ≤ s.now) (hT : T ≤ s.now) : s.closedEvent = true := by
  have hd : s.down = true := w.elim id fun h1 => absurd (h1.now_lt i) (Nat.not_lt.mpr hA)
  refine i.settled hd fun x hx => ?_
  have hk := i.h.ok x hx
  rw [hd] at hk
  rcases hk.of_down with hs | ⟨u, hs, hu⟩
  · exact hs
  · have he := h x hx
    unfold hEnd at he
    simp only [hs] at he
    omega

/-- once message processing is torn down, or somebody inside `close()` forces the loss by `A`,
whatever happens then: when the clock has passed `A` by the longest reaction, `_closed_event` is
set -/
theorem closed_by {s : S} {A : Nat} (i : Inv s) (w : Will s A) (hA : s.now ≤ A) (es : List Event)
    (h : A + reactBound s ≤ (run s es).now) : (run s es).closedEvent = true := by
  obtain ⟨i', w', e'⟩ := run_will es i w (EB_reactBound hA)
  exact closed_of_will i' w' e' (Nat.le_trans (Nat.le_add_right _ _) h) h

theorem closed_by_advance {s : S} {A : Nat} (i : Inv s) (w : Will s A) (hA : s.now ≤ A) (m : Nat)
    (h : A + reactBound s ≤ s.now + m) : (s.advance m).closedEvent = true :=
  closed_by i w hA [.advance m] (by show _ ≤ (s.advance m).now; rw [advance_now]; exact h)

end Aiorpcx.C08
