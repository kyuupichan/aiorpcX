import Aiorpcx.C08.Closing
/-! The passage of time: the clock, a bound on how long the handlers take to give in once the
teardown has cancelled them, and what a tick does when nothing is armed any more. -/
namespace Aiorpcx.C08

@[simp] theorem advance_now (n : Nat) : ∀ (s : S), (s.advance n).now = s.now + n := by
  induction n with
  | zero => intro s; rfl
  | succ n ih => intro s; show (s.tick.advance n).now = _; rw [ih, tick_now]; omega

theorem advance_add (a b : Nat) : ∀ (s : S), s.advance (a + b) = (s.advance a).advance b := by
  induction a with
  | zero => intro s; rw [Nat.zero_add]; rfl
  | succ a ih =>
    intro s
    rw [Nat.succ_add]
    exact ih s.tick

theorem abortCloser_deadline (n : Nat) (c : Closer) : (abortCloser n c).deadline = c.deadline := by
  unfold abortCloser; split <;> rfl

/-- how long handler `h` can take from `now` once the teardown has cancelled it -/
def hBound (now : Nat) (h : Handler) : Nat :=
  match h.status with
  | .run => match h.kind with
    | .stubborn r => r
    | _ => 0
  | .overrun _ => 0
  | .reacting u => u - now
  | .done => 0

/-- a computable such bound: the longest reaction -/
def reactBound (s : S) : Nat := (s.handlers.map (hBound s.now)).foldr max 0

theorem le_foldr_max : ∀ (l : List Nat) (x : Nat), x ∈ l → x ≤ l.foldr max 0
  | [], x, h => by cases h
  | y :: l, x, h => by
    simp only [List.foldr_cons]
    rcases List.mem_cons.mp h with rfl | h
    · exact Nat.le_max_left _ _
    · exact Nat.le_trans (le_foldr_max l x h) (Nat.le_max_right _ _)

theorem hBound_le_reactBound {s : S} {h : Handler} (hh : h ∈ s.handlers) :
    hBound s.now h ≤ reactBound s :=
  le_foldr_max _ _ (List.mem_map_of_mem hh)

/-- no timer is armed and the TaskGroup exit has nothing left to do: every handler is through,
nobody is in the bounded wait of `close()`, no outgoing request is out or queued, and
`_closed_event` is set if message processing is torn down -/
def S.idle (s : S) : Bool :=
  s.handlers.all Handler.isDone && s.closers.all (fun c => c.st != .waiting) &&
  s.tickets.all (fun t => t.status != .pending && t.status != .queued) &&
  (!s.down || s.closedEvent)

theorem promoteList_of_no_queued {now rt : Nat} : ∀ (free : Nat) (l : List Ticket),
    (∀ t ∈ l, t.status ≠ .queued) → promoteList now rt free l = l
  | _, [], _ => by cases ‹Nat› <;> rfl
  | 0, _ :: _, _ => rfl
  | free + 1, t :: l, h => by
    unfold promoteList
    split
    · exact absurd ‹_› (h t List.mem_cons_self)
    · rw [promoteList_of_no_queued (free + 1) l fun x hx => h x (List.mem_cons_of_mem _ hx)]

theorem tick_idle {s : S} (h : s.idle = true) : s.tick = { s with now := s.now + 1 } := by
  simp only [S.idle, Bool.and_eq_true, List.all_eq_true, isDone_iff, bne_iff_ne, ne_eq,
    Bool.or_eq_true, Bool.not_eq_true'] at h
  obtain ⟨⟨⟨hh, hc⟩, ht⟩, hs⟩ := h
  have e1 : s.handlers.map (fireHandler (s.now + 1)) = s.handlers :=
    map_fixed fun x hx => by unfold fireHandler; rw [hh x hx]
  have e2 : s.closers.map (abortCloser (s.now + 1)) = s.closers :=
    map_fixed fun x hx => abortCloser_of_not_due fun hw => hc x hx hw.1
  have e3 : s.tickets.map (expireTicket (s.now + 1)) = s.tickets :=
    map_fixed fun x hx => by
      unfold expireTicket
      split
      · exact absurd ‹_› (ht x hx).1
      · rfl
  have hnd : ({ s with now := s.now + 1 } : S).anyDue = false := by
    simp only [S.anyDue, Bool.or_eq_false_iff, List.any_eq_false, closerDue, handlerDue,
      Bool.and_eq_true, beq_iff_eq, not_and]
    exact ⟨fun x hx hw => absurd hw (hc x hx), fun x hx hr => by cases (hh x hx).symm.trans hr⟩
  have hset : ¬ ((s.down && !s.closedEvent && s.handlers.all Handler.isDone) = true) := by
    rcases hs with hs | hs <;> simp [hs]
  unfold S.tick
  simp only [hnd, Bool.false_eq_true, ↓reduceIte, S.promote, e1, e2, e3]
  rw [promoteList_of_no_queued _ _ fun x hx => (ht x hx).2]
  unfold S.settle
  rw [if_neg hset]

theorem advance_idle (n : Nat) : ∀ {s : S}, s.idle = true →
    s.advance n = { s with now := s.now + n } := by
  induction n with
  | zero => intro s _; rfl
  | succ n ih =>
    intro s h
    show s.tick.advance n = _
    rw [tick_idle h, ih (s := { s with now := s.now + 1 }) h, Nat.add_assoc, Nat.add_comm 1 n]

theorem run_app (l1 l2 : List Event) : ∀ (q : S), run q (l1 ++ l2) = run (run q l1) l2 := by
  induction l1 with
  | nil => intro q; rfl
  | cons x l ih => intro q; exact ih _

/-- after an event sequence that ends in `k` seconds with nothing armed any more, further
seconds only move the clock -/
theorem run_advance_idle (s0 : S) (es : List Event) (k n : Nat)
    (h : (run s0 (es ++ [.advance k])).idle = true) :
    run s0 (es ++ [.advance (k + n)]) =
      { run s0 (es ++ [.advance k]) with now := (run s0 (es ++ [.advance k])).now + n } := by
  rw [run_app] at h ⊢
  rw [run_app]
  show (run s0 es).advance (k + n) = _
  rw [advance_add]
  exact advance_idle n h

end Aiorpcx.C08
