import Aiorpcx.C08.Inv
/-! Every event of the C08 lifecycle model preserves the invariants, hence they hold in every
reachable state. -/
namespace Aiorpcx.C08

/-- asyncio delivers no data once the transport is closing, a dead session does not read -/
theorem step_ignored {s : S} (hc : s.closing = true ∨ s.down = true) (i : Nat) (k : HKind) (fa : Nat) :
    step s (.request i k) = s ∧ step s (.replyClose i fa) = s ∧ step s (.answer i) = s := by
  rcases hc with hc | hc <;> simp [step, hc]

theorem step_request_cases (s : S) (i : Nat) (k : HKind) :
    step s (.request i k) = s ∨
    (s.closing = false ∧ s.down = false ∧ step s (.request i k) = s.startHandler i k) := by
  simp only [step]
  split
  · exact Or.inl rfl
  · rename_i hg
    simp only [Bool.or_eq_true, not_or, Bool.not_eq_true] at hg
    exact Or.inr ⟨hg.1.1, hg.1.2, rfl⟩

theorem step_replyClose_cases (s : S) (i fa : Nat) :
    step s (.replyClose i fa) = s ∨
    (s.closing = false ∧ s.down = false ∧
      step s (.replyClose i fa) = s.startCloser i (s.now + fa) (s.now + fa) (fa == 0)) := by
  simp only [step]
  split
  · exact Or.inl rfl
  · rename_i hg
    simp only [Bool.or_eq_true, not_or, Bool.not_eq_true] at hg
    exact Or.inr ⟨hg.1.1, hg.1.2, rfl⟩

theorem step_handlerFinish_cases (s : S) (j : Nat) :
    step s (.handlerFinish j) = { s with handlers := s.handlers.map (finishHandler j) } ∨
    ∃ fa, (∃ h ∈ s.handlers, resuming j h = some fa) ∧
      step s (.handlerFinish j) =
        if fa = 0 then
          (S.transportClose { s with handlers := s.handlers.map (toCloser s.fixed s.now j) }).doAbort
        else S.transportClose { s with handlers := s.handlers.map (toCloser s.fixed s.now j) } := by
  simp only [step]
  split
  · exact Or.inl rfl
  · rename_i fa hfs
    refine Or.inr ⟨fa, List.exists_of_findSome?_eq_some hfs, ?_⟩
    by_cases hfa : fa = 0 <;> simp [hfa]

theorem step_handlerCancel_cases (s : S) (j : Nat) :
    step s (.handlerCancel j) = s ∨
    (s.down = false ∧
      ((s.fixed = true ∧ (∃ h ∈ s.handlers, h.inClose = true) ∧
          step s (.handlerCancel j) =
            ({ s with handlers := s.handlers.map (crashHandler j) } : S).teardown.doAbort.settle) ∨
       ((s.fixed = true → ∀ h ∈ s.handlers, h.inClose = false) ∧
          step s (.handlerCancel j) =
            ({ s with handlers := s.handlers.map (crashHandler j) } : S).teardown.settle))) := by
  show s.crash j = s ∨ (_ ∧ ((_ ∧ _ ∧ s.crash j = _) ∨ (_ ∧ s.crash j = _)))
  unfold S.crash
  split
  · exact Or.inl rfl
  · rename_i hg
    simp only [Bool.or_eq_true, not_or, Bool.not_eq_true] at hg
    refine Or.inr ⟨hg.1, ?_⟩
    dsimp only
    split
    · rename_i hb
      simp only [Bool.and_eq_true, List.any_map, List.any_eq_true, Function.comp_apply,
        crashHandler_inClose] at hb
      exact Or.inl ⟨hb.1, hb.2, rfl⟩
    · rename_i hb
      simp only [Bool.and_eq_true, List.any_map, List.any_eq_true, Function.comp_apply,
        crashHandler_inClose, not_and, not_exists, Bool.not_eq_true] at hb
      exact Or.inr ⟨hb, rfl⟩

theorem step_outgoing_cases (s : S) (k : Nat) :
    step s (.outgoing k) = s ∨
    step s (.outgoing k) =
      { s with tickets := s.tickets ++ [⟨k, .pending, s.now + s.reqTimeout, s.down⟩] } ∨
    step s (.outgoing k) = { s with tickets := s.tickets ++ [⟨k, .queued, 0, s.down⟩] } := by
  simp only [step]
  split
  · exact Or.inl rfl
  · split
    · exact Or.inr (Or.inl rfl)
    · exact Or.inr (Or.inr rfl)

theorem step_answer_cases (s : S) (k : Nat) :
    step s (.answer k) = s ∨
    (s.down = false ∧
      step s (.answer k) = S.promote { s with tickets := s.tickets.map (answerTicket k) }) := by
  simp only [step]
  split
  · exact Or.inl rfl
  · rename_i hg
    simp only [Bool.or_eq_true, not_or, Bool.not_eq_true] at hg
    exact Or.inr ⟨hg.2, rfl⟩

theorem step_appClose_cases (s : S) (c fa : Nat) :
    (usedCloser s c = true ∧ step s (.appClose c fa) = s) ∨
    (s.closedEvent = true ∧ step s (.appClose c fa) =
      S.transportClose { s with closers := s.closers ++ [⟨c, s.now, s.now + fa, .returned s.now⟩] }) ∨
    (s.closedEvent = false ∧ step s (.appClose c fa) =
      (S.transportClose
        { s with closers := s.closers ++ [⟨c, s.now, s.now, .abortedWaiting⟩] }).doAbort) ∨
    (s.closedEvent = false ∧ fa ≠ 0 ∧ step s (.appClose c fa) =
      S.transportClose { s with closers := s.closers ++ [⟨c, s.now, s.now + fa, .waiting⟩] }) := by
  simp only [step]
  by_cases hu : usedCloser s c = true
  · exact Or.inl ⟨hu, if_pos hu⟩
  by_cases hce : s.closedEvent = true
  · exact Or.inr (Or.inl ⟨hce, by rw [if_neg hu, if_pos hce]⟩)
  have hce' : s.closedEvent = false := Bool.eq_false_iff.mpr hce
  by_cases hfa : fa = 0
  · refine Or.inr (Or.inr (Or.inl ⟨hce', ?_⟩))
    simp only [if_neg hu, if_neg hce, hfa, beq_self_eq_true, if_true]
  · refine Or.inr (Or.inr (Or.inr ⟨hce', hfa, ?_⟩))
    simp only [if_neg hu, if_neg hce, beq_iff_eq, if_neg hfa]

theorem step_cancelClose_cases (s : S) (c : Nat) :
    (s.fixed = true ∧
      step s (.cancelClose c) = S.doAbort { s with closers := s.closers.map (cancelCloser s.now c) }) ∨
    ((s.fixed = true → ∀ x ∈ s.closers, ¬ (x.id = c ∧ x.st = .waiting)) ∧
      step s (.cancelClose c) = { s with closers := s.closers.map (cancelCloser s.now c) }) := by
  show (_ ∧ s.cancelClose c = _) ∨ (_ ∧ s.cancelClose c = _)
  unfold S.cancelClose
  dsimp only
  split
  · rename_i hb
    simp only [Bool.and_eq_true] at hb
    exact Or.inl ⟨hb.1, rfl⟩
  · rename_i hb
    refine Or.inr ⟨fun hf x hx hw => hb ?_, rfl⟩
    simp only [hf, Bool.true_and, List.any_eq_true]
    exact ⟨x, hx, by simp [hw.1, hw.2]⟩

theorem anyDue_false {s : S} (h : s.anyDue = false) :
    (∀ c ∈ s.closers, ¬ (c.st = .waiting ∧ c.deadline ≤ s.now)) ∧
    ∀ x ∈ s.handlers, handlerDue s.now x = false := by
  unfold S.anyDue at h
  simp only [Bool.or_eq_false_iff, List.any_eq_false] at h
  refine ⟨fun c hc ⟨h1, h2⟩ => h.1 c hc ?_, fun x hx => by simpa using h.2 x hx⟩
  simp [closerDue, h1, h2]

/-- the state in the middle of a tick: the clock has moved, every timer due has fired, the
limiter has handed out its slots; what is left to do is the abort (if some `close()` was cut
short) and `settle` -/
def S.fired (s : S) : S :=
  let s1 : S := { s with now := s.now + 1 }
  S.promote
    { s1 with tickets := s1.tickets.map (expireTicket s1.now),
              handlers := s1.handlers.map (fireHandler s1.now),
              closers := s1.closers.map (abortCloser s1.now) }

theorem tick_eq (s : S) :
    s.tick = if ({ s with now := s.now + 1 } : S).anyDue then s.fired.doAbort.settle else s.fired.settle := rfl

/-- the groups of the fired state that do not depend on what the loss will be -/
theorem fired_hi {s : S} (i : Inv s) :
    HI s.fired.now s.fired.down s.fired.closing s.fired.lost s.fired.closedEvent s.fired.hookRuns
      s.fired.procTimeout s.fired.handlers :=
  i.h.map (fun h => h) (fun _ => fireHandler_ok) fun _ => fireHandler_done

theorem fired_ti {s : S} (i : Inv s) :
    TI s.fired.now s.fired.down s.fired.reqTimeout s.fired.tickets :=
  ⟨i.t.pos, promoteList_ok i.t.pos (forall_map i.t.ok fun _ => expireTicket_ok)⟩

/-- the tasks inside `close()` after the timers fired, judged against the instant of loss `la'`
as it will be after the tick -/
theorem fired_ci {s : S} (i : Inv s) (la' : Option Nat) (hm : ∀ t, s.lostAt = some t → la' = some t)
    (hl : ∀ c ∈ s.closers, c.st = .waiting → c.deadline ≤ s.now + 1 →
      ∃ t, la' = some t ∧ t ≤ c.deadline) :
    CI (s.now + 1) s.closing s.closedEvent s.closedAt la' s.fired.closers := by
  refine ⟨?_, fun hne => i.c.closersClosing (by simpa [S.fired, S.promote] using hne), i.c.caNone, ?_⟩
  · intro c hc
    obtain ⟨x, hx, rfl⟩ := List.mem_map.mp hc
    exact abortCloser_ok (i.c.ok x hx) hm (hl x hx)
  · intro T hT
    obtain ⟨h1, h2, t, ht, h3⟩ := i.c.caSome T hT
    exact ⟨h1, Nat.le_succ_of_le h2, t, hm t ht, h3⟩

theorem tick_inv {s : S} (i : Inv s) : Inv s.tick := by
  rw [tick_eq]
  rcases Bool.eq_false_or_eq_true s.lost with hl | hl
  · -- already lost: an abort changes nothing
    obtain ⟨t, ht, htn⟩ := i.l.la_some hl
    have i0 : Inv0 s.fired :=
      { fixed := i.fixed, h := fired_hi i, t := fired_ti i, l := i.l.tick
        c := fired_ci i s.lostAt (fun _ h => h) fun c hc hw _ =>
          ⟨t, ht, Nat.le_of_lt (Nat.lt_of_le_of_lt htn ((i.c.ok c hc).waiting hw).1)⟩ }
    rw [doAbort_of_lost (s := s.fired) hl]
    split <;> exact settle_inv i0
  · split
    · -- somebody's wait inside close() is cut short now: abort, loss, teardown
      have hi := fired_hi i
      rw [show s.fired.lost = false from hl] at hi
      refine settle_inv (doAbort_inv_of_not_lost (s := s.fired) hl i.fixed hi (fired_ti i) ?_).toInv0
      exact (fired_ci i (some (s.now + 1)) (i.l.la_le hl _) fun c hc hw _ =>
        ⟨_, rfl, ((i.c.ok c hc).waiting hw).1⟩).setClosing
    · rename_i hnd
      have hno := (anyDue_false (Bool.eq_false_iff.mpr hnd)).1
      exact settle_inv
        { fixed := i.fixed, h := fired_hi i, t := fired_ti i, l := i.l.tick
          c := fired_ci i s.lostAt (fun _ h => h) fun c hc hw hd => absurd ⟨hw, hd⟩ (hno c hc) }

theorem advance_inv (n : Nat) : ∀ {s : S}, Inv s → Inv (s.advance n) := by
  induction n with
  | zero => intro s h; exact h
  | succ n ih => intro s h; exact ih (tick_inv h)

theorem Inv.not_down_facts {s : S} (i : Inv s) (hd : s.down = false) :
    s.lost = false ∧ s.closedEvent = false :=
  have hl := i.h.not_lost_of_not_down hd
  ⟨hl, i.h.ce_false hl⟩

theorem addHandler_inv {s : S} (i : Inv s) (hd : s.down = false) (x : Handler)
    (hx : HOk s.now false s.closing x) : Inv { s with handlers := s.handlers ++ [x] } := by
  obtain ⟨_, hce⟩ := i.not_down_facts hd
  exact { fixed := i.fixed, t := i.t, c := i.c, l := i.l
          h := ⟨i.h.ptPos, i.h.hook, i.h.lostDown, i.h.lostClosing,
                fun h => (by cases hce.symm.trans h), forall_append_one i.h.ok (by rw [hd]; exact hx)⟩
          settled := fun h => by cases hd.symm.trans h }

theorem startCloser_inv {s : S} (i : Inv s) (hd : s.down = false)
    (j d pdl : Nat) (im : Bool) (hdl : im = false → s.now < d ∧ d ≤ pdl) :
    Inv (s.startCloser j d pdl im) := by
  unfold S.startCloser
  cases im with
  | true => exact doAbort_inv (transportClose_inv (addHandler_inv i hd _ (HOk.of_done rfl)))
  | false =>
    obtain ⟨h1, h2⟩ := hdl rfl
    exact transportClose_inv_of_setClosing (addHandler_inv i.setClosing hd _ ⟨rfl, h1, h2, rfl⟩)

theorem startHandler_inv {s : S} (i : Inv s) (hd : s.down = false) (j : Nat) (k : HKind) :
    Inv (s.startHandler j k) := by
  have hpt : s.now < s.now + s.procTimeout := Nat.lt_add_of_pos_right i.h.ptPos
  unfold S.startHandler
  cases k with
  | quick => exact addHandler_inv i hd _ (HOk.of_done rfl)
  | slow => exact addHandler_inv i hd _ ⟨rfl, hpt⟩
  | stubborn r => exact addHandler_inv i hd _ ⟨rfl, hpt⟩
  | aborter => exact doAbort_inv (addHandler_inv i hd _ (HOk.of_done rfl))
  | thenClose fa => exact addHandler_inv i hd _ ⟨rfl, hpt⟩
  | closer fa =>
    refine startCloser_inv i hd _ _ _ _ fun hfa => ?_
    have hfa : fa ≠ 0 := by simpa using hfa
    simp only [closerDeadline, i.fixed, ↓reduceIte]
    omega

theorem Inv.mapHandlers {s : S} (i : Inv s) {f : Handler → Handler}
    (hok : ∀ x, HOk s.now s.down s.closing x → HOk s.now s.down s.closing (f x))
    (hfix : ∀ x, x.status ≠ .run → f x = x) : Inv { s with handlers := s.handlers.map f } :=
  { fixed := i.fixed, t := i.t, c := i.c, l := i.l
    h := i.h.map (fun h => h) hok fun _ => done_of_fixed hfix
    settled := fun hd hall => i.settled hd fun x hx => by
      have hk := i.h.ok x hx
      rw [hd] at hk
      rw [← hfix x hk.not_run_of_down]
      exact hall _ (List.mem_map_of_mem hx) }

theorem resume_inv {s : S} (i : Inv s) (j : Nat) :
    Inv { s with handlers := s.handlers.map (toCloser s.fixed s.now j), closing := true } := by
  rw [show toCloser s.fixed s.now j = toCloser true s.now j by rw [i.fixed]]
  exact i.setClosing.mapHandlers (f := toCloser true s.now j) (fun _ => toCloser_ok)
    fun _ => toCloser_of_not_run

theorem handlerFinish_inv {s : S} (i : Inv s) (j : Nat) : Inv (step s (.handlerFinish j)) := by
  rcases step_handlerFinish_cases s j with e | ⟨fa, _, e⟩ <;> rw [e]
  · exact i.mapHandlers (fun _ => finishHandler_ok) fun _ => finishHandler_of_not_run
  · have tc := transportClose_inv_of_setClosing
      (s := { s with handlers := s.handlers.map (toCloser s.fixed s.now j) }) (resume_inv i j)
    split
    · exact doAbort_inv tc
    · exact tc

theorem handlerCancel_inv {s : S} (i : Inv s) (j : Nat) : Inv (step s (.handlerCancel j)) := by
  rcases step_handlerCancel_cases s j with e | ⟨hd, hc⟩
  · rw [e]; exact i
  · obtain ⟨hl, _⟩ := i.not_down_facts hd
    -- the groups of the torn-down state
    have hh := i.h
    have ht := i.t
    rw [hd] at hh ht
    have hh := (hh.map (f := crashHandler j) (fun h => h) (fun _ => crashHandler_ok)
      fun _ => done_of_fixed fun _ => crashHandler_of_not_run).teardown
    rcases hc with ⟨_, _, e⟩ | ⟨_, e⟩ <;> rw [e]
    · rw [hl] at hh
      exact settle_inv (doAbort_inv_of_not_lost
        (s := ({ s with handlers := s.handlers.map (crashHandler j) } : S).teardown)
        hl i.fixed hh ht.teardown (i.ci_lose hl)).toInv0
    · exact settle_inv { fixed := i.fixed, h := hh, t := ht.teardown, c := i.c, l := i.l }

theorem outgoing_inv {s : S} (i : Inv s) (k : Nat) : Inv (step s (.outgoing k)) := by
  have hrt : s.now < s.now + s.reqTimeout := Nat.lt_add_of_pos_right i.t.pos
  have hd : (s.down = true → s.down = true) ∧ (s.down = false → s.down = false) := ⟨id, id⟩
  rcases step_outgoing_cases s k with e | e | e <;> rw [e]
  · exact i
  · exact { i with t := ⟨i.t.pos, forall_append_one i.t.ok ⟨hd.1, hrt, hd.2⟩⟩ }
  · exact { i with t := ⟨i.t.pos, forall_append_one i.t.ok ⟨hd.1, hd.2⟩⟩ }

theorem answer_inv {s : S} (i : Inv s) (k : Nat) : Inv (step s (.answer k)) := by
  rcases step_answer_cases s k with e | ⟨hd, e⟩ <;> rw [e]
  · exact i
  · refine promote_inv { i with t := ⟨i.t.pos, forall_map i.t.ok fun t hk => ?_⟩ }
    rw [hd] at hk ⊢
    exact answerTicket_ok hk

/-- a new task enters `close()`: the state just after it is registered, with `closing` set and
judged against the instant of loss `la'` -/
theorem addCloser_ci {s : S} (i : Inv s) (la' : Option Nat) (hm : ∀ t, s.lostAt = some t → la' = some t)
    (x : Closer) (hx : COk s.now s.closedEvent s.closedAt la' x) :
    CI s.now true s.closedEvent s.closedAt la' (s.closers ++ [x]) :=
  have c := (i.c.la_mono hm).setClosing
  ⟨forall_append_one c.ok hx, fun _ => rfl, c.caNone, c.caSome⟩

theorem appClose_inv {s : S} (i : Inv s) (c fa : Nat) : Inv (step s (.appClose c fa)) := by
  -- the new task, registered on a transport that is closing already or taken as closing
  have add : ∀ x, COk s.now s.closedEvent s.closedAt s.lostAt x →
      Inv { s with closers := s.closers ++ [x], closing := true } := fun x hx =>
    { i.setClosing with c := addCloser_ci i s.lostAt (fun _ h => h) x hx }
  rcases step_appClose_cases s c fa with ⟨_, e⟩ | ⟨hce, e⟩ | ⟨hce, e⟩ | ⟨hce, hfa, e⟩ <;> rw [e]
  · exact i
  · -- closed already: returns at once
    obtain ⟨T, hT⟩ : ∃ T, s.closedAt = some T := by
      cases h : s.closedAt with
      | none => cases hce.symm.trans (i.c.caNone h)
      | some T => exact ⟨T, rfl⟩
    obtain ⟨_, hTn, t, ht, htT⟩ := i.c.caSome T hT
    exact transportClose_inv_of_setClosing (add _
      ⟨Nat.le_refl _, T, hT, (Nat.max_eq_left hTn).symm, t, ht,
       Nat.le_trans htT (Nat.le_trans hTn (Nat.le_add_right _ _))⟩)
  · -- force_after = 0: close(), then abort() in the same instant
    rcases Bool.eq_false_or_eq_true s.lost with hl | hl
    · -- lost already (a handler is still reacting): nothing but the wait
      obtain ⟨t, ht, htn⟩ := i.l.la_some hl
      exact doAbort_inv (transportClose_inv_of_setClosing (add _
        ⟨Nat.le_refl _, hce, Nat.le_refl _, t, ht, htn⟩))
    · have cc := addCloser_ci i (some s.now) (i.l.la_le hl _) ⟨c, s.now, s.now, .abortedWaiting⟩
        ⟨Nat.le_refl _, hce, Nat.le_refl _, _, rfl, Nat.le_refl _⟩
      have h0 := i.h
      rw [hl] at h0
      rcases transportClose_cases
          { s with closers := s.closers ++ [⟨c, s.now, s.now, .abortedWaiting⟩] } with
        ⟨hc, e⟩ | ⟨_, _, e⟩ | ⟨_, hst, e⟩ <;> rw [e]
      · exact doAbort_inv_of_not_lost (s := { s with closers := _ }) hl i.fixed h0 i.t cc
      · exact doAbort_inv_of_not_lost (s := { s with closers := _, closing := true })
          hl i.fixed (h0.closing_mono fun _ => rfl) i.t cc
      · exact doAbort_inv (lose_inv_of_not_lost (s := { s with closers := _, closing := true })
          hl i.fixed (h0.closing_mono fun _ => rfl) rfl i.t cc
          (by rw [show s.abortedAt = none from i.l.aa_none hl]
              exact LI.lose_other (fun _ => hst) nofun))
  · exact transportClose_inv_of_setClosing (add _
      ⟨Nat.le_refl _, Nat.lt_add_of_pos_right (Nat.pos_of_ne_zero hfa), hce⟩)

theorem cancelClose_inv {s : S} (i : Inv s) (c : Nat) : Inv (step s (.cancelClose c)) := by
  have i1 : Inv { s with closers := s.closers.map (cancelCloser s.now c) } :=
    { i with c := ⟨forall_map i.c.ok fun _ => cancelCloser_ok,
                   fun hne => i.c.closersClosing (by simpa using hne), i.c.caNone, i.c.caSome⟩ }
  rcases step_cancelClose_cases s c with ⟨_, e⟩ | ⟨_, e⟩ <;> rw [e]
  · exact doAbort_inv i1
  · exact i1

theorem step_inv {s : S} (i : Inv s) (e : Event) : Inv (step s e) := by
  cases e with
  | request j k =>
    rcases step_request_cases s j k with e | ⟨_, hd, e⟩ <;> rw [e]
    · exact i
    · exact startHandler_inv i hd j k
  | replyClose j fa =>
    rcases step_replyClose_cases s j fa with e | ⟨_, hd, e⟩ <;> rw [e]
    · exact i
    · refine startCloser_inv i hd _ _ _ _ fun hfa => ?_
      have hfa : fa ≠ 0 := by simpa using hfa
      exact ⟨Nat.lt_add_of_pos_right (Nat.pos_of_ne_zero hfa), Nat.le_refl _⟩
  | handlerFinish j => exact handlerFinish_inv i j
  | handlerCancel j => exact handlerCancel_inv i j
  | outgoing k => exact outgoing_inv i k
  | answer k => exact answer_inv i k
  | drop => exact lose_inv i .link nofun nofun
  | appClose c fa => exact appClose_inv i c fa
  | cancelClose c => exact cancelClose_inv i c
  | abort => exact doAbort_inv i
  | advance dt => exact advance_inv dt i

theorem run_inv (es : List Event) : ∀ {s : S}, Inv s → Inv (run s es) := by
  induction es with
  | nil => intro s i; exact i
  | cons e es ih => intro s i; exact ih (step_inv i e)

theorem init_inv (rt pt ol : Nat) (st : Bool) (hrt : 0 < rt) (hpt : 0 < pt) : Inv (init rt pt ol st) := by
  refine { fixed := rfl, h := ?_, t := ⟨hrt, nofun⟩, c := ?_, l := ?_, settled := nofun }
  · exact ⟨hpt, rfl, nofun, nofun, nofun, nofun⟩
  · exact ⟨nofun, fun h => absurd rfl h, fun _ => rfl, nofun⟩
  · exact ⟨fun _ => rfl, nofun, fun _ => rfl, nofun, nofun, nofun, nofun⟩

theorem reachable_inv (rt pt ol : Nat) (st : Bool) (hrt : 0 < rt) (hpt : 0 < pt) (es : List Event) :
    Inv (run (init rt pt ol st) es) :=
  run_inv es (init_inv rt pt ol st hrt hpt)

end Aiorpcx.C08
