import Aiorpcx.C08.Step
/-! What the building blocks of the step function leave alone: a loss is final, and `settle`,
`lose`, `doAbort`, `transportClose` touch neither the clock nor - unless they tear message
processing down - the handlers and the outgoing requests. -/
namespace Aiorpcx.C08

theorem settle_lost {s : S} (hl : s.lost = true) : s.settle.lost = true := by
  unfold S.settle
  split
  · split
    · rfl
    · exact hl
  · exact hl

theorem settle_lost_or {s : S} (hf : s.fixed = true) :
    s.settle.lost = true ∨ s.settle = s := by
  unfold S.settle
  split
  · left
    split
    · rfl
    · rename_i h; simpa [hf] using h
  · right; rfl

theorem settle_fixed (s : S) : s.settle.fixed = s.fixed := by
  unfold S.settle; split
  · split <;> rfl
  · rfl

theorem lose_lost (s : S) (why : Cause) : (s.lose why).lost = true := by
  unfold S.lose
  split
  · assumption
  · apply settle_lost
    split <;> rfl

theorem doAbort_lost (s : S) : s.doAbort.lost = true := by
  unfold S.doAbort
  split
  · assumption
  · exact lose_lost _ _

/-- `q'` is `q` after message processing was possibly torn down: the clock has not moved, and
the handlers and outgoing requests are as they were or - if message processing was up and is not
any more - every one of them cancelled -/
def Torn (q q' : S) : Prop :=
  q'.now = q.now ∧
  ((q'.down = q.down ∧ q'.handlers = q.handlers ∧ q'.tickets = q.tickets) ∨
   (q.down = false ∧ q'.down = true ∧ q'.handlers = q.handlers.map (cancelHandler q.now) ∧
     q'.tickets = q.tickets.map cancelTicket))

theorem Torn.refl (q : S) : Torn q q := ⟨rfl, Or.inl ⟨rfl, rfl, rfl⟩⟩

theorem Torn.trans {a b c : S} (h1 : Torn a b) (h2 : Torn b c) : Torn a c := by
  obtain ⟨n1, k1⟩ := h1
  obtain ⟨n2, k2⟩ := h2
  refine ⟨n2.trans n1, ?_⟩
  rcases k1 with ⟨d1, hh1, t1⟩ | ⟨d1, d1', hh1, t1⟩
  · rw [n1, d1, hh1, t1] at k2; exact k2
  · rcases k2 with ⟨d2, hh2, t2⟩ | ⟨d2, _⟩
    · exact Or.inr ⟨d1, d2.trans d1', hh2.trans hh1, t2.trans t1⟩
    · cases d1'.symm.trans d2

theorem settle_torn (s : S) : Torn s s.settle := by
  unfold S.settle
  split
  · split <;> exact ⟨rfl, Or.inl ⟨rfl, rfl, rfl⟩⟩
  · exact .refl s

theorem teardown_torn (s : S) (hd : s.down = false) : Torn s s.teardown :=
  ⟨rfl, Or.inr ⟨hd, rfl, rfl, rfl⟩⟩

theorem lose_torn (s : S) (why : Cause) : Torn s (s.lose why) := by
  unfold S.lose
  split
  · exact .refl s
  · refine Torn.trans ?_ (settle_torn _)
    split
    · exact ⟨rfl, Or.inl ⟨rfl, rfl, rfl⟩⟩
    · exact ⟨rfl, Or.inr ⟨Bool.eq_false_iff.mpr ‹_›, rfl, rfl, rfl⟩⟩

theorem doAbort_torn (s : S) : Torn s s.doAbort := by
  unfold S.doAbort
  split
  · exact .refl s
  · exact lose_torn { s with abortedAt := _, closing := true } _

theorem transportClose_torn (s : S) : Torn s s.transportClose := by
  rcases transportClose_cases s with ⟨_, e⟩ | ⟨_, _, e⟩ | ⟨_, _, e⟩ <;> rw [e]
  · exact .refl s
  · exact ⟨rfl, Or.inl ⟨rfl, rfl, rfl⟩⟩
  · exact lose_torn { s with closing := true } _

/-- the second half of a clock tick -/
theorem tick_torn (s : S) : Torn s.fired s.tick := by
  rw [tick_eq]
  split
  · exact (doAbort_torn _).trans (settle_torn _)
  · exact settle_torn _

/-- how an event may change the ticket list when it is not the clock and not about tickets:
either not at all, or - if it brought the teardown - by cancelling every waiting one -/
def TicketsKeptOrCancelled (q q' : S) : Prop :=
  (q'.down = q.down ∧ q'.tickets = q.tickets) ∨
  (q.down = false ∧ q'.down = true ∧ q'.tickets = q.tickets.map cancelTicket)

/-- `q` differs from `pre` at most in what the event did to its own part of the state first -/
theorem Torn.tkc {pre q q' : S} (h : Torn pre q') (hd : pre.down = q.down := by rfl)
    (ht : pre.tickets = q.tickets := by rfl) : TicketsKeptOrCancelled q q' := by
  unfold TicketsKeptOrCancelled
  rw [← hd, ← ht]
  rcases h.2 with ⟨d, _, t⟩ | ⟨d, d', _, t⟩
  · exact Or.inl ⟨d, t⟩
  · exact Or.inr ⟨d, d', t⟩

/-- each of these events first updates its own part of the state (handlers or tasks inside
`close()`) and then may lose the connection and tear message processing down -/
theorem step_tkc (s : S) (e : Event) (ho : ∀ k, e ≠ .outgoing k) (ha : ∀ k, e ≠ .answer k)
    (hc : ∀ dt, e ≠ .advance dt) : TicketsKeptOrCancelled s (step s e) := by
  cases e with
  | request i k =>
    rcases step_request_cases s i k with e | ⟨_, _, e⟩ <;> rw [e]
    · exact (Torn.refl s).tkc
    · cases k with
      | aborter => exact (doAbort_torn _).tkc
      | closer fa =>
        simp only [S.startHandler, S.startCloser]
        split
        · exact ((transportClose_torn _).trans (doAbort_torn _)).tkc
        · exact (transportClose_torn _).tkc
      | _ => exact Or.inl ⟨rfl, rfl⟩
  | replyClose i fa =>
    rcases step_replyClose_cases s i fa with e | ⟨_, _, e⟩ <;> rw [e]
    · exact (Torn.refl s).tkc
    · unfold S.startCloser
      split
      · exact ((transportClose_torn _).trans (doAbort_torn _)).tkc
      · exact (transportClose_torn _).tkc
  | handlerFinish j =>
    rcases step_handlerFinish_cases s j with e | ⟨fa, _, e⟩ <;> rw [e]
    · exact Or.inl ⟨rfl, rfl⟩
    · split
      · exact ((transportClose_torn _).trans (doAbort_torn _)).tkc
      · exact (transportClose_torn _).tkc
  | handlerCancel j =>
    rcases step_handlerCancel_cases s j with e | ⟨hd, hc⟩
    · rw [e]; exact (Torn.refl s).tkc
    · have t := teardown_torn { s with handlers := s.handlers.map (crashHandler j) } hd
      rcases hc with ⟨_, _, e⟩ | ⟨_, e⟩ <;> rw [e]
      · exact (t.trans ((doAbort_torn _).trans (settle_torn _))).tkc
      · exact (t.trans (settle_torn _)).tkc
  | outgoing k => exact absurd rfl (ho k)
  | answer k => exact absurd rfl (ha k)
  | drop => exact (lose_torn { s with closing := true } _).tkc
  | appClose c fa =>
    rcases step_appClose_cases s c fa with ⟨_, e⟩ | ⟨_, e⟩ | ⟨_, e⟩ | ⟨_, _, e⟩ <;> rw [e]
    · exact (Torn.refl s).tkc
    · exact (transportClose_torn _).tkc
    · exact ((transportClose_torn _).trans (doAbort_torn _)).tkc
    · exact (transportClose_torn _).tkc
  | cancelClose c =>
    rcases step_cancelClose_cases s c with ⟨_, e⟩ | ⟨_, e⟩ <;> rw [e]
    · exact (doAbort_torn _).tkc
    · exact Or.inl ⟨rfl, rfl⟩
  | abort => exact (doAbort_torn s).tkc
  | advance dt => exact absurd rfl (hc dt)

theorem tick_now (s : S) : s.tick.now = s.now + 1 := (tick_torn s).1

theorem tick_down {s : S} (hd : s.down = true) : s.tick.down = true :=
  (tick_torn s).2.elim (fun h => h.1.trans hd) fun h => h.2.1

theorem tick_tickets_of_down {s : S} (hd : s.down = true) :
    s.tick.tickets = s.fired.tickets := by
  rcases (tick_torn s).2 with ⟨_, _, e⟩ | ⟨h, _⟩
  · exact e
  · cases (show s.down = false from h).symm.trans hd

theorem tick_lost {s : S} (hl : s.lost = true) : s.tick.lost = true := by
  rw [tick_eq]
  split
  · exact settle_lost (doAbort_lost _)
  · exact settle_lost hl

theorem advance_down (n : Nat) : ∀ {s : S}, s.down = true → (s.advance n).down = true := by
  induction n with
  | zero => intro s h; exact h
  | succ n ih => intro s h; exact ih (tick_down h)

theorem advance_lost (n : Nat) : ∀ {s : S}, s.lost = true → (s.advance n).lost = true := by
  induction n with
  | zero => intro s h; exact h
  | succ n ih => intro s h; exact ih (tick_lost h)

theorem step_down {s : S} (hd : s.down = true) (e : Event) : (step s e).down = true := by
  have tkc : TicketsKeptOrCancelled s (step s e) → (step s e).down = true :=
    fun h => h.elim (fun h => h.1.trans hd) fun h => h.2.1
  cases e with
  | outgoing k => rcases step_outgoing_cases s k with e | e | e <;> rw [e] <;> exact hd
  | answer k => rw [(step_ignored (Or.inr hd) k .quick 0).2.2]; exact hd
  | advance dt => exact advance_down dt hd
  | _ => exact tkc (step_tkc s _ nofun nofun nofun)

end Aiorpcx.C08
