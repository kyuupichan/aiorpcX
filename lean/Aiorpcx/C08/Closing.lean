import Aiorpcx.C08.Frame
/-! A connection is never left half closed.  While the asyncio transport is closing but
`connection_lost` has not been delivered (a graceful close that does not complete), somebody is
inside `close(force_after)` with the timer still armed - an application task or a handler - so
the forced abort is on its way; and whoever is there stays there, with its deadline, until the
connection is lost. -/
namespace Aiorpcx.C08

def GInv (s : S) : Prop :=
  s.closing = true → s.lost = false →
    (∃ c ∈ s.closers, c.st = .waiting) ∨ (∃ h ∈ s.handlers, h.inClose = true)

/-- somebody is inside `close()` and its wait ends (with an abort) by the instant `t` -/
def Forced (s : S) (t : Nat) : Prop :=
  (∃ c ∈ s.closers, c.st = .waiting ∧ c.deadline ≤ t) ∨
  (∃ h ∈ s.handlers, h.inClose = true ∧ ∃ d, h.kind = .closer d ∧ d ≤ t)

/-- somebody - an application task or a handler - is in the bounded wait of `close()` -/
def InClose (s : S) : Prop :=
  (∃ c ∈ s.closers, c.st = .waiting) ∨ (∃ h ∈ s.handlers, h.inClose = true)

theorem InClose.closer {s : S} {c : Closer} (hc : c ∈ s.closers) (hw : c.st = .waiting) : InClose s :=
  Or.inl ⟨c, hc, hw⟩

theorem InClose.handler {s : S} {h : Handler} (hh : h ∈ s.handlers) (hin : h.inClose = true) :
    InClose s :=
  Or.inr ⟨h, hh, hin⟩

theorem GInv.of_lost {s : S} (hl : s.lost = true) : GInv s := by
  intro _ h; cases hl.symm.trans h

theorem GInv.of_not_closing {s : S} (hc : s.closing = false) : GInv s := by
  intro h; cases hc.symm.trans h

theorem Forced.of_inClose {s : S} (h : InClose s) : ∃ A, Forced s A := by
  rcases h with ⟨c, hc, hw⟩ | ⟨h, hh, hin⟩
  · exact ⟨c.deadline, Or.inl ⟨c, hc, hw, Nat.le_refl _⟩⟩
  · obtain ⟨_, d, hd⟩ := (inClose_iff h).mp hin
    exact ⟨d, Or.inr ⟨h, hh, hin, d, hd, Nat.le_refl _⟩⟩

theorem Forced.inClose {s : S} {A : Nat} (hf : Forced s A) : InClose s := by
  rcases hf with ⟨c, hc, hw, _⟩ | ⟨h, hh, hin, _⟩
  · exact .closer hc hw
  · exact .handler hh hin

theorem Forced.now_lt {s : S} {A : Nat} (i : Inv s) (hf : Forced s A) : s.now < A := by
  rcases hf with ⟨c, hc, hw, hd⟩ | ⟨h, hh, hin, d, hk, hd⟩
  · exact Nat.lt_of_lt_of_le ((i.c.ok c hc).waiting hw).1 hd
  · obtain ⟨d', hk', hlt, _⟩ := (i.h.ok h hh).inClose hin
    cases hk.symm.trans hk'
    exact Nat.lt_of_lt_of_le hlt hd

theorem Forced.closing {s : S} {A : Nat} (i : Inv s) (hf : Forced s A) : s.closing = true := by
  rcases hf with ⟨c, hc, _, _⟩ | ⟨h, hh, hin, _⟩
  · exact i.c.closersClosing (List.ne_nil_of_mem hc)
  · obtain ⟨_, _, _, _, hcl⟩ := (i.h.ok h hh).inClose hin
    exact hcl

theorem Forced.of_mem {s s' : S} {A : Nat} (hf : Forced s A)
    (hc : ∀ c ∈ s.closers, c.st = .waiting → c ∈ s'.closers)
    (hh : ∀ h ∈ s.handlers, h.inClose = true → h ∈ s'.handlers) : Forced s' A := by
  rcases hf with ⟨c, hcm, hw, hd⟩ | ⟨h, hhm, hin, hd⟩
  · exact Or.inl ⟨c, hc c hcm hw, hw, hd⟩
  · exact Or.inr ⟨h, hh h hhm hin, hin, hd⟩

theorem Forced.transportClose {s : S} {A : Nat} (hf : Forced s A) :
    s.transportClose.lost = true ∨ Forced s.transportClose A := by
  rcases transportClose_cases s with ⟨_, e⟩ | ⟨_, _, e⟩ | ⟨_, _, e⟩ <;> rw [e]
  · exact Or.inr hf
  · exact Or.inr hf
  · exact Or.inl (lose_lost _ _)

/-- a tick that does not lose the connection fires nobody's `force_after`, and `settle` has
nothing to do -/
theorem tick_not_lost {s : S} (i : Inv s) (hl : s.tick.lost = false) :
    ({ s with now := s.now + 1 } : S).anyDue = false ∧ s.tick = s.fired := by
  rw [tick_eq] at hl ⊢
  split at hl
  · cases hl.symm.trans (settle_lost (doAbort_lost _))
  · rename_i h
    rw [if_neg h]
    refine ⟨Bool.eq_false_iff.mpr h, ?_⟩
    rcases settle_lost_or (s := s.fired) i.fixed with h1 | h1
    · cases hl.symm.trans h1
    · exact h1

theorem tick_forced {s : S} {A : Nat} (i : Inv s) (hf : Forced s A) :
    s.tick.lost = true ∨ Forced s.tick A := by
  rcases Bool.eq_false_or_eq_true s.tick.lost with hl | hl
  · exact Or.inl hl
  · obtain ⟨hnd, e⟩ := tick_not_lost i hl
    obtain ⟨hc, hh⟩ := anyDue_false hnd
    rw [e]
    exact Or.inr (hf.of_mem
      (fun c hcm _ => mem_map_of_fixed hcm (abortCloser_of_not_due (hc c hcm)))
      fun h hhm hin => mem_map_of_fixed hhm (fireHandler_inClose (i.h.ok h hhm) hin (hh h hhm)))

theorem advance_forced {A : Nat} (n : Nat) : ∀ {s : S}, Inv s → Forced s A →
    (s.advance n).lost = true ∨ Forced (s.advance n) A := by
  induction n with
  | zero => intro s _ hf; exact Or.inr hf
  | succ n ih =>
    intro s i hf
    rcases tick_forced i hf with hl | hf
    · exact Or.inl (advance_lost n hl)
    · exact ih (tick_inv i) hf

/-- no event takes somebody out of `close()`, or moves its deadline, without the connection
being lost -/
theorem step_forced {s : S} {A : Nat} (i : Inv s) (hf : Forced s A) (e : Event) :
    (step s e).lost = true ∨ Forced (step s e) A := by
  have hcl := hf.closing i
  cases e with
  | request j k => rw [(step_ignored (Or.inl hcl) j k 0).1]; exact Or.inr hf
  | replyClose j fa => rw [(step_ignored (Or.inl hcl) j .quick fa).2.1]; exact Or.inr hf
  | answer k => rw [(step_ignored (Or.inl hcl) k .quick 0).2.2]; exact Or.inr hf
  | handlerFinish j =>
    rcases step_handlerFinish_cases s j with e | ⟨fa, _, e⟩ <;> rw [e]
    · exact Or.inr (hf.of_mem (fun _ h _ => h)
        fun h hh hin => mem_map_of_fixed hh (finishHandler_inClose hin))
    · split
      · exact Or.inl (doAbort_lost _)
      · exact Forced.transportClose (hf.of_mem (fun _ h _ => h)
          fun h hh hin => mem_map_of_fixed hh (toCloser_inClose hin))
  | handlerCancel j =>
    rcases step_handlerCancel_cases s j with e | ⟨_, ⟨_, _, e⟩ | ⟨hno, e⟩⟩ <;> rw [e]
    · exact Or.inr hf
    · exact Or.inl (settle_lost (doAbort_lost _))
    · -- nobody was inside `close()` from a handler: the tasks are, and stay
      rcases settle_lost_or (s := ({ s with handlers := s.handlers.map (crashHandler j) } : S).teardown)
        i.fixed with h | h
      · exact Or.inl h
      · rw [h]
        exact Or.inr (hf.elim Or.inl fun ⟨h, hh, hin, _⟩ => nomatch hin.symm.trans (hno i.fixed h hh))
  | outgoing k => rcases step_outgoing_cases s k with e | e | e <;> rw [e] <;> exact Or.inr hf
  | drop => exact Or.inl (lose_lost _ _)
  | appClose c fa =>
    have keep : ∀ x, Forced { s with closers := s.closers ++ [x] } A := fun x =>
      hf.of_mem (fun _ h _ => List.mem_append_left _ h) fun _ h _ => h
    rcases step_appClose_cases s c fa with ⟨_, e⟩ | ⟨_, e⟩ | ⟨_, e⟩ | ⟨_, _, e⟩ <;> rw [e]
    · exact Or.inr hf
    · exact (keep _).transportClose
    · exact Or.inl (doAbort_lost _)
    · exact (keep _).transportClose
  | cancelClose c =>
    rcases step_cancelClose_cases s c with ⟨_, e⟩ | ⟨hno, e⟩ <;> rw [e]
    · exact Or.inl (doAbort_lost _)
    · exact Or.inr (hf.of_mem
        (fun x hx hw => mem_map_of_fixed hx (cancelCloser_other (hno i.fixed x hx) hw))
        fun _ h _ => h)
  | abort => exact Or.inl (doAbort_lost _)
  | advance dt => exact advance_forced dt i hf

/-- `transport.close()` by somebody who is inside `close()` afterwards -/
theorem transportClose_ginv {s : S} (hw : InClose s) : GInv s.transportClose := by
  rcases transportClose_cases s with ⟨_, e⟩ | ⟨_, _, e⟩ | ⟨_, _, e⟩ <;> rw [e]
  · exact fun _ _ => hw
  · exact fun _ _ => hw
  · exact GInv.of_lost (lose_lost _ _)

theorem startCloser_ginv (s : S) (j d pdl : Nat) (im : Bool) : GInv (s.startCloser j d pdl im) := by
  unfold S.startCloser
  cases im with
  | true => exact GInv.of_lost (doAbort_lost _)
  | false =>
    exact transportClose_ginv (.handler (h := ⟨j, .closer d, .run, pdl⟩) List.mem_concat_self rfl)

theorem tick_ginv {s : S} (i : Inv s) (g : GInv s) : GInv s.tick := by
  intro hc hl
  have hl' := hl
  rw [(tick_not_lost i hl).2] at hc hl'
  obtain ⟨_, hf⟩ := Forced.of_inClose (g hc hl')
  exact ((tick_forced i hf).resolve_left (hl ▸ nofun)).inClose

theorem advance_ginv (n : Nat) : ∀ {s : S}, Inv s → GInv s → GInv (s.advance n) := by
  induction n with
  | zero => intro s _ g; exact g
  | succ n ih => intro s i g; exact ih (tick_inv i) (tick_ginv i g)

theorem step_ginv {s : S} (i : Inv s) (g : GInv s) (e : Event) : GInv (step s e) := by
  -- an event that leaves `closing` and `lost` as they are: whoever was inside `close()` still is
  have keep : ∀ q, step s e = q → q.closing = s.closing → q.lost = s.lost → GInv (step s e) := by
    intro q hq hc hl hc' hl'
    have h1 : s.closing = true := by rw [← hc, ← hq]; exact hc'
    have h2 : s.lost = false := by rw [← hl, ← hq]; exact hl'
    obtain ⟨_, hf⟩ := Forced.of_inClose (g h1 h2)
    exact ((step_forced i hf e).resolve_left (hl' ▸ nofun)).inClose
  cases e with
  | request j k =>
    rcases step_request_cases s j k with e | ⟨hc, _, e⟩
    · exact keep s e rfl rfl
    · rw [e]
      cases k with
      | aborter => exact GInv.of_lost (doAbort_lost _)
      | closer fa => exact startCloser_ginv _ _ _ _ _
      | _ => exact GInv.of_not_closing hc
  | replyClose j fa =>
    rcases step_replyClose_cases s j fa with e | ⟨_, _, e⟩
    · exact keep s e rfl rfl
    · rw [e]; exact startCloser_ginv _ _ _ _ _
  | handlerFinish j =>
    rcases step_handlerFinish_cases s j with e | ⟨fa, ⟨h0, hh0, hr0⟩, e⟩
    · exact keep _ e rfl rfl
    · rw [e]
      split
      · exact GInv.of_lost (doAbort_lost _)
      · exact transportClose_ginv (.handler (List.mem_map_of_mem hh0) (toCloser_resuming hr0 ‹_›))
  | handlerCancel j =>
    rcases step_handlerCancel_cases s j with e | ⟨_, ⟨_, _, e⟩ | ⟨_, e⟩⟩
    · exact keep s e rfl rfl
    · exact e ▸ GInv.of_lost (settle_lost (doAbort_lost _))
    · rcases settle_lost_or (s := ({ s with handlers := s.handlers.map (crashHandler j) } : S).teardown)
        i.fixed with h | h
      · exact e ▸ GInv.of_lost h
      · exact keep _ (e.trans h) rfl rfl
  | outgoing k =>
    rcases step_outgoing_cases s k with e | e | e <;> exact keep _ e rfl rfl
  | answer k =>
    rcases step_answer_cases s k with e | ⟨_, e⟩ <;> exact keep _ e rfl rfl
  | drop => exact GInv.of_lost (lose_lost _ _)
  | appClose c fa =>
    rcases step_appClose_cases s c fa with ⟨_, e⟩ | ⟨hce, e⟩ | ⟨_, e⟩ | ⟨_, _, e⟩
    · exact keep s e rfl rfl
    · -- closed, hence lost, and `transport.close()` does nothing
      have hl := (i.h.closedThen hce).1
      rw [e]
      rcases transportClose_cases
          { s with closers := s.closers ++ [⟨c, s.now, s.now + fa, .returned s.now⟩] } with
        ⟨_, e⟩ | ⟨_, _, e⟩ | ⟨_, _, e⟩ <;> rw [e]
      · exact GInv.of_lost hl
      · exact GInv.of_lost hl
      · exact GInv.of_lost (lose_lost _ _)
    · rw [e]; exact GInv.of_lost (doAbort_lost _)
    · rw [e]
      exact transportClose_ginv (.closer List.mem_concat_self rfl)
  | cancelClose c =>
    rcases step_cancelClose_cases s c with ⟨_, e⟩ | ⟨_, e⟩
    · exact e ▸ GInv.of_lost (doAbort_lost _)
    · exact keep _ e rfl rfl
  | abort => exact GInv.of_lost (doAbort_lost _)
  | advance dt => exact advance_ginv dt i g

theorem run_ginv (es : List Event) : ∀ {s : S}, Inv s → GInv s → GInv (run s es) := by
  induction es with
  | nil => intro s _ g; exact g
  | cons e es ih => intro s i g; exact ih (step_inv i e) (step_ginv i g e)

theorem init_ginv (rt pt ol : Nat) (st : Bool) : GInv (init rt pt ol st) := GInv.of_not_closing rfl

end Aiorpcx.C08
