import Aiorpcx.C08.Model
/-! Element-level invariants of the C08 lifecycle model (one handler / one outgoing request / one
task inside `close()`, relative to the clock and the connection's flags) and how every
element-level function of the model acts on them. -/
namespace Aiorpcx.C08

theorem forall_map {α : Type} {l : List α} {f : α → α} {P Q : α → Prop}
    (h : ∀ x ∈ l, P x) (hf : ∀ x, P x → Q (f x)) : ∀ y ∈ l.map f, Q y := by
  intro y hy
  obtain ⟨x, hx, rfl⟩ := List.mem_map.mp hy
  exact hf x (h x hx)

theorem forall_append_one {α : Type} {l : List α} {a : α} {P : α → Prop}
    (h : ∀ x ∈ l, P x) (ha : P a) : ∀ y ∈ l ++ [a], P y := by
  intro y hy
  rcases List.mem_append.mp hy with hy | hy
  · exact h y hy
  · rw [List.mem_singleton.mp hy]; exact ha

theorem forall_imp {α : Type} {l : List α} {P Q : α → Prop}
    (h : ∀ x ∈ l, P x) (hf : ∀ x, P x → Q x) : ∀ y ∈ l, Q y :=
  fun y hy => hf y (h y hy)

theorem mem_map_of_fixed {α : Type} {l : List α} {f : α → α} {x : α} (hx : x ∈ l) (hf : f x = x) :
    x ∈ l.map f :=
  List.mem_map.mpr ⟨x, hx, hf⟩

theorem map_fixed {α : Type} {l : List α} {f : α → α} (hf : ∀ x ∈ l, f x = x) : l.map f = l := by
  rw [List.map_congr_left hf, List.map_id']

/-- what holds of a handler at clock `n` on a connection with these flags: a running one has
its timers ahead (one blocked in `close()`: the instant its wait is cut short, which is not
after its processing deadline - repair F25 - and the asyncio transport is closing); nobody runs
once message processing is torn down; a reaction to the teardown's cancellation happens only
after the teardown -/
def HOk (n : Nat) (down closing : Bool) (h : Handler) : Prop :=
  match h.status with
  | .run => down = false ∧
      (match h.kind with
       | .closer d => n < d ∧ d ≤ h.pdl ∧ closing = true
       | _ => n < h.pdl)
  | .overrun u => down = false ∧ n < u
  | .reacting u => down = true ∧ n < u
  | .done => True

section
variable {n n' i fa : Nat} {dn c c' f : Bool} {h : Handler}

theorem HOk.closing_mono (hc : c = true → c' = true) (hk : HOk n dn c h) : HOk n dn c' h := by
  obtain ⟨id, k, st, pdl⟩ := h
  cases st <;> try exact hk
  cases k <;> try exact hk
  exact ⟨hk.1, hk.2.1, hk.2.2.1, hc hk.2.2.2⟩

theorem HOk.of_done (hd : h.status = .done) : HOk n dn c h := by
  simp [HOk, hd]

theorem HOk.of_down (hk : HOk n true c h) :
    h.status = .done ∨ ∃ u, h.status = .reacting u ∧ n < u := by
  fun_cases HOk n true c h <;> simp_all [HOk]

theorem HOk.not_run_of_down (hk : HOk n true c h) : h.status ≠ .run := by
  rcases hk.of_down with hs | ⟨u, hs, _⟩ <;> rw [hs] <;> nofun

theorem inClose_iff (h : Handler) : h.inClose = true ↔ h.status = .run ∧ ∃ d, h.kind = .closer d := by
  unfold Handler.inClose
  rw [Bool.and_eq_true, beq_iff_eq]
  refine and_congr Iff.rfl ?_
  cases h.kind <;> simp

theorem HOk.inClose (hk : HOk n dn c h) (hin : h.inClose = true) :
    ∃ d, h.kind = .closer d ∧ n < d ∧ d ≤ h.pdl ∧ c = true := by
  obtain ⟨hs, d, hd⟩ := (inClose_iff h).mp hin
  simp_all [HOk]

theorem isDone_iff (h : Handler) : h.isDone = true ↔ h.status = .done := by
  simp [Handler.isDone]

theorem all_isDone (hs : List Handler) : hs.all Handler.isDone = true ↔ ∀ h ∈ hs, h.status = .done := by
  simp [List.all_eq_true, isDone_iff]

theorem cancelHandler_ok (hk : HOk n false c h) : HOk n true c (cancelHandler n h) := by
  obtain ⟨id, k, st, pdl⟩ := h
  cases st with
  | run =>
    rcases k with _ | _ | (_ | r) | d | _ | _
    case stubborn.succ =>
      have : n < pdl := hk.2
      exact ⟨rfl, show n < min (n + (r + 1)) pdl by omega⟩
    all_goals trivial
  | overrun u => trivial
  | reacting u => exact ⟨rfl, hk.2⟩
  | done => trivial

theorem cancelHandler_not_run (n : Nat) (h : Handler) : (cancelHandler n h).status ≠ .run := by
  fun_cases cancelHandler n h <;> simp_all

theorem cancelHandler_done {n : Nat} {h : Handler} (hd : h.status = .done) :
    (cancelHandler n h).status = .done := by
  simp [cancelHandler, hd]

theorem cancelHandler_id (n : Nat) (h : Handler) : (cancelHandler n h).id = h.id := by
  fun_cases cancelHandler n h <;> rfl

/-- whatever the clock shows: the timers that are due fire, the others are still ahead -/
theorem fireHandler_ok (hk : HOk n dn c h) : HOk n' dn c (fireHandler n' h) := by
  fun_cases fireHandler n' h <;> simp_all [HOk] <;> omega

theorem fireHandler_done (hd : h.status = .done) : (fireHandler n h).status = .done := by
  simp [fireHandler, hd]

theorem fireHandler_id (n : Nat) (h : Handler) : (fireHandler n h).id = h.id := by
  fun_cases fireHandler n h <;> rfl

/-- the instant that cuts the wait short is not after the processing deadline (`HOk`), so the
processing timeout does not end the handler either -/
theorem fireHandler_inClose (hk : HOk n dn c h)
    (hin : h.inClose = true) (hnd : handlerDue n' h = false) : fireHandler n' h = h := by
  obtain ⟨hs, d, hd⟩ := (inClose_iff h).mp hin
  simp_all [fireHandler, HOk, handlerDue]
  omega

theorem finishHandler_of_not_run (hs : h.status ≠ .run) : finishHandler i h = h := by
  simp_all [finishHandler]

theorem crashHandler_of_not_run (hs : h.status ≠ .run) : crashHandler i h = h := by
  simp_all [crashHandler]

theorem done_of_fixed {f : Handler → Handler} (hf : ∀ x, x.status ≠ .run → f x = x) {x : Handler}
    (hd : x.status = .done) : (f x).status = .done := by
  rw [hf x (by rw [hd]; nofun)]; exact hd

theorem finishHandler_ok (hk : HOk n dn c h) : HOk n dn c (finishHandler i h) := by
  unfold finishHandler
  split
  · exact HOk.of_done rfl
  · exact hk

theorem crashHandler_ok (hk : HOk n dn c h) : HOk n dn c (crashHandler i h) := by
  unfold crashHandler
  split
  · exact HOk.of_done rfl
  · exact hk

theorem finishHandler_inClose (hin : h.inClose = true) : finishHandler i h = h := by
  obtain ⟨_, d, hd⟩ := (inClose_iff h).mp hin
  unfold finishHandler
  rw [if_neg]
  simp [hd, HKind.finishable]

theorem crashHandler_inClose (i : Nat) (h : Handler) : (crashHandler i h).inClose = h.inClose := by
  unfold crashHandler
  split
  · rename_i hc
    simp only [Bool.and_eq_true, beq_iff_eq] at hc
    simp [Handler.inClose, hc.2]
  · rfl

theorem toCloser_of_not_run (hs : h.status ≠ .run) : toCloser f n i h = h := by
  simp_all [toCloser]

theorem toCloser_ok (hk : HOk n dn c h) : HOk n dn true (toCloser true n i h) := by
  unfold toCloser
  split
  · rename_i hc
    split
    · rename_i fa hkind
      simp only [Bool.and_eq_true, beq_iff_eq] at hc
      unfold HOk at hk
      rw [hc.2] at hk
      simp only [hkind] at hk
      by_cases hfa : fa = 0
      · exact HOk.of_done (by simp [hfa])
      · have hs : (if (fa == 0) = true then HStatus.done else HStatus.run) = .run := by simp [hfa]
        unfold HOk
        simp only [hs, ↓reduceIte]
        exact ⟨hk.1, by omega, Nat.min_le_right _ _, trivial⟩
    · exact hk.closing_mono fun _ => rfl
  · exact hk.closing_mono fun _ => rfl

theorem toCloser_resuming (hr : resuming i h = some fa)
    (hfa : fa ≠ 0) : (toCloser f n i h).inClose = true := by
  unfold resuming at hr
  split at hr <;> try cases hr
  split at hr <;> cases hr
  simp_all [toCloser, Handler.inClose]

theorem toCloser_inClose (hin : h.inClose = true) : toCloser f n i h = h := by
  obtain ⟨_, d, hd⟩ := (inClose_iff h).mp hin
  unfold toCloser
  simp [hd]

end

/-- what holds of an outgoing request at clock `n`: one registered after the hook ran exists
only on a torn-down connection and can only wait and time out; one registered before is not
waiting any more once the hook has run, and is cancelled by nothing else -/
def TOk (n : Nat) (down : Bool) (t : Ticket) : Prop :=
  (t.afterLoss = true → down = true) ∧
  match t.status with
  | .queued => (t.afterLoss = false → down = false)
  | .pending => n < t.deadline ∧ (t.afterLoss = false → down = false)
  | .answered => t.afterLoss = false
  | .cancelled => down = true ∧ t.afterLoss = false
  | .timedOut a => a = t.deadline ∧ a ≤ n

section
variable {n k a : Nat} {dn : Bool} {t : Ticket}

theorem cancelTicket_ok (hk : TOk n false t) : TOk n true (cancelTicket t) := by
  obtain ⟨id, st, dl, al⟩ := t
  have hal : al = false := by
    cases al
    · rfl
    · exact (hk.1 rfl).symm
  cases st with
  | queued => exact ⟨fun _ => rfl, rfl, hal⟩
  | pending => exact ⟨fun _ => rfl, rfl, hal⟩
  | answered => exact ⟨fun _ => rfl, hk.2⟩
  | cancelled => cases hk.2.1
  | timedOut a => exact ⟨fun _ => rfl, hk.2⟩

theorem expireTicket_ok (hk : TOk n dn t) : TOk (n + 1) dn (expireTicket (n + 1) t) := by
  obtain ⟨id, st, dl, al⟩ := t
  cases st with
  | pending =>
    have hd : n < dl := hk.2.1
    simp only [expireTicket]
    split
    · exact ⟨hk.1, show n + 1 = dl by omega, Nat.le_refl _⟩
    · exact ⟨hk.1, Nat.lt_of_not_le ‹_›, hk.2.2⟩
  | timedOut a => exact ⟨hk.1, hk.2.1, Nat.le_succ_of_le hk.2.2⟩
  | _ => exact hk

theorem answerTicket_ok (hk : TOk n false t) : TOk n false (answerTicket k t) := by
  unfold answerTicket
  split
  · rename_i hc
    simp only [Bool.and_eq_true, beq_iff_eq] at hc
    refine ⟨hk.1, ?_⟩
    cases ha : t.afterLoss
    · rfl
    · exact (hk.1 ha).symm
  · exact hk

theorem TOk.pending (hk : TOk n dn t) (hs : t.status = .pending) : n < t.deadline := by
  unfold TOk at hk
  rw [hs] at hk
  exact hk.2.1

theorem TOk.timedOut (hk : TOk n dn t) (hs : t.status = .timedOut a) : a = t.deadline ∧ a ≤ n := by
  unfold TOk at hk
  rw [hs] at hk
  exact hk.2

theorem TOk.settled (hk : TOk n true t) (ha : t.afterLoss = false) :
    t.status = .answered ∨ t.status = .cancelled ∨ t.status = .timedOut t.deadline := by
  obtain ⟨id, st, dl, al⟩ := t
  cases st with
  | queued => cases hk.2 ha
  | pending => cases hk.2.2 ha
  | answered => exact Or.inl rfl
  | cancelled => exact Or.inr (Or.inl rfl)
  | timedOut a => exact Or.inr (Or.inr (by rw [show a = dl from hk.2.1]))

theorem TOk.cancelled (hk : TOk n dn t) (hs : t.status = .cancelled) :
    dn = true ∧ t.afterLoss = false := by
  unfold TOk at hk
  rw [hs] at hk
  exact hk.2

theorem TOk.late (hk : TOk n dn t) (ha : t.afterLoss = true) :
    dn = true ∧ (t.status = .queued ∨ t.status = .pending ∨ t.status = .timedOut t.deadline) := by
  refine ⟨hk.1 ha, ?_⟩
  obtain ⟨id, st, dl, al⟩ := t
  cases st with
  | queued => exact Or.inl rfl
  | pending => exact Or.inr (Or.inl rfl)
  | answered => cases ha.symm.trans hk.2
  | cancelled => cases ha.symm.trans hk.2.2
  | timedOut a => exact Or.inr (Or.inr (by rw [show a = dl from hk.2.1]))

theorem mem_promoteList {now rt : Nat} : ∀ (free : Nat) (l : List Ticket) (t : Ticket),
    t ∈ promoteList now rt free l →
    t ∈ l ∨ ∃ t0 ∈ l, t0.status = .queued ∧ t = { t0 with status := .pending, deadline := now + rt }
  | _, [], t, h => by simp [promoteList] at h
  | 0, x :: l, t, h => by left; simpa [promoteList] using h
  | free + 1, x :: l, t, h => by
    unfold promoteList at h
    split at h
    · rename_i hq
      rcases List.mem_cons.mp h with rfl | h
      · right; exact ⟨x, List.mem_cons_self, hq, rfl⟩
      · exact (mem_promoteList free l t h).imp (List.mem_cons_of_mem _)
          fun ⟨t0, h0, h1⟩ => ⟨t0, List.mem_cons_of_mem _ h0, h1⟩
    · rcases List.mem_cons.mp h with rfl | h
      · left; exact List.mem_cons_self
      · exact (mem_promoteList (free + 1) l t h).imp (List.mem_cons_of_mem _)
          fun ⟨t0, h0, h1⟩ => ⟨t0, List.mem_cons_of_mem _ h0, h1⟩

theorem promoteList_ok {now rt free : Nat} {l : List Ticket} (hrt : 0 < rt)
    (h : ∀ t ∈ l, TOk now dn t) : ∀ t ∈ promoteList now rt free l, TOk now dn t := by
  intro t ht
  rcases mem_promoteList free l t ht with ht | ⟨t0, h0, hq, rfl⟩
  · exact h t ht
  · have hk := h t0 h0
    unfold TOk at hk
    rw [hq] at hk
    exact ⟨hk.1, Nat.lt_add_of_pos_right hrt, hk.2⟩

theorem mem_promoteList_of_not_queued {now rt : Nat} : ∀ (free : Nat) (l : List Ticket) (t : Ticket),
    t ∈ l → t.status ≠ .queued → t ∈ promoteList now rt free l
  | _, [], t, h, _ => by cases h
  | 0, x :: l, t, h, _ => by simpa [promoteList] using h
  | free + 1, x :: l, t, h, hq => by
    unfold promoteList
    split
    · rename_i hx
      rcases List.mem_cons.mp h with rfl | h
      · exact absurd hx hq
      · exact List.mem_cons_of_mem _ (mem_promoteList_of_not_queued free l t h hq)
    · rcases List.mem_cons.mp h with rfl | h
      · exact List.mem_cons_self
      · exact List.mem_cons_of_mem _ (mem_promoteList_of_not_queued (free + 1) l t h hq)

end

/-- what holds of a task inside `close(force_after)` at clock `n`, given `_closed_event`
(`ce`), the instant it was set (`ca`) and the instant the connection was lost (`la`) -/
def COk (n : Nat) (ce : Bool) (ca la : Option Nat) (c : Closer) : Prop :=
  c.start ≤ n ∧
  match c.st with
  | .waiting => n < c.deadline ∧ ce = false
  | .abortedWaiting => ce = false ∧ c.deadline ≤ n ∧ ∃ t, la = some t ∧ t ≤ c.deadline
  | .returned a => ∃ T, ca = some T ∧ a = max c.start T ∧ ∃ t, la = some t ∧ t ≤ c.deadline
  | .cancelled a => a ≤ n

section
variable {n n' k : Nat} {ce : Bool} {ca la la' : Option Nat} {c : Closer}

theorem COk.waiting (hk : COk n ce ca la c)
    (hw : c.st = .waiting) : n < c.deadline ∧ ce = false := by
  unfold COk at hk
  rw [hw] at hk
  exact hk.2

theorem COk.returned {a : Nat} (hk : COk n ce ca la c) (hs : c.st = .returned a) : ∃ T, ca = some T := by
  unfold COk at hk
  rw [hs] at hk
  exact hk.2.imp fun _ h => h.1

theorem COk.of_closed (hk : COk n true ca la c) :
    (∃ T, ca = some T ∧ c.st = .returned (max c.start T)) ∨ ∃ a, c.st = .cancelled a := by
  obtain ⟨id, start, dl, st⟩ := c
  cases st with
  | waiting => cases hk.2.2
  | abortedWaiting => cases hk.2.1
  | returned a =>
    obtain ⟨_, T, hT, ha, _⟩ := hk
    exact Or.inl ⟨T, hT, by rw [ha]⟩
  | cancelled a => exact Or.inr ⟨a, rfl⟩

theorem COk.of_due (hk : COk n ce ca la c) (hd : c.deadline ≤ n) :
    (∃ a, c.st = .cancelled a) ∨ ∃ t, la = some t ∧ t ≤ c.deadline := by
  obtain ⟨id, start, dl, st⟩ := c
  cases st with
  | waiting => exact absurd hk.2.1 (Nat.not_lt.mpr hd)
  | abortedWaiting => exact Or.inr hk.2.2.2
  | returned a =>
    obtain ⟨_, _, _, _, h⟩ := hk
    exact Or.inr h
  | cancelled a => exact Or.inl ⟨a, rfl⟩

/-- time passes (a task in its bounded wait keeps its deadline ahead) and the loss, if there was
none, may have come -/
theorem COk.mono
    (hk : COk n ce ca la c) (hn : n ≤ n') (hm : ∀ t, la = some t → la' = some t)
    (hw : c.st = .waiting → n' < c.deadline) : COk n' ce ca la' c := by
  obtain ⟨id, start, dl, st⟩ := c
  refine ⟨Nat.le_trans hk.1 hn, ?_⟩
  cases st with
  | waiting => exact ⟨hw rfl, hk.2.2⟩
  | abortedWaiting =>
    obtain ⟨_, h1, h2, t, ht, h3⟩ := hk
    exact ⟨h1, Nat.le_trans h2 hn, t, hm t ht, h3⟩
  | returned a =>
    obtain ⟨_, T, hT, h2, t, ht, h3⟩ := hk
    exact ⟨T, hT, h2, t, hm t ht, h3⟩
  | cancelled a => exact Nat.le_trans hk.2 hn

theorem COk.la_mono
    (hk : COk n ce ca la c) (hm : ∀ t, la = some t → la' = some t) : COk n ce ca la' c :=
  hk.mono (Nat.le_refl n) hm fun hw => (hk.waiting hw).1

theorem abortCloser_of_not_due (h : ¬ (c.st = .waiting ∧ c.deadline ≤ n)) :
    abortCloser n c = c := by
  unfold abortCloser closerDue
  rw [if_neg]
  simpa using h

/-- a clock tick; `la'` = the instant of the loss as it is after the tick (the abort of a task
whose `force_after` is due brings the loss in the same instant) -/
theorem abortCloser_ok
    (hk : COk n ce ca la c) (hmono : ∀ t, la = some t → la' = some t)
    (hl : c.st = .waiting → c.deadline ≤ n + 1 → ∃ t, la' = some t ∧ t ≤ c.deadline) :
    COk (n + 1) ce ca la' (abortCloser (n + 1) c) := by
  by_cases hd : c.st = .waiting ∧ c.deadline ≤ n + 1
  · have e : abortCloser (n + 1) c = { c with st := .abortedWaiting } := by
      unfold abortCloser closerDue
      rw [if_pos]
      simpa using hd
    rw [e]
    exact ⟨Nat.le_succ_of_le hk.1, (hk.waiting hd.1).2, hd.2, hl hd.1 hd.2⟩
  · rw [abortCloser_of_not_due hd]
    exact hk.mono (Nat.le_succ n) hmono fun hw => Nat.lt_of_not_le fun h => hd ⟨hw, h⟩

theorem cancelCloser_ok (hk : COk n ce ca la c) : COk n ce ca la (cancelCloser n k c) := by
  unfold cancelCloser
  split
  · exact ⟨hk.1, Nat.le_refl n⟩
  · exact hk

theorem cancelCloser_other {n c : Nat} {x : Closer} (h : ¬ (x.id = c ∧ x.st = .waiting))
    (hw : x.st = .waiting) : cancelCloser n c x = x := by
  unfold cancelCloser
  rw [if_neg]
  simpa [hw] using fun hi => h ⟨hi, hw⟩

theorem returnCloser_ok
    (hk : COk n false none la c) (hl : ∃ t, la = some t ∧ t ≤ n) :
    COk n true (some n) la (returnCloser n c) := by
  obtain ⟨t, ht, htn⟩ := hl
  obtain ⟨id, start, dl, st⟩ := c
  cases st with
  | waiting =>
    have : n < dl := hk.2.1
    exact ⟨hk.1, n, rfl, (Nat.max_eq_right hk.1).symm, t, ht, Nat.le_of_lt (Nat.lt_of_le_of_lt htn this)⟩
  | abortedWaiting =>
    obtain ⟨h1, _, _, t', ht', h4⟩ := hk
    exact ⟨h1, n, rfl, (Nat.max_eq_right h1).symm, t', ht', h4⟩
  | returned a =>
    obtain ⟨_, T, hT, _⟩ := hk
    cases hT
  | cancelled a => exact hk

end

end Aiorpcx.C08
