import Aiorpcx.C20.Timed
import Aiorpcx.C14.Lemmas
/-!
# C20 (iii) — "never an indefinite wait": timing theorems for the modelled response wait

For **every** history of callers, answers, waits, a connection loss, every
`target_response_time` / `recalibrate_count` and every `sent_request_timeout ≥ 0`:
a send operation whose request was written at `w` ends no later than `w + sent_request_timeout`
(`outcome_within`), a `TaskTimeout` happens at exactly that instant, and a caller that was still
queued when its call ended was cancelled by the loss of the connection.
-/
namespace Aiorpcx.C20

/-- nobody in flight is overdue, and every write lies in the past -/
def TInv (τ : Rat) (s : TS) : Prop := ∀ p ∈ s.wrote, p.2.1 ≤ s.now ∧ s.now ≤ p.2.1 + τ

/-- what the property says about one event -/
def EvOK (τ : Rat) : TEv → Prop
  | .written _ _ => True
  | .ended _ (some w) t k => w ≤ t ∧ t ≤ w + τ ∧ (k = .timedOut → t = w + τ)
  | .ended _ none _ k => k = .cancelled

theorem TInv.advance {τ : Rat} {s : TS} (h : TInv τ s) {t : Rat} (h1 : s.now ≤ t)
    (h2 : ∀ p ∈ s.wrote, t ≤ p.2.1 + τ) : TInv τ { s with now := t } :=
  fun p hp => ⟨Rat.le_trans (h p hp).1 h1, h2 p hp⟩

theorem takeIn_ok (τ : Rat) (hτ : 0 ≤ τ) (s : TS) (evs : List C13.Ev) (h : TInv τ s) :
    TInv τ (takeIn s evs).1 ∧ (takeIn s evs).1.now = s.now ∧ ∀ e ∈ (takeIn s evs).2, EvOK τ e := by
  refine ⟨fun p hp => ?_, rfl, fun e he => ?_⟩
  · rcases List.mem_append.1 hp with hp | hp
    · exact h p hp
    · obtain ⟨j, _, rfl⟩ := List.mem_map.1 hp
      exact ⟨Rat.le_refl, C14.le_add_of_nonneg_right hτ⟩
  · obtain ⟨j, _, rfl⟩ := List.mem_map.1 he
    trivial

theorem complete_ok (c : OCfg) (τ : Rat) (hτ : 0 ≤ τ) (s : TS) (i : Nat) (w : Rat) (n : Nat)
    (k : EndKind) (h : TInv τ s) (hw : w ≤ s.now ∧ s.now ≤ w + τ) (hk : k = .timedOut → s.now = w + τ) :
    TInv τ (complete c s i w n k).1 ∧ (complete c s i w n k).1.now = s.now ∧
    ∀ e ∈ (complete c s i w n k).2, EvOK τ e := by
  have h1 : TInv τ { s with out := (ostep c s.out (.done i (s.now - w) n)).1,
                            wrote := s.wrote.filter (fun p => p.1 ≠ i) } :=
    fun p hp => h p (List.mem_filter.1 hp).1
  obtain ⟨a1, a2, a3⟩ := takeIn_ok τ hτ _ (ostep c s.out (.done i (s.now - w) n)).2 h1
  exact ⟨a1, a2, fun e he => (List.mem_cons.1 he).elim (fun e' => e' ▸ ⟨hw.1, hw.2, hk⟩) (a3 e)⟩

theorem earliest_spec (l : List (Nat × Rat × Nat)) :
    match earliest l with
    | none => l = []
    | some q => q ∈ l ∧ ∀ p ∈ l, q.2.1 ≤ p.2.1 := by
  induction l with
  | nil => rfl
  | cons p r ih =>
    rw [earliest]
    generalize earliest r = e at ih ⊢
    cases e with
    | none =>
      subst ih
      exact ⟨List.mem_cons_self, fun p' hp' => List.mem_singleton.1 hp' ▸ Rat.le_refl⟩
    | some q =>
      obtain ⟨m1, m2⟩ := ih
      dsimp only
      by_cases hc : p.2.1 ≤ q.2.1
      · rw [if_pos hc]
        exact ⟨List.mem_cons_self, fun p' hp' => (List.mem_cons.1 hp').elim
          (fun e => e ▸ Rat.le_refl) fun hr => Rat.le_trans hc (m2 p' hr)⟩
      · rw [if_neg hc]
        exact ⟨List.mem_cons_of_mem _ m1, fun p' hp' => (List.mem_cons.1 hp').elim
          (fun e => e ▸ Rat.le_of_lt (Rat.not_le.1 hc)) (m2 p')⟩

theorem passTime_ok (c : OCfg) (τ : Rat) (hτ : 0 ≤ τ) (fuel : Nat) : ∀ (s : TS) (dt : Rat), 0 ≤ dt →
    TInv τ s → TInv τ (passTime c τ fuel s dt).1 ∧ ∀ e ∈ (passTime c τ fuel s dt).2, EvOK τ e := by
  induction fuel with
  | zero => intro s dt _ h; exact ⟨h, List.forall_mem_nil _⟩
  | succ fuel ih =>
    intro s dt hdt h
    have sp := earliest_spec s.wrote
    rw [passTime]
    cases he : earliest s.wrote with
    | none =>
      rw [he] at sp
      exact ⟨fun p hp => absurd (sp ▸ hp : p ∈ []) List.not_mem_nil, List.forall_mem_nil _⟩
    | some q =>
      obtain ⟨i, w, n⟩ := q
      rw [he] at sp
      obtain ⟨m1, m2⟩ := sp
      -- nobody's deadline is earlier than `w + τ`
      have hall : ∀ {t : Rat}, t ≤ w + τ → ∀ p ∈ s.wrote, t ≤ p.2.1 + τ :=
        fun ht p hp => Rat.le_trans ht (Rat.add_le_add_right.2 (m2 p hp))
      have hq := h _ m1
      dsimp only
      by_cases hc : w + τ ≤ s.now + dt
      · -- the timer fires at the deadline w + τ
        rw [if_pos hc, C14.max_eq_right hq.2]
        obtain ⟨c1, _, c3⟩ := complete_ok c τ hτ { s with now := w + τ } i w n .timedOut
          (h.advance hq.2 (hall Rat.le_refl)) ⟨C14.le_add_of_nonneg_right hτ, Rat.le_refl⟩ (fun _ => rfl)
        obtain ⟨r1, r2⟩ := ih _ _ (C14.sub_nonneg.2 hc) c1
        exact ⟨r1, fun e he' => (List.mem_append.1 he').elim (c3 e) (r2 e)⟩
      · rw [if_neg hc]
        exact ⟨h.advance (C14.le_add_of_nonneg_right hdt) (hall (Rat.le_of_lt (Rat.not_le.1 hc))),
          List.forall_mem_nil _⟩

theorem tstep_ok (c : OCfg) (τ : Rat) (hτ : 0 ≤ τ) (s : TS) (op : TOp) (h : TInv τ s) :
    TInv τ (tstep c τ s op).1 ∧ ∀ e ∈ (tstep c τ s op).2, EvOK τ e := by
  cases op with
  | call i n =>
    by_cases hl : s.lost = true
    · rw [show tstep c τ s (.call i n) = _ from if_pos hl]
      exact ⟨h, fun e he => List.mem_singleton.1 he ▸ rfl⟩
    · rw [show tstep c τ s (.call i n) = _ from if_neg hl]
      have := takeIn_ok τ hτ { s with out := (ostep c s.out (.send i)).1, queued := s.queued ++ [(i, n)] }
        (ostep c s.out (.send i)).2 h
      exact ⟨this.1, this.2.2⟩
  | answer i =>
    dsimp only [tstep]
    cases hf : s.wrote.find? (fun p => p.1 = i) with
    | none => exact ⟨h, List.forall_mem_nil _⟩
    | some q =>
      have := complete_ok c τ hτ s i q.2.1 q.2.2 .answered h (h _ (List.mem_of_find?_eq_some hf)) nofun
      exact ⟨this.1, this.2.2⟩
  | wait dt =>
    by_cases hdt : dt < 0
    · rw [show tstep c τ s (.wait dt) = _ from if_pos hdt]
      exact ⟨h, List.forall_mem_nil _⟩
    · rw [show tstep c τ s (.wait dt) = _ from if_neg hdt]
      exact passTime_ok c τ hτ _ s dt (Rat.not_lt.1 hdt) h
  | lose =>
    refine ⟨fun p hp => absurd hp List.not_mem_nil, fun e he => ?_⟩
    rcases List.mem_append.1 he with he | he
    · obtain ⟨p, hp, rfl⟩ := List.mem_map.1 he
      exact ⟨(h p hp).1, (h p hp).2, nofun⟩
    · obtain ⟨p, _, rfl⟩ := List.mem_map.1 he
      rfl

theorem trun_ok (c : OCfg) (τ : Rat) (hτ : 0 ≤ τ) (ops : List TOp) : ∀ (s : TS), TInv τ s →
    TInv τ (trun c τ s ops).1 ∧ ∀ e ∈ (trun c τ s ops).2, EvOK τ e := by
  induction ops with
  | nil => intro s h; exact ⟨h, List.forall_mem_nil _⟩
  | cons op ops ih =>
    intro s h
    obtain ⟨a1, a2⟩ := tstep_ok c τ hτ s op h
    obtain ⟨b1, b2⟩ := ih _ a1
    exact ⟨b1, fun e he => (List.mem_append.1 he).elim (a2 e) (b2 e)⟩

/-- **Every outcome comes within the response wait limit.**  On a fresh session, for every
history of callers (singles and batches), peer answers, elapsing time and a possible loss of the
connection, every `target_response_time`, `recalibrate_count` and `sent_request_timeout ≥ 0`:
whenever a call ends whose request had been written at `w`, it ends at some `t` with
`w ≤ t ≤ w + sent_request_timeout`; if it ends with `TaskTimeout` then `t` is exactly
`w + sent_request_timeout`; a call that ends while still queued for a slot ends cancelled (the
connection was lost).  And at every moment nobody in flight is overdue. -/
theorem outcome_within (c : OCfg) (τ : Rat) (hτ : 0 ≤ τ) (n : Nat) (ops : List TOp) :
    (∀ e ∈ (trun c τ (tinit n) ops).2, EvOK τ e) ∧
    (∀ p ∈ (trun c τ (tinit n) ops).1.wrote, (trun c τ (tinit n) ops).1.now ≤ p.2.1 + τ) := by
  have h0 : TInv τ (tinit n) := fun p hp => absurd hp List.not_mem_nil
  obtain ⟨a, b⟩ := trun_ok c τ hτ ops _ h0
  exact ⟨b, fun p hp => (a p hp).2⟩

-- three callers on a limit of 2, a silent peer, timeout 2: written at 0, 0, 2; TaskTimeout at 2, 2, 4
example : (trun ⟨3, 30⟩ 2 (tinit 2) [.call 0 1, .call 1 1, .call 2 1, .wait 10]).2 =
    [.written 0 0, .written 1 0, .ended 0 (some 0) 2 .timedOut, .written 2 2,
     .ended 1 (some 0) 2 .timedOut, .ended 2 (some 2) 4 .timedOut] := by decide +kernel
-- an answer in time, then the connection is lost with one caller in flight and one queued
example : (trun ⟨3, 30⟩ 30 (tinit 1) [.call 0 1, .call 1 1, .call 2 1, .wait 1, .answer 0, .wait 1, .lose]).2 =
    [.written 0 0, .ended 0 (some 0) 1 .answered, .written 1 1,
     .ended 1 (some 1) 2 .cancelled, .ended 2 none 2 .cancelled] := by decide +kernel

end Aiorpcx.C20
