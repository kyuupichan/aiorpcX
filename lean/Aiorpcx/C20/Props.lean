import Aiorpcx.C20.Model
import Aiorpcx.C20.TimedProps
import Aiorpcx.C13.Props
import Aiorpcx.C14.Lemmas
import Aiorpcx.C13.Table
import Aiorpcx.Facts.C20
/-!
# C20 — property theorems for the outgoing side (adaptive in-flight cap)

(i) `recalc` = `_recalc_concurrency` (after repair F18) over exact rationals; `recalcPinned` = the
pinned function.  (ii) `ostep`/`orun` = `_send_concurrent` driving the outgoing limiter
`Concurrency(50)` (the C13 model) with the `finally` block that records response times and
recalibrates before `__aexit__`.  All statements are for **all** inputs / all operation lists.
(iii) timing (which outcome, when): the timed model of Timed.lean, theorems in TimedProps.lean; the
tables at the end tie both to the code.
-/
namespace Aiorpcx.C20

theorem half_nonneg : (0 : Rat) ≤ 1 / 2 := by decide +kernel

theorem pyInt_half_add {x : Rat} (hx : 0 ≤ x) : pyInt (1 / 2 + x) = (1 / 2 + x).floor :=
  if_pos (Rat.add_nonneg half_nonneg hx)

/-- rounding to nearest does not leave integer bounds -/
theorem pyInt_between {x : Rat} {a b : Int} (ha : 0 ≤ a) (h1 : (a : Rat) ≤ x) (h2 : x ≤ (b : Rat)) :
    a ≤ pyInt (1 / 2 + x) ∧ pyInt (1 / 2 + x) ≤ b := by
  rw [pyInt_half_add (Rat.le_trans (Rat.intCast_nonneg.2 ha) h1)]
  constructor
  · rw [Rat.le_floor_iff, ← Rat.zero_add (a : Rat)]
    exact C14.add_le_add half_nonneg h1
  · apply Int.le_of_lt_add_one
    rw [Rat.floor_lt_iff, Rat.intCast_add, Rat.add_comm (1 / 2) x]
    exact Std.lt_of_le_of_lt (Rat.add_le_add_right.2 h2) (Rat.add_lt_add_left.2 (by decide +kernel))

/-- the value that is rounded lies between the two bounds, whatever the estimate `y` and whether
or not there is one -/
theorem clamp_between {f c : Rat} (h : f ≤ c) (y : Rat) (p : Prop) [Decidable p] :
    f ≤ (if p then max f (min c y) else c) ∧ (if p then max f (min c y) else c) ≤ c :=
  C14.ite_prop (fun x => f ≤ x ∧ x ≤ c) ⟨C14.le_max_left _ _, C14.max_le h (Std.min_le_left)⟩
    ⟨h, Rat.le_refl⟩

theorem floorOf_le {cur : Int} (h : 1 ≤ cur) : floorOf cur ≤ cur :=
  Int.max_le.2 ⟨h, by have := Int.le_max_left 1 (cur / 5); omega⟩

theorem le_capOf {cur : Int} (h : cur ≤ 250) : cur ≤ capOf cur :=
  Int.le_min.2 ⟨by have := Int.le_max_left 3 (cur / 10); omega, h⟩

theorem recalc_between (cur : Int) (trt avg : Rat) (h1 : 1 ≤ cur) (h2 : cur ≤ 250) :
    floorOf cur ≤ recalc cur trt avg ∧ recalc cur trt avg ≤ capOf cur :=
  have b : (floorOf cur : Rat) ≤ preRound cur trt avg ∧ preRound cur trt avg ≤ (capOf cur : Rat) :=
    clamp_between (Rat.intCast_le_intCast.2 (Int.le_trans (floorOf_le h1) (le_capOf h2))) _ _
  pyInt_between (Int.le_trans (by decide) (Int.le_max_left 1 _)) b.1 b.2

/-- **The limit always stays between 1 and 250**: one recalibration from any limit in [1,250],
for every target response time and every average (zero, tiny, huge, negative). -/
theorem target_range (cur : Int) (trt avg : Rat) (h1 : 1 ≤ cur) (h2 : cur ≤ 250) :
    1 ≤ recalc cur trt avg ∧ recalc cur trt avg ≤ 250 :=
  have b := recalc_between cur trt avg h1 h2
  ⟨Int.le_trans (Int.le_max_left 1 _) b.1, Int.le_trans b.2 (Int.min_le_right _ 250)⟩

/-- … and therefore over any recalibration history. -/
theorem range_invariant (hist : List (Rat × Rat)) : ∀ (cur : Int), 1 ≤ cur → cur ≤ 250 →
    1 ≤ recalcAll cur hist ∧ recalcAll cur hist ≤ 250 := by
  induction hist with
  | nil => intro cur h1 h2; exact ⟨h1, h2⟩
  | cons p r ih =>
    intro cur h1 h2
    have := target_range cur p.1 p.2 h1 h2
    exact ih _ this.1 this.2

theorem intCast_ediv_le (a : Int) {k : Int} (hk : 0 < k) :
    ((a / k : Int) : Rat) ≤ (a : Rat) / (k : Rat) :=
  C14.le_div_of_mul_le (Rat.intCast_pos.2 hk)
    (Rat.intCast_mul _ _ ▸ Rat.intCast_le_intCast.2 (Int.ediv_mul_le a (Int.ne_of_gt hk)))

theorem intCast_max_le {a b : Int} {x y : Rat} (ha : (a : Rat) ≤ x) (hb : (b : Rat) ≤ y) :
    ((max a b : Int) : Rat) ≤ max x y := by
  rw [Int.max_def]; split
  · exact Rat.le_trans hb (C14.le_max_right _ _)
  · exact Rat.le_trans ha (C14.le_max_left _ _)

/-- **Bounded step, literal reading** (repaired code): the limit moves up by at most
`max(3, 10 %)` and down by at most `max(1, 20 %)` of the current value.  The step is an integer, so
"≤ max(3, cur/10)" is the same as "≤ max(3, ⌊cur/10⌋)" — that is what is computed. -/
theorem step_bound_literal (cur : Int) (trt avg : Rat) (h1 : 1 ≤ cur) (h2 : cur ≤ 250) :
    recalc cur trt avg - cur ≤ max 3 (cur / 10) ∧ cur - recalc cur trt avg ≤ max 1 (cur / 5) ∧
    ((recalc cur trt avg - cur : Int) : Rat) ≤ max 3 ((cur : Rat) / 10) ∧
    ((cur - recalc cur trt avg : Int) : Rat) ≤ max 1 ((cur : Rat) / 5) := by
  have hb := recalc_between cur trt avg h1 h2
  have a : recalc cur trt avg - cur ≤ max 3 (cur / 10) :=
    Int.sub_left_le_of_le_add (Int.le_trans hb.2 (Int.min_le_left _ _))
  have b : cur - recalc cur trt avg ≤ max 1 (cur / 5) :=
    Int.sub_le_of_sub_le (Int.le_trans (Int.le_max_right _ _) hb.1)
  exact ⟨a, b,
    Rat.le_trans (Rat.intCast_le_intCast.2 a) (intCast_max_le Rat.le_refl (intCast_ediv_le cur (by decide))),
    Rat.le_trans (Rat.intCast_le_intCast.2 b) (intCast_max_le Rat.le_refl (intCast_ediv_le cur (by decide)))⟩

theorem pyInt_round {x : Rat} (hx : 0 ≤ x) :
    ((pyInt (1 / 2 + x) : Int) : Rat) ≤ x + 1 / 2 ∧ x < ((pyInt (1 / 2 + x) : Int) : Rat) + 1 / 2 := by
  rw [pyInt_half_add hx]
  refine ⟨Rat.add_comm _ x ▸ Rat.floor_le _, (Rat.add_lt_add_left (c := 1 / 2)).1 ?_⟩
  have := Rat.lt_floor_add_one (1 / 2 + x)
  rwa [Rat.intCast_add, show ((1 : Int) : Rat) = 1 / 2 + 1 / 2 by decide +kernel,
    Rat.add_left_comm] at this

theorem step_within_half {r x c m M : Rat} (r1 : r ≤ x + 1 / 2) (r2 : x < r + 1 / 2)
    (lo : c - m ≤ x) (hi : x ≤ c + M) : r - c ≤ M + 1 / 2 ∧ c - r < m + 1 / 2 := by
  constructor
  · rw [Rat.sub_right_le_iff_le_add, Rat.add_comm (M + 1 / 2) c, ← Rat.add_assoc]
    exact Rat.le_trans r1 (Rat.add_le_add_right.2 hi)
  · rw [Rat.sub_lt_iff, Rat.add_comm (m + 1 / 2) r, Rat.add_left_comm, Rat.add_comm m]
    exact Std.lt_of_le_of_lt (Rat.sub_right_le_iff_le_add.1 lo) (Rat.add_lt_add_right.2 r2)

theorem floorPinned_le {cur : Int} (h : (1 : Rat) ≤ cur) : floorPinned cur ≤ cur :=
  C14.max_le h (Rat.le_trans (Std.min_le_right) (C14.sub_le_self (by decide +kernel)))

theorem le_capPinned {cur : Int} (h : (cur : Rat) ≤ 250) : (cur : Rat) ≤ capPinned cur :=
  Std.le_min_iff.2
    ⟨C14.le_add_of_nonneg_right (Rat.le_trans (by decide +kernel) (C14.le_max_left 3 _)), h⟩

theorem sub_le_floorPinned (cur : Int) : (cur : Rat) - max 1 ((cur : Rat) / 5) ≤ floorPinned cur := by
  have e : (cur : Rat) * (4 / 5) = cur - cur / 5 := by
    rw [show (4 / 5 : Rat) = 1 + -(1 / 5) by decide +kernel, Rat.mul_add, Rat.mul_one, Rat.mul_neg,
      C14.mul_one_div, ← Rat.sub_eq_add_neg]
  exact Rat.le_trans
    (Std.le_min_iff.2 ⟨e ▸ C14.sub_le_sub_left (C14.le_max_right _ _) _,
      C14.sub_le_sub_left (C14.le_max_left _ _) _⟩)
    (C14.le_max_right _ _)

theorem capPinned_le_add (cur : Int) : capPinned cur ≤ cur + max 3 ((cur : Rat) / 10) :=
  C14.mul_one_div (cur : Rat) 10 ▸ Std.min_le_left

/-- **Bounded step with rounding slack** (pinned code): because the clamp is rounded to nearest
afterwards, the pinned function may overstep the literal bounds — by less than one half. -/
theorem step_bound_rounded_pinned (cur : Int) (trt avg : Rat) (h1 : 1 ≤ cur) (h2 : cur ≤ 250) :
    ((recalcPinned cur trt avg : Int) : Rat) - cur ≤ max 3 ((cur : Rat) / 10) + 1 / 2 ∧
    (cur : Rat) - ((recalcPinned cur trt avg : Int) : Rat) < max 1 ((cur : Rat) / 5) + 1 / 2 ∧
    1 ≤ recalcPinned cur trt avg ∧ recalcPinned cur trt avg ≤ 250 := by
  have c1 : (1 : Rat) ≤ cur := Rat.intCast_le_intCast.2 h1
  have c2 : (cur : Rat) ≤ 250 := Rat.intCast_le_intCast.2 h2
  obtain ⟨lo, hi⟩ :
      floorPinned cur ≤ preRoundPinned cur trt avg ∧ preRoundPinned cur trt avg ≤ capPinned cur :=
    clamp_between (Rat.le_trans (floorPinned_le c1) (le_capPinned c2)) _ _
  have lo1 : (1 : Rat) ≤ preRoundPinned cur trt avg := Rat.le_trans (C14.le_max_left _ _) lo
  have hi250 : preRoundPinned cur trt avg ≤ 250 := Rat.le_trans hi (Std.min_le_right)
  obtain ⟨r1, r2⟩ := pyInt_round (Rat.le_trans (by decide +kernel) lo1)
  obtain ⟨b1, b2⟩ := pyInt_between (a := 1) (b := 250) (by decide) lo1 hi250
  have s := step_within_half r1 r2 (Rat.le_trans (sub_le_floorPinned cur) lo)
    (Rat.le_trans hi (capPinned_le_add cur))
  exact ⟨s.1, s.2, b1, b2⟩

/-- the literal step bound as a proposition about a recalibration function -/
def StepBoundLiteral (f : Int → Rat → Rat → Int) : Prop :=
  ∀ (cur : Int) (trt avg : Rat), 1 ≤ cur → cur ≤ 250 →
    ((f cur trt avg - cur : Int) : Rat) ≤ max 3 ((cur : Rat) / 10) ∧
    ((cur - f cur trt avg : Int) : Rat) ≤ max 1 ((cur : Rat) / 5)

theorem step_bound_literal_repaired : StepBoundLiteral recalc := fun cur trt avg h1 h2 =>
  ⟨(step_bound_literal cur trt avg h1 h2).2.2.1, (step_bound_literal cur trt avg h1 h2).2.2.2⟩

/-- **F18 (pinned tree)**: limit 35 with all response times 0 goes to 39 (+4 > 3.5); limit 8 with
slow responses goes to 6 (−2 > 1.6): the pinned function violates the literal step bound. -/
theorem step_bound_literal_pinned_witness :
    recalcPinned 35 3 0 = 39 ∧ recalcPinned 8 3 1000000000 = 6 ∧ ¬ StepBoundLiteral recalcPinned := by
  have a : recalcPinned 35 3 0 = 39 := by decide +kernel
  have b : recalcPinned 8 3 1000000000 = 6 := by decide +kernel
  refine ⟨a, b, ?_⟩
  intro h
  have := (h 35 3 0 (by decide) (by decide)).1
  rw [a] at this
  exact absurd this (by decide +kernel)

/-- limiter theorems at the outgoing initial limit: permits are conserved for any sequence of
sends, completions, cancelled queued callers and limit changes. -/
theorem outgoing_permit_conservation (ops : List C13.Op) :
    let s := (C13.run (C13.init Facts.C20.outgoingInitial) ops).1
    s.S + s.holders.length = s.V ∧ 0 ≤ s.S ∧ 1 ≤ s.V ∧ s.leaked = 0 :=
  C13.permit_conservation _ ops

/-- **A lowered limit takes effect as outstanding requests complete** (= C13
`reduction_takes_effect` on the outgoing limiter). -/
theorem lowered_limit_lazy (s : C13.Lim) (h : C13.Inv s) (n : Int) (hn : n ≤ s.V) (ops : List C13.Op)
    (hno : C13.noSetTarget ops) :
    let s' := (C13.run (C13.step s (.setTarget n)).1 ops).1
    let k := C13.exitsDone (C13.step s (.setTarget n)).1 ops
    s'.V = max (max n 1) (s.V - k) ∧ (s'.holders.length : Int) ≤ max (max n 1) (s.V - k) ∧
    (s.V - n ≤ k → (s'.holders.length : Int) ≤ max n 1) :=
  C13.reduction_takes_effect s h n hn ops hno

/-- **Bounded wait, counted in completions** (= C13 `served_within` on the outgoing limiter): a
caller queued at position `k` is written after at most `k + 1 + (V − max T 1)⁺` completions of
outstanding requests — and each outstanding request completes within `sent_request_timeout` of
being written (that timing half is `outcome_within`, TimedProps.lean, for the modelled wait, and the
oracle on the real session). -/
theorem bounded_wait_in_completions (s : C13.Lim) (h : C13.Inv s) (ops : List C13.Op)
    (he : C13.exitsOnly s ops) (k : Nat) (hk : k < s.waiters.length)
    (hn : k + 1 + (s.V - C13.bound s).toNat ≤ ops.length) :
    ∃ x, s.waiters[k]? = some x ∧ (C13.ids (C13.run s ops).2)[k]? = some x :=
  C13.served_within s h ops he k hk hn

/-- the limit after the `finally` block, given the list of samples with the new ones appended: a
full list is consumed by a recalibration -/
def limitAfter (c : OCfg) (T : Int) (ts : List Rat) : Int :=
  if ts.length ≥ c.recalibrate then recalc T c.trt (avgOf ts) else T

/-- … and the samples kept -/
def timesAfter (c : OCfg) (ts : List Rat) : List Rat :=
  if ts.length ≥ c.recalibrate then [] else ts

theorem record_eq (c : OCfg) (o : Out) (taken : Rat) (count : Nat) :
    record c o taken count =
      ⟨{ o.lim with T := limitAfter c o.lim.T (newTimes o taken count) },
        timesAfter c (newTimes o taken count)⟩ := by
  unfold record limitAfter timesAfter
  by_cases h1 : (newTimes o taken count).length ≥ c.recalibrate
  · rw [if_pos h1, if_pos h1, if_pos h1]
    by_cases h2 : recalc o.lim.T c.trt (avgOf (newTimes o taken count)) ≠ o.lim.T
    · rw [if_pos h2]; rfl
    · rw [if_neg h2, Decidable.of_not_not h2]
  · rw [if_neg h1, if_neg h1, if_neg h1]

theorem limitAfter_range (c : OCfg) {T : Int} (ts : List Rat) (h1 : 1 ≤ T) (h2 : T ≤ 250) :
    1 ≤ limitAfter c T ts ∧ limitAfter c T ts ≤ 250 :=
  C14.ite_prop (fun x => 1 ≤ x ∧ x ≤ 250) (target_range T c.trt _ h1 h2) ⟨h1, h2⟩

theorem ostep_done (c : OCfg) (o : Out) {i : Nat} (taken : Rat) (count : Nat) (hi : i ∈ o.lim.holders) :
    ostep c o (.done i taken count) =
      ({ record c o taken count with lim := (C13.step (record c o taken count).lim (.exit i)).1 },
        (C13.step (record c o taken count).lim (.exit i)).2) := if_pos hi

theorem ostep_done_bad (c : OCfg) (o : Out) {i : Nat} (taken : Rat) (count : Nat) (hi : i ∉ o.lim.holders) :
    ostep c o (.done i taken count) = (o, [C13.Ev.bad]) := if_neg hi

theorem ostep_sendFailed (c : OCfg) (o : Out) {i : Nat} (hi : i ∈ o.lim.holders) :
    ostep c o (.sendFailed i) =
      ({ o with lim := (C13.step o.lim (.exit i)).1 }, (C13.step o.lim (.exit i)).2) := if_pos hi

theorem ostep_sendFailed_bad (c : OCfg) (o : Out) {i : Nat} (hi : i ∉ o.lim.holders) :
    ostep c o (.sendFailed i) = (o, [C13.Ev.bad]) := if_neg hi

/-- invariant of the composed system: the limiter's invariant, the limit in [1, 250], and `m` an
upper bound of every limit and every capacity so far -/
structure OInv (m : Int) (o : Out) : Prop where
  inv : C13.Inv o.lim
  T_pos : 1 ≤ o.lim.T
  T_le : o.lim.T ≤ 250
  V_m : o.lim.V ≤ m
  T_m : o.lim.T ≤ m
  m_le : m ≤ 250

/-- largest limit that has been in force along a run of the composed system -/
def omaxT (c : OCfg) (o : Out) (m : Int) : List OOp → Int
  | [] => m
  | op :: ops => omaxT c (ostep c o op).1 (max m (ostep c o op).1.lim.T) ops

theorem OInv.max_T {m : Int} {o : Out} (h : OInv m o) : OInv (max m o.lim.T) o :=
  ⟨h.inv, h.T_pos, h.T_le, Int.le_trans h.V_m (Int.le_max_left _ _), Int.le_max_right _ _,
    Int.max_le.2 ⟨h.m_le, h.T_le⟩⟩

/-- the limiter's own steps keep the limit, and the capacity below `max V T` -/
theorem OInv.lim_step {m : Int} {o : Out} (h : OInv m o) (op : C13.Op) (hop : op.isSetTarget = false) :
    OInv m { o with lim := (C13.step o.lim op).1 } ∧ (C13.step o.lim op).1.T = o.lim.T :=
  have f := C13.step_facts o.lim op h.inv hop
  ⟨⟨f.inv, f.T.symm ▸ h.T_pos, f.T.symm ▸ h.T_le, Int.le_trans f.V_le (Int.max_le.2 ⟨h.V_m, h.T_m⟩),
    f.T.symm ▸ h.T_m, h.m_le⟩, f.T⟩

/-- the `finally` block only moves the limit, and only within [1, 250] -/
theorem OInv.record {m : Int} {o : Out} (h : OInv m o) (c : OCfg) (taken : Rat) (count : Nat) :
    OInv (max m (record c o taken count).lim.T) (record c o taken count) := by
  rw [record_eq]
  have r := limitAfter_range c (newTimes o taken count) h.T_pos h.T_le
  exact ⟨C13.step_inv o.lim (.setTarget _) h.inv, r.1, r.2, Int.le_trans h.V_m (Int.le_max_left _ _),
    Int.le_max_right _ _, Int.max_le.2 ⟨h.m_le, r.2⟩⟩

theorem ostep_inv (c : OCfg) (o : Out) (op : OOp) (m : Int) (h : OInv m o) :
    OInv (max m (ostep c o op).1.lim.T) (ostep c o op).1 := by
  cases op with
  | send i => exact (h.lim_step (.enter i) rfl).1.max_T
  | cancelWaiter i => exact (h.lim_step (.cancelWaiter i) rfl).1.max_T
  | sendFailed i =>
    by_cases hi : i ∈ o.lim.holders
    · rw [ostep_sendFailed c o hi]; exact (h.lim_step (.exit i) rfl).1.max_T
    · rw [ostep_sendFailed_bad c o hi]; exact h.max_T
  | done i taken count =>
    by_cases hi : i ∈ o.lim.holders
    · rw [ostep_done c o taken count hi]
      obtain ⟨s, e⟩ := (h.record c taken count).lim_step (.exit i) rfl
      show OInv (max m (C13.step (record c o taken count).lim (.exit i)).1.T) _
      rw [e]; exact s
    · rw [ostep_done_bad c o taken count hi]; exact h.max_T

theorem orun_inv (c : OCfg) (ops : List OOp) : ∀ (o : Out) (m : Int), OInv m o →
    OInv (omaxT c o m ops) (orun c o ops).1 := by
  induction ops with
  | nil => intro o m h; exact h
  | cons op ops ih =>
    intro o m h
    exact ih _ _ (ostep_inv c o op m h)

theorem oinit_inv : OInv Facts.C20.outgoingInitial (oinit Facts.C20.outgoingInitial) :=
  ⟨C13.init_inv _, by decide, by decide, by decide, by decide, by decide⟩

/-- **In-flight cap (send operations)**: for every workload (any interleaving of callers reaching
the limiter, completions with any measured response times and request counts, writes that fail
before the wait begins, cancelled queued callers) and any `target_response_time` /
`recalibrate_count`: the number of send operations awaiting a response never exceeds the largest
limit that has been in force, which itself never exceeds 250; the limit stays in [1, 250]; permits
are conserved.  (A batch is ONE send operation holding one permit — for *requests* see
`awaiting_cap_full_fails` / `awaiting_cap_partial`.) -/
theorem in_flight_cap (c : OCfg) (ops : List OOp) :
    let o := (orun c (oinit Facts.C20.outgoingInitial) ops).1
    let m := omaxT c (oinit Facts.C20.outgoingInitial) Facts.C20.outgoingInitial ops
    (o.lim.holders.length : Int) ≤ m ∧ m ≤ 250 ∧ 1 ≤ o.lim.T ∧ o.lim.T ≤ 250 ∧
    o.lim.S + o.lim.holders.length = o.lim.V ∧ 0 ≤ o.lim.S := by
  have h := orun_inv c ops _ _ oinit_inv
  have hc := h.inv.cons; have hs := h.inv.S_nonneg
  have hv := h.V_m
  refine ⟨by omega, h.m_le, h.T_pos, h.T_le, hc, hs⟩

/-- **The text's own statement**: "requests awaiting responses never outnumber the largest
outgoing concurrency limit that has been in force" — counting *requests*, a batch of `k` requests
being `k` of them. -/
def awaiting_cap_full : Prop :=
  ∀ (c : OCfg) (ops : List OOp) (cnt : Nat → Nat),
    (awaiting (orun c (oinit Facts.C20.outgoingInitial) ops).1 cnt : Int) ≤
      omaxT c (oinit Facts.C20.outgoingInitial) Facts.C20.outgoingInitial ops

/-- **It fails** (known finding `c20:batch-requests-exceed-limit`, no small safe repair: a batch
takes one permit by design): one batch of 60 requests on a fresh session — 60 requests await
responses, the limit has never been above 50. -/
theorem awaiting_cap_full_fails : ¬ awaiting_cap_full := by
  intro h
  have := h ⟨3, 30⟩ [.send 0] (fun _ => 60)
  revert this
  decide +kernel

theorem sum_map_one (l : List Nat) (cnt : Nat → Nat) (h : ∀ i ∈ l, cnt i = 1) :
    (l.map cnt).sum = l.length := by
  induction l with
  | nil => rfl
  | cons a r ih =>
    rw [List.map_cons, List.sum_cons, List.length_cons, h a List.mem_cons_self,
      ih fun i hi => h i (List.mem_cons_of_mem _ hi), Nat.add_comm]

theorem sum_map_le (l : List Nat) (cnt : Nat → Nat) (k : Nat) (h : ∀ i ∈ l, cnt i ≤ k) :
    (l.map cnt).sum ≤ k * l.length := by
  induction l with
  | nil => exact Nat.le_refl 0
  | cons a r ih =>
    rw [List.map_cons, List.sum_cons, List.length_cons, Nat.mul_succ, Nat.add_comm]
    exact Nat.add_le_add (ih fun i hi => h i (List.mem_cons_of_mem _ hi)) (h a List.mem_cons_self)

/-- **What does hold**: for single requests the two counts coincide — requests awaiting responses
never outnumber the largest limit so far as long as every send operation in flight is a single
request; in general they are bounded by that limit times the largest batch. -/
theorem awaiting_cap_partial (c : OCfg) (ops : List OOp) (cnt : Nat → Nat) (k : Nat)
    (hk : ∀ i ∈ (orun c (oinit Facts.C20.outgoingInitial) ops).1.lim.holders, cnt i ≤ k) :
    (awaiting (orun c (oinit Facts.C20.outgoingInitial) ops).1 cnt : Int) ≤
      k * omaxT c (oinit Facts.C20.outgoingInitial) Facts.C20.outgoingInitial ops :=
  Int.le_trans (Int.ofNat_le.2 (sum_map_le _ cnt k hk))
    (Int.natCast_mul _ _ ▸ Int.mul_le_mul_of_nonneg_left (in_flight_cap c ops).1 (Int.natCast_nonneg k))

/-! ## tie to the source: behavioural tables regenerated on every run by RUNNING the current tree
(tools/facts/c20.py: a live client session with a scripted peer under virtual time, public API
only).  Nothing below depends on how `_recalc_concurrency` / `_send_concurrent` are written. -/

theorem facts_constants :
    Facts.C20.outgoingInitial = 50 ∧ Facts.C20.sentRequestTimeout = 30 ∧
    Facts.C20.targetResponseTime = 3 ∧ Facts.C20.recalibrateCount = 30 ∧
    Facts.C20.maxSendDelay = 20 := by decide +kernel

open Table in
/-- read `n` steps (request_count, response time numerator, denominator) -/
def takeSteps : Nat → List Int → Option (List (Nat × Rat) × List Int)
  | 0, l => some ([], l)
  | n + 1, k :: a :: b :: l => (takeSteps n l).map (fun r => ((k.toNat, ratOf a b) :: r.1, r.2))
  | _ + 1, _ => none

/-- send operations answered one after the other: after each completion the model's limit must be
the observed one -/
def checkFlow (c : OCfg) : Out → Nat → List (Nat × Rat) → List Int → Bool
  | _, _, [], [] => true
  | o, k, (count, taken) :: steps, t :: obs =>
      let o1 := (ostep c o (.send k)).1
      let o2 := (ostep c o1 (.done k taken count)).1
      decide (o2.lim.T = t) && decide (o2.lim.holders = []) && checkFlow c o2 (k + 1) steps obs
  | _, _, _, _ => false

def flowRowOk (row : List Int) : Bool :=
  match row with
  | tn :: td :: recal :: n :: rest =>
      match takeSteps n.toNat rest with
      | some (steps, obs) => checkFlow ⟨Table.ratOf tn td, recal.toNat⟩ (oinit Facts.C20.outgoingInitial) 0 steps obs
      | none => false
  | _ => false

/-! #### one send operation at a time

The table rows answer every send operation before the next one is issued, so the limiter never has
more than one holder and nobody ever waits: it lets every caller through at once, and what is
observed is the `finally` block alone.  `checkFlow_idle` says so once for all rows; the table is
then evaluated without the limiter. -/

theorem exit_quiet (s : C13.Lim) (hf : s.fixed = true) {i : Nat} (hi : i ∈ s.holders)
    (hw : s.waiters = []) :
    (C13.step s (.exit i)).1.holders = s.holders.erase i ∧ (C13.step s (.exit i)).1.T = s.T := by
  by_cases hv : s.V > C13.bound s
  · rw [C13.step_exit_retire s hf i hi hv]; exact ⟨rfl, rfl⟩
  · rw [C13.step_exit_release s hf i hi hv, C13.release_nil _ hw, C13.finish_nil _ rfl]; exact ⟨rfl, rfl⟩

theorem done_sole (c : OCfg) (o : Out) {k : Nat} (taken : Rat) (count : Nat) (hf : o.lim.fixed = true)
    (hH : o.lim.holders = [k]) (hw : o.lim.waiters = []) :
    let o' := (ostep c o (.done k taken count)).1
    o'.lim.holders = [] ∧ o'.lim.T = limitAfter c o.lim.T (newTimes o taken count) ∧
    o'.times = timesAfter c (newTimes o taken count) := by
  have hk : k ∈ o.lim.holders := hH ▸ List.mem_singleton_self k
  rw [ostep_done c o taken count hk, record_eq]
  obtain ⟨x1, x2⟩ := exit_quiet { o.lim with T := limitAfter c o.lim.T (newTimes o taken count) }
    hf hk hw
  exact ⟨x1.trans (by rw [hH]; exact List.erase_cons_head k []), x2, rfl⟩

theorem send_done_idle (c : OCfg) {m : Int} {o : Out} (h : OInv m o) (hh : o.lim.holders = [])
    (k : Nat) (taken : Rat) (count : Nat) :
    let o' := (ostep c (ostep c o (.send k)).1 (.done k taken count)).1
    o'.lim.holders = [] ∧ o'.lim.T = limitAfter c o.lim.T (newTimes o taken count) ∧
    o'.times = timesAfter c (newTimes o taken count) := by
  have hw : o.lim.waiters = [] := h.inv.no_starvation.2 hh
  have hS : o.lim.S ≠ 0 := fun h0 => by
    have hc := h.inv.cons; have := h.inv.V_pos
    rw [hh, h0, List.length_nil] at hc; omega
  have e := C13.enter_now_spec o.lim k h.inv hS hw
  rw [← C13.step_enter_now o.lim k hS hw] at e
  have hH : (C13.step o.lim (.enter k)).1.holders = [k] := by
    rw [e.H, if_neg (by have := h.T_pos; omega), hh]; rfl
  obtain ⟨d1, d2, d3⟩ := done_sole c (ostep c o (.send k)).1 taken count e.inv.fx hH e.waiters
  exact ⟨d1, d2.trans (congrArg (limitAfter c · (newTimes o taken count)) e.T), d3⟩

/-- send operations answered one after the other, without the limiter: only the `finally` block -/
def seqFlow (c : OCfg) : Int → List Rat → List (Nat × Rat) → List Int → Bool
  | _, _, [], [] => true
  | T, ts, (count, taken) :: steps, t :: obs =>
      let ts' := ts ++ (if count = 1 then [taken] else List.replicate count (taken / (count : Rat)))
      decide (limitAfter c T ts' = t) && seqFlow c (limitAfter c T ts') (timesAfter c ts') steps obs
  | _, _, _, _ => false

theorem checkFlow_idle (c : OCfg) (steps : List (Nat × Rat)) : ∀ (obs : List Int) (m : Int) (o : Out)
    (k : Nat), OInv m o → o.lim.holders = [] →
    checkFlow c o k steps obs = seqFlow c o.lim.T o.times steps obs := by
  induction steps with
  | nil => intro obs m o k _ _; cases obs <;> rfl
  | cons st steps ih =>
    intro obs m o k h hh
    cases obs with
    | nil => rfl
    | cons t obs =>
      obtain ⟨d1, d2, d3⟩ := send_done_idle c h hh k st.2 st.1
      rw [checkFlow, seqFlow, ih obs _ _ (k + 1) (ostep_inv c _ _ _ (ostep_inv c o (.send k) m h)) d1,
        d1, d2, d3]
      simp only [decide_true, Bool.and_true]
      rfl

def seqRowOk (row : List Int) : Bool :=
  match row with
  | tn :: td :: recal :: n :: rest =>
      match takeSteps n.toNat rest with
      | some (steps, obs) =>
          seqFlow ⟨Table.ratOf tn td, recal.toNat⟩ Facts.C20.outgoingInitial [] steps obs
      | none => false
  | _ => false

theorem flowRowOk_eq : ∀ row : List Int, flowRowOk row = seqRowOk row
  | tn :: td :: recal :: n :: rest => by
    unfold flowRowOk seqRowOk
    dsimp only
    cases takeSteps n.toNat rest with
    | none => rfl
    | some p => exact checkFlow_idle _ p.1 p.2 _ _ 0 oinit_inv rfl
  | [] | [_] | [_, _] | [_, _, _] => rfl

/-- **`_send_concurrent`'s bookkeeping and `_recalc_concurrency` compute what the model computes**:
on every sequence of send operations the facts extractor ran on a live client session (walks of
the limit from 50 up to 250, down to 1 and back, between the bounds, with several samples per
recalibration, batches contributing their per-request share per member, recalibrate_count 0 and
non-positive target_response_time) the outgoing limit after every completion is the model's.
(This is the normal form of the code **after** F18; delays are chosen so that every float
operation is exact and no rounding tie can occur.) -/
theorem facts_flow_table :
    Facts.C20.flowTable.all flowRowOk = true ∧ 10 ≤ Facts.C20.flowTable.length := by
  rw [funext flowRowOk_eq]
  decide +kernel

open Table in
/-- read `n` environment actions (time num den, kind, id, request_count) as timed operations: wait
until the action's time, then perform it -/
def takeEnv : Nat → Rat → List Int → Option (List TOp × Rat × List Int)
  | 0, now, l => some ([], now, l)
  | n + 1, now, tn :: td :: kind :: i :: cnt :: l =>
      let t := ratOf tn td
      let op : TOp := if kind = 0 then .call i.toNat cnt.toNat else if kind = 1 then .answer i.toNat else .lose
      (takeEnv n t l).map (fun r => (.wait (t - now) :: op :: r.1, r.2))
  | _ + 1, _, _ => none

def writtenAt (i : Nat) : List TEv → Option Rat
  | [] => none
  | .written j t :: r => if j = i then some t else writtenAt i r
  | _ :: r => writtenAt i r

def endOf (i : Nat) : List TEv → Option (Rat × EndKind)
  | [] => none
  | .ended j _ t k :: r => if j = i then some (t, k) else endOf i r
  | _ :: r => endOf i r

def kindCode : EndKind → List Int
  | .answered => [0, 1]
  | .timedOut => [2]
  | .cancelled => [3]

open Table in
/-- per caller: written?, write time, outcome, outcome time — as the model has them -/
def checkCallers (evs : List TEv) : Nat → Nat → List Int → Bool
  | _, 0, [] => true
  | i, n + 1, hw :: wn :: wd :: k :: tn :: td :: rest =>
      (match writtenAt i evs with
       | some w => decide (hw = 1) && decide (w = ratOf wn wd)
       | none => decide (hw = 0)) &&
      (match endOf i evs with
       | some (t, kind) => decide (k ∈ kindCode kind) && decide (t = ratOf tn td)
       | none => false) && checkCallers evs (i + 1) n rest
  | _, _, _ => false

def outcomeRowOk (row : List Int) : Bool :=
  match row with
  | L :: tn :: td :: nenv :: rest =>
      match takeEnv nenv.toNat 0 rest with
      | some (ops, last, n :: obs) =>
          let τ := Table.ratOf tn td
          let r := trun ⟨3, 1000000⟩ τ (tinit L.toNat) (ops ++ [.wait (τ * (n + 3) + last + 1)])
          checkCallers r.2 0 n.toNat obs
      | _ => false
  | _ => false

/-- **What callers get and when** (part iii against the code): on a live client session whose
outgoing limiter was first brought to limit L through the public API, for silent peers, peers that
answer after a delay (all or only some requests) and connections that are lost: every caller's
request is written when the timed model says (the excess over the limit only when a slot frees),
and every call ends when and how the timed model says — `TaskTimeout` exactly
`sent_request_timeout` after the write, the result when the answer arrives, cancellation at the
moment of the loss, also for callers still queued. -/
theorem facts_outcome_table :
    Facts.C20.outcomeTable.all outcomeRowOk = true ∧ 12 ≤ Facts.C20.outcomeTable.length := by
  decide +kernel

example : recalc 50 3 1 = 55 ∧ recalc 50 3 3 = 50 ∧ recalc 50 3 30 = 40 ∧ recalc 35 3 0 = 38 ∧
    recalc 8 3 1000000000 = 7 ∧ recalc 250 3 0 = 250 ∧ recalc 1 3 1000000000 = 1 := by
  decide +kernel
example : recalcAll 50 [(3, 30), (3, 30), (3, 1/2)] = 35 := by decide +kernel
-- a workload that queues, records times, recalibrates inside `done`, and admits on the raise
example : ((orun ⟨3, 2⟩ (oinit 2) [.send 0, .send 1, .send 2, .done 0 (1/2) 1, .done 1 0 1,
    .send 3, .send 4]).1.lim.T,
    (orun ⟨3, 2⟩ (oinit 2) [.send 0, .send 1, .send 2, .done 0 (1/2) 1, .done 1 0 1,
    .send 3, .send 4]).1.lim.holders) = (5, [2, 3, 4]) := by decide +kernel

end Aiorpcx.C20
