import Aiorpcx.C14.Model
/-! C14 — arithmetic lemmas over exact rationals (core `Rat`, no Mathlib needed): the order lemmas
for `max`, subtraction and division that core does not state (for `min` core has
`Std.min_le_left`, `Std.min_le_right`, `Std.le_min_iff`), then the throttle fraction and the
permitted concurrency as functions of the evaluated cost. -/
namespace Aiorpcx.C14

theorem ite_prop {α : Type} (P : α → Prop) {p : Prop} [Decidable p] {x y : α} (hx : P x) (hy : P y) :
    P (if p then x else y) := by
  by_cases h : p
  · rw [if_pos h]; exact hx
  · rw [if_neg h]; exact hy

theorem le_max_left (a b : Rat) : a ≤ max a b := by
  rw [Rat.max_def]; split
  · assumption
  · exact Rat.le_refl

theorem le_max_right (a b : Rat) : b ≤ max a b := by
  rw [Rat.max_def]; split
  · exact Rat.le_refl
  · exact Rat.le_of_lt (Rat.not_le.1 ‹_›)

theorem max_le {a b c : Rat} (h1 : a ≤ c) (h2 : b ≤ c) : max a b ≤ c := by
  rw [Rat.max_def]; exact ite_prop (· ≤ c) h2 h1

theorem max_eq_left {a b : Rat} (h : b ≤ a) : max a b = a := by
  rw [Rat.max_def]; split
  · exact Rat.le_antisymm h ‹_›
  · rfl

theorem max_eq_right {a b : Rat} (h : a ≤ b) : max a b = b := by
  rw [Rat.max_def, if_pos h]

theorem max_le_max_left (a : Rat) {b c : Rat} (h : b ≤ c) : max a b ≤ max a c :=
  max_le (le_max_left a c) (Rat.le_trans h (le_max_right a c))

theorem add_le_add {a b c d : Rat} (h1 : a ≤ b) (h2 : c ≤ d) : a + c ≤ b + d :=
  Rat.le_trans (Rat.add_le_add_right.2 h1) (Rat.add_le_add_left.2 h2)

theorem le_add_of_nonneg_right {a b : Rat} (h : 0 ≤ b) : a ≤ a + b := by
  have := (Rat.add_le_add_left (c := a)).2 h
  rwa [Rat.add_zero] at this

theorem sub_le_sub_right {a b : Rat} (h : a ≤ b) (c : Rat) : a - c ≤ b - c := by
  rw [Rat.sub_eq_add_neg, Rat.sub_eq_add_neg]; exact Rat.add_le_add_right.2 h

theorem sub_le_sub_left {a b : Rat} (h : a ≤ b) (c : Rat) : c - b ≤ c - a := by
  rw [Rat.sub_eq_add_neg, Rat.sub_eq_add_neg]; exact Rat.add_le_add_left.2 (Rat.neg_le_neg h)

theorem sub_le_self {a b : Rat} (h : 0 ≤ b) : a - b ≤ a :=
  Rat.sub_right_le_iff_le_add.2 (le_add_of_nonneg_right h)

theorem sub_nonneg {a b : Rat} : 0 ≤ a - b ↔ b ≤ a := (Rat.le_iff_sub_nonneg b a).symm

theorem sub_pos {a b : Rat} : 0 < a - b ↔ b < a := (Rat.lt_iff_sub_pos b a).symm

theorem sub_nonpos {a b : Rat} (h : a ≤ b) : a - b ≤ 0 := by
  rw [Rat.sub_right_le_iff_le_add, Rat.zero_add]; exact h

theorem neg_nonneg {a : Rat} (h : a ≤ 0) : 0 ≤ -a := by
  rw [Rat.le_neg_iff, Rat.neg_zero]; exact h

theorem neg_nonpos {a : Rat} (h : 0 ≤ a) : -a ≤ 0 := by
  rw [Rat.neg_le_iff, Rat.neg_zero]; exact h

theorem div_le_div_right {a b c : Rat} (h : a ≤ b) (hc : 0 < c) : a / c ≤ b / c := by
  rw [Rat.div_def, Rat.div_def]
  exact Rat.mul_le_mul_of_nonneg_right h (Rat.le_of_lt (Rat.inv_pos.2 hc))

theorem le_div_of_mul_le {a b c : Rat} (hc : 0 < c) (h : a * c ≤ b) : a ≤ b / c := by
  have := div_le_div_right h hc
  rwa [Rat.mul_div_cancel (Rat.ne_of_gt hc)] at this

theorem mul_one_div (a b : Rat) : a * (1 / b) = a / b := by
  rw [Rat.div_def, Rat.one_mul, Rat.div_def]

theorem div_nonneg {a c : Rat} (h : 0 ≤ a) (hc : 0 < c) : 0 ≤ a / c := by
  rw [Rat.div_def]
  exact Rat.mul_nonneg h (Rat.le_of_lt (Rat.inv_pos.2 hc))

theorem div_nonpos {a c : Rat} (h : a ≤ 0) (hc : 0 < c) : a / c ≤ 0 := by
  have := div_le_div_right h hc
  rwa [Rat.div_def 0 c, Rat.zero_mul] at this

theorem div_pos {a c : Rat} (h : 0 < a) (hc : 0 < c) : 0 < a / c := by
  rw [Rat.div_def]
  exact Rat.mul_pos h (Rat.inv_pos.2 hc)

theorem one_le_div {a c : Rat} (h : c ≤ a) (hc : 0 < c) : 1 ≤ a / c := by
  have := div_le_div_right h hc
  rwa [Rat.div_def c, Rat.mul_inv_cancel c (Rat.ne_of_gt hc)] at this

theorem ceil_mono {a b : Rat} (h : a ≤ b) : a.ceil ≤ b.ceil := by
  rw [Rat.ceil_le_iff]
  exact Rat.le_trans h Rat.le_ceil

theorem ceil_nonpos {a : Rat} (h : a ≤ 0) : a.ceil ≤ 0 := by
  rw [Rat.ceil_le_iff]; exact_mod_cast h

theorem ceil_pos {a : Rat} (h : 0 < a) : 0 < a.ceil := by
  rw [Rat.lt_ceil_iff]; exact_mod_cast h

theorem absQ_nonneg (x : Rat) : 0 ≤ absQ x := by
  unfold absQ; split
  · assumption
  · exact neg_nonneg (Rat.le_of_lt (Rat.not_le.1 ‹_›))

theorem absQ_le {x t : Rat} : absQ x ≤ t ↔ x ≤ t ∧ -x ≤ t := by
  unfold absQ; split
  · next h => exact ⟨fun ht => ⟨ht, Rat.le_trans (Rat.le_trans (neg_nonpos h) h) ht⟩, fun ht => ht.1⟩
  · next h =>
    have h' := Rat.le_of_lt (Rat.not_le.1 h)
    exact ⟨fun ht => ⟨Rat.le_trans (Rat.le_trans h' (neg_nonneg h')) ht, ht⟩, fun ht => ht.2⟩

theorem absQ_zero : absQ 0 = 0 := if_pos Rat.le_refl

theorem fractionOf_mono (c : Cfg) (hr : 0 < c.hard - c.soft) {e1 e2 : Rat} (h : e1 ≤ e2) :
    fractionOf c e1 ≤ fractionOf c e2 :=
  max_le_max_left 0 (div_le_div_right (sub_le_sub_right h _) hr)

theorem fractionOf_nonneg (c : Cfg) (e : Rat) : 0 ≤ fractionOf c e := le_max_left 0 _

theorem fractionOf_below (c : Cfg) (hr : 0 < c.hard - c.soft) {e : Rat} (h : e ≤ c.soft) :
    fractionOf c e = 0 :=
  max_eq_left (div_nonpos (sub_nonpos h) hr)

theorem fractionOf_above (c : Cfg) (hr : 0 < c.hard - c.soft) {e : Rat} (h : c.hard ≤ e) :
    1 ≤ fractionOf c e :=
  Rat.le_trans (one_le_div (sub_le_sub_right h _) hr) (le_max_right 0 _)

theorem fractionOf_between (c : Cfg) (hr : 0 < c.hard - c.soft) {e : Rat} (h1 : c.soft < e)
    (h2 : e < c.hard) :
    fractionOf c e = (e - c.soft) / (c.hard - c.soft) ∧ 0 < fractionOf c e ∧ fractionOf c e < 1 := by
  have p := div_pos (sub_pos.2 h1) hr
  have q : (e - c.soft) / (c.hard - c.soft) < 1 := by
    rw [Rat.div_lt_iff hr, Rat.one_mul, Rat.sub_eq_add_neg, Rat.sub_eq_add_neg]
    exact Rat.add_lt_add_right.2 h2
  have e0 : fractionOf c e = (e - c.soft) / (c.hard - c.soft) := max_eq_right (Rat.le_of_lt p)
  exact ⟨e0, e0 ▸ p, e0 ▸ q⟩

theorem one_sub_mul_anti (c : Cfg) (hi : 0 ≤ c.initial) {f1 f2 : Rat} (h : f1 ≤ f2) :
    (1 - f2) * (c.initial : Rat) ≤ (1 - f1) * (c.initial : Rat) :=
  Rat.mul_le_mul_of_nonneg_right (sub_le_sub_left h 1) (Rat.intCast_nonneg.2 hi)

theorem targetOfFraction_anti (c : Cfg) (hi : 0 ≤ c.initial) {f1 f2 : Rat} (h : f1 ≤ f2) :
    targetOfFraction c f2 ≤ targetOfFraction c f1 :=
  Int.max_le.2 ⟨Int.le_max_left _ _,
    Int.le_trans (ceil_mono (one_sub_mul_anti c hi h)) (Int.le_max_right _ _)⟩

theorem targetOfFraction_zero (c : Cfg) (hi : 0 ≤ c.initial) : targetOfFraction c 0 = c.initial := by
  unfold targetOfFraction
  rw [Rat.sub_eq_add_neg, Rat.neg_zero, Rat.add_zero, Rat.one_mul, Rat.ceil_intCast]
  exact Int.max_eq_right hi

theorem targetOfFraction_ge_one (c : Cfg) (hi : 0 ≤ c.initial) {f : Rat} (h : 1 ≤ f) :
    targetOfFraction c f = 0 := by
  have := one_sub_mul_anti c hi h
  rw [Rat.sub_self, Rat.zero_mul] at this
  exact Int.max_eq_left (ceil_nonpos this)

theorem targetOfFraction_lt_one (c : Cfg) (hi : 1 ≤ c.initial) {f : Rat} (h : f < 1) :
    0 < targetOfFraction c f :=
  Int.lt_of_lt_of_le
    (ceil_pos (Rat.mul_pos (sub_pos.2 h) (Rat.intCast_pos.2 (Int.lt_of_lt_of_le (by decide) hi))))
    (Int.le_max_right _ _)

theorem targetOfFraction_nonneg (c : Cfg) (f : Rat) : 0 ≤ targetOfFraction c f :=
  Int.le_max_left _ _

theorem targetOfFraction_le_initial (c : Cfg) (hi : 0 ≤ c.initial) {f : Rat} (h : 0 ≤ f) :
    targetOfFraction c f ≤ c.initial := by
  have := targetOfFraction_anti c hi h
  rwa [targetOfFraction_zero c hi] at this

theorem fraction_lt_one_of_target_pos (c : Cfg) (hi : 0 ≤ c.initial) {f : Rat}
    (h : 0 < targetOfFraction c f) : f < 1 :=
  Rat.not_le.1 fun hn => by rw [targetOfFraction_ge_one c hi hn] at h; exact absurd h (by decide)

end Aiorpcx.C14
