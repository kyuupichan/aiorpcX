import Aiorpcx.C14.Props
import Aiorpcx.C14.Session
import Aiorpcx.C13.Props
/-!
# C14 × C13 — "finally disconnects": the cost accounting composed with the limiter

`Sess` (Session.lean) couples the accounting state of C14 with the limiter of C13 (the class as
repaired by fixes/F23-limiter-last-permit.diff).  The theorems below say that a session whose
evaluated cost has reached the hard limit really does refuse and disconnect — whatever the
limiter was doing at that moment (saturated, requests queued), for every interleaving — and that
no request is left behind to run into its processing timeout.  On the pinned class this is false
(`disconnect_reachable_fails_pinned`): the holders retire the capacity to 0 and the queued
requests wait for ever.
-/
namespace Aiorpcx.C14

/-- limiter operations as session operations (`setTarget` never comes from a request task; it is
mapped to a harmless value and excluded by `noSetTarget` wherever this is used) -/
def ofLim : C13.Op → SOp
  | .enter i => .arrive i
  | .exit i => .finish i
  | .cancelWaiter i => .drop i
  | .setTarget _ => .acct (.advance 0)

theorem refusals_append (a b : List C13.Ev) : refusals (a ++ b) = refusals a + refusals b := by
  rw [refusals, List.filter_append, List.length_append]; rfl

theorem anyRefused_append (a b : List C13.Ev) : anyRefused (a ++ b) = (anyRefused a || anyRefused b) :=
  List.any_append

theorem Sess.run_append (c : Cfg) (a b : List SOp) : ∀ (s : Sess),
    Sess.run c s (a ++ b) =
      ((Sess.run c (Sess.run c s a).1 b).1, (Sess.run c s a).2 ++ (Sess.run c (Sess.run c s a).1 b).2) := by
  induction a with
  | nil => intro s; rfl
  | cons op a ih =>
    intro s
    rw [List.cons_append, Sess.run, ih, Sess.run, List.append_assoc]

theorem step_ofLim (c : Cfg) (s : Sess) (op : C13.Op) (hop : op.isSetTarget = false) :
    Sess.step c s (ofLim op) = s.absorb (C13.step s.lim op) := by
  cases op with
  | setTarget n => nomatch hop
  | _ => rfl

/-- request tasks only talk to the limiter: a run of arrivals / completions / cancelled queued
requests is the limiter's run, the accounting is untouched, and the session is closed iff somebody
was refused -/
theorem run_limiter (c : Cfg) (ops : List C13.Op) : ∀ (s : Sess), C13.noSetTarget ops →
    (Sess.run c s (ops.map ofLim)).1.lim = (C13.run s.lim ops).1 ∧
    (Sess.run c s (ops.map ofLim)).2 = (C13.run s.lim ops).2 ∧
    (Sess.run c s (ops.map ofLim)).1.acct = s.acct ∧
    (Sess.run c s (ops.map ofLim)).1.closed = (s.closed || anyRefused (C13.run s.lim ops).2) ∧
    (Sess.run c s (ops.map ofLim)).1.hooks = s.hooks + refusals (C13.run s.lim ops).2 := by
  induction ops with
  | nil => intro s _; exact ⟨rfl, rfl, rfl, (Bool.or_false _).symm, rfl⟩
  | cons op ops ih =>
    intro s hno
    obtain ⟨i1, i2, i3, i4, i5⟩ := ih (s.absorb (C13.step s.lim op)).1 hno.2
    rw [List.map_cons, Sess.run, C13.run, step_ofLim c s op hno.1]
    exact ⟨i1, congrArg _ i2, i3, by rw [i4, anyRefused_append, ← Bool.or_assoc]; rfl,
      by rw [i5, refusals_append, ← Nat.add_assoc]; rfl⟩

theorem refusals_all (evs : List C13.Ev) (h : ∀ e ∈ evs, ∃ j, e = C13.Ev.refused j) :
    refusals evs = (C13.ids evs).length := by
  induction evs with
  | nil => rfl
  | cons e r ih =>
    obtain ⟨j, rfl⟩ := h e List.mem_cons_self
    exact congrArg (· + 1) (ih fun x hx => h x (List.mem_cons_of_mem _ hx))

/-- **Disconnect is reachable — no request is left to time out** (the C13 × C14 composition).
From any reachable state of the session in which the limit is ≤ 0 — i.e. (`refused_past_hard`)
the evaluated cost has reached the hard limit —, however saturated the limiter is and however
many requests are queued: once the running handlers have finished (all of them, in any order),
every queued request has been refused in arrival order (reply −101, hook), the session is closed,
nobody is left waiting; and a request arriving after that is refused at once as well.  Not one
request is executed. -/
theorem disconnect_reachable (c : Cfg) (s : Sess) (hinv : C13.Inv s.lim) (hT : s.lim.T ≤ 0)
    (fin : List C13.Op) (he : C13.exitsOnly s.lim fin) (hall : fin.length = s.lim.holders.length)
    (i : Nat) :
    let r := Sess.run c s (fin.map ofLim ++ [.arrive i])
    r.1.closed = true ∧ r.1.lim.waiters = [] ∧ (∀ e ∈ r.2, ∃ j, e = C13.Ev.refused j) ∧
    C13.ids r.2 = s.lim.waiters ++ [i] ∧ r.1.hooks = s.hooks + s.lim.waiters.length + 1 := by
  obtain ⟨l1, l2, _, _, l5⟩ := run_limiter c fin s (C13.exitsOnly_noSetTarget fin s.lim he)
  obtain ⟨z1, z2, z3⟩ := C13.refused_at_zero s.lim hinv hT fin he hall
  obtain ⟨x1, x2, _⟩ := C13.exits_at_zero fin s.lim hinv hT he
  have inv1 := C13.run_inv fin s.lim hinv
  -- the state after the holders have left: no holder, so at least one free permit; nobody waits
  have hS : (C13.run s.lim fin).1.S ≠ 0 := by
    have := inv1.cons; have := inv1.V_pos; omega
  have hz := (C13.zero_refuses _ inv1 (x1 ▸ hT) (.enter i) rfl).2 i rfl hS z2
  -- the limiter after the refusal: still nobody waiting
  have f : C13.ids (C13.step (C13.run s.lim fin).1 (.enter i)).2 ++
      (C13.step (C13.run s.lim fin).1 (.enter i)).1.waiters = (C13.run s.lim fin).1.waiters ++ [i] :=
    C13.fifo_admission _ inv1 (.enter i)
  rw [hz.1, z2] at f
  show (Sess.run c s (fin.map ofLim ++ [.arrive i])).1.closed = true ∧ _
  rw [Sess.run_append]
  generalize Sess.run c s (fin.map ofLim) = r1 at l1 l2 l5
  dsimp only [Sess.run, Sess.step, Sess.absorb]
  rw [l1, hz.1, l2, l5, refusals_all _ z3, z1]
  exact ⟨Bool.or_true _, List.append_cancel_left f,
    fun e he => (List.mem_append.1 he).elim (z3 e) fun h => ⟨i, List.mem_singleton.1 h⟩,
    by rw [C13.ids_append, z1]; rfl, rfl⟩

/-- **… and the hard limit leads there**: an evaluation that finds `cost + extra ≥ hard` sets the
limiter's target to 0 (keeping its invariant), so `disconnect_reachable` applies from the very
next moment. -/
theorem past_hard_sets_limit_zero (c : Cfg) (s : Sess) (hr : 0 < c.hard - c.soft) (hi : 0 ≤ c.initial)
    (hinv : C13.Inv s.lim) (h : c.hard ≤ (recalc c s.acct).cost + s.acct.extra) :
    let s1 := (Sess.step c s (.acct .recalc)).1
    s1.lim.T = 0 ∧ C13.Inv s1.lim ∧ s1.lim.holders = s.lim.holders ∧ s1.lim.waiters = s.lim.waiters ∧
    s1.closed = s.closed :=
  ⟨(refused_past_hard c s.acct hr hi h).1, C13.step_inv s.lim _ hinv, rfl, rfl, rfl⟩

/-- a stretch of session life without a cost evaluation: request tasks come and go freely;
accounting operations (traffic, errors, bumps, clock, `extra_cost`) only as long as they do not
re-evaluate (`noEval`) -/
def quiet (c : Cfg) (s : Sess) : List SOp → Prop
  | [] => True
  | .acct op :: ops => noEval c s.acct [op] ∧ quiet c (Sess.step c s (.acct op)).1 ops
  | .arrive i :: ops => quiet c (Sess.step c s (.arrive i)).1 ops
  | .finish i :: ops => quiet c (Sess.step c s (.finish i)).1 ops
  | .drop i :: ops => quiet c (Sess.step c s (.drop i)).1 ops

theorem absorb_at_zero (s : Sess) (hinv : C13.Inv s.lim) (hT : s.lim.T ≤ 0) (op : C13.Op)
    (hop : op.isSetTarget = false) :
    C13.Inv (s.absorb (C13.step s.lim op)).1.lim ∧ (s.absorb (C13.step s.lim op)).1.lim.T = s.lim.T ∧
    (∀ j, C13.Ev.entered j ∉ (s.absorb (C13.step s.lim op)).2) :=
  have f := C13.step_facts s.lim op hinv hop
  ⟨f.inv, f.T, f.refuses hT⟩

/-- one quiet step at a limit ≤ 0: nobody is let in; the limit stays, and stays the accounting's -/
theorem step_at_zero (c : Cfg) (s : Sess) (op : SOp) (ops : List SOp) (hinv : C13.Inv s.lim)
    (hT : s.lim.T ≤ 0) (hc : s.lim.T = s.acct.target) (hq : quiet c s (op :: ops)) :
    C13.Inv (Sess.step c s op).1.lim ∧ (Sess.step c s op).1.lim.T = s.lim.T ∧
    (Sess.step c s op).1.acct.target = s.acct.target ∧ quiet c (Sess.step c s op).1 ops ∧
    ∀ j, C13.Ev.entered j ∉ (Sess.step c s op).2 := by
  cases op with
  | acct aop =>
    have t := (step_noEval_frame c s.acct aop [] hq.1).1
    exact ⟨C13.step_inv _ _ hinv, t.trans hc.symm, t, hq.2, fun _ => List.not_mem_nil⟩
  | arrive i =>
    have a := absorb_at_zero s hinv hT (.enter i) rfl
    exact ⟨a.1, a.2.1, rfl, hq, a.2.2⟩
  | finish i =>
    have a := absorb_at_zero s hinv hT (.exit i) rfl
    exact ⟨a.1, a.2.1, rfl, hq, a.2.2⟩
  | drop i =>
    have a := absorb_at_zero s hinv hT (.cancelWaiter i) rfl
    exact ⟨a.1, a.2.1, rfl, hq, a.2.2⟩

/-- **No further request is executed** — at the level of the composed session, for every
interleaving: from any reachable state in which the limit is ≤ 0 (the evaluated cost has reached
the hard limit) and as long as the cost is not re-evaluated, whatever requests arrive, whatever
handlers finish or queued requests are dropped, whatever traffic, errors and bumps are charged
in between: no handler is started.  (Every request that gets the permit is refused:
`disconnect_reachable`.) -/
theorem no_execution_past_hard (c : Cfg) (ops : List SOp) : ∀ (s : Sess), C13.Inv s.lim →
    s.lim.T ≤ 0 → s.lim.T = s.acct.target → quiet c s ops →
    (∀ j, C13.Ev.entered j ∉ (Sess.run c s ops).2) ∧ (Sess.run c s ops).1.lim.T = s.lim.T := by
  induction ops with
  | nil => intro s _ _ _ _; exact ⟨fun _ => List.not_mem_nil, rfl⟩
  | cons op ops ih =>
    intro s hinv hT hc hq
    obtain ⟨a1, a2, a3, a4, a5⟩ := step_at_zero c s op ops hinv hT hc hq
    obtain ⟨r1, r2⟩ := ih _ a1 (a2 ▸ hT) (a2.trans (hc.trans a3.symm)) a4
    exact ⟨fun j hj => (List.mem_append.1 hj).elim (a5 j) (r1 j), r2.trans a2⟩

/-- the full statement as a predicate of the start state of the limiter -/
def disconnect_reachable_full (start : C13.Lim) : Prop :=
  ∀ (c : Cfg) (acct : St) (pre fin : List C13.Op) (i : Nat),
    let s : Sess := ⟨acct, (C13.run start pre).1, false, 0⟩
    s.lim.T ≤ 0 → C13.exitsOnly s.lim fin → fin.length = s.lim.holders.length →
    (Sess.run c s (fin.map ofLim ++ [.arrive i])).1.closed = true

theorem disconnect_reachable_repaired (n : Int) : disconnect_reachable_full (C13.init n) :=
  fun c acct pre fin i hT he hall =>
    (disconnect_reachable c ⟨acct, _, false, 0⟩ (C13.run_inv pre _ (C13.init_inv n)) hT fin he hall i).1

/-- **F23 (pinned class)**: two handlers running, two requests queued, the cost passes the hard
limit (limit 0), the handlers finish, a further request arrives: nobody is refused, the session
is never closed — the three requests wait until their processing timeout. -/
theorem disconnect_reachable_fails_pinned : ¬ disconnect_reachable_full (C13.initPinned 2) := by
  intro h
  have := h ⟨0, 0, 1, 0, 0, 0, 100, 2⟩ (C14.init ⟨0, 0, 1, 0, 0, 0, 100, 2⟩ 0)
    [.enter 0, .enter 1, .enter 2, .enter 3, .setTarget 0] [.exit 0, .exit 1] 4
    (by decide) ⟨by decide, by decide, trivial⟩ (by decide)
  revert this
  decide +kernel

/-! ## tie to the source: the composition observed on live sessions -/

/-- requests with an id of at least `n` whose handler was started -/
def enteredFrom (n : Nat) : List C13.Ev → Nat
  | [] => 0
  | .entered i :: r => (if n ≤ i then 1 else 0) + enteredFrom n r
  | _ :: r => enteredFrom n r

/-- class, L = initial_concurrent, queued, route (0 `bump_cost` + evaluation / 1 a big chunk
received), hook ran?, closing?, queued or late requests executed, requests left waiting -/
def queueRowOk (row : List Int) : Bool :=
  match row with
  | [_cls, L, w, route, refused, closing, executed, waiting] =>
      let c : Cfg := ⟨1, 256, 768, 0, 2, 0, Facts.C14.driftThreshold, L⟩
      let ops : List SOp :=
        (List.range (L + w).toNat).map SOp.arrive ++
        [if route = 0 then .acct (.bump 2000) else .acct (.dataReceived 4096), .acct .recalc] ++
        (List.range L.toNat).map SOp.finish ++ [.arrive (L + w).toNat]
      let r := Sess.run c (Sess.init c 0) ops
      decide (r.1.closed = decide (closing = 1)) && decide (decide (0 < r.1.hooks) = decide (refused = 1)) &&
        decide ((enteredFrom L.toNat r.2 : Int) = executed) && decide ((r.1.lim.waiters.length : Int) = waiting)
  | _ => false

/-- **The composition on live sessions of both classes**: limiter saturated by L held handlers,
further requests queued, the cost pushed past the hard limit (by `bump_cost` or by traffic), the
handlers finish, one more request arrives — the sessions behave as the composed model says: the
hook runs, the session closes, no queued or late request is executed, nothing is left waiting.
On the tree without F23 this obligation fails (the queued requests stay parked). -/
theorem facts_queue_table :
    Facts.C14.queueTable.all queueRowOk = true ∧ 16 ≤ Facts.C14.queueTable.length ∧
    (Facts.C14.queueTable.map (·.headD 9)).eraseDups = [0, 1] := by
  decide +kernel

-- the scenario of `disconnect_reachable` on the repaired class, driven by the cost: four requests
-- on a limit of 2, an expensive bump re-evaluates the cost past the hard limit, the handlers end
example :
    let c : Cfg := ⟨0, 200, 600, 0, 2, 100, 100, 2⟩
    let r := Sess.run c (Sess.init c 0)
      [.arrive 0, .arrive 1, .arrive 2, .arrive 3, .acct (.bump 700), .finish 0, .finish 1, .arrive 4]
    (r.1.closed, r.1.hooks, r.1.lim.waiters, r.2) =
      (true, 3, [], [.entered 0, .entered 1, .refused 2, .refused 3, .refused 4]) := by
  decide +kernel

end Aiorpcx.C14
