import Aiorpcx.C14.Lemmas
import Aiorpcx.C13.Table
import Aiorpcx.Facts.C14
/-!
# C14 — property theorems for the session cost accounting

Model: `Aiorpcx.C14.step` (Model.lean) mirrors `bump_cost` / `recalc_concurrency` /
`data_received` / `_send_message` / `_bump_errors` of `SessionBase` over exact rationals; the
environment (clock, `extra_cost()`) is part of the state and changed by its own operations.
Everything is quantified over **all** configurations and **all** histories (`List Op`), no bound.
Floats: IEEE operations are monotone, so the monotonicity statements transfer; equalities are
claimed for the rational model only (DESIGN §3); the correspondence treats the discontinuities
(`ceil`, the strict drift test) as ties.
-/
namespace Aiorpcx.C14

/-- **Decay on evaluation**: `recalc_concurrency` subtracts `(now − last evaluation)·rate`, clamps
at 0, and remembers when and at which cost it evaluated. -/
theorem decay_on_eval (c : Cfg) (s : St) :
    (recalc c s).cost = max 0 (s.cost - (s.now - s.time) * c.decay) ∧
    (recalc c s).time = s.now ∧ (recalc c s).last = (recalc c s).cost ∧
    (recalc c s).now = s.now ∧ (recalc c s).extra = s.extra := by
  unfold recalc
  split <;> exact ⟨rfl, rfl, rfl, rfl, rfl⟩

/-- **Target formula**: with `hard > soft` an evaluation sets the fraction to
`max 0 ((cost + extra − soft)/(hard − soft))` and the limit to `max 0 ⌈(1 − fraction)·initial⌉`. -/
theorem target_formula (c : Cfg) (s : St) (h : 0 < c.hard - c.soft) :
    (recalc c s).fraction = fractionOf c ((recalc c s).cost + s.extra) ∧
    (recalc c s).target = targetOf c ((recalc c s).cost + s.extra) := by
  unfold recalc targetOf
  rw [if_neg (Rat.not_le.2 h)]
  exact ⟨rfl, rfl⟩

theorem recalc_disabled (c : Cfg) (s : St) (h : c.hard - c.soft ≤ 0) :
    (recalc c s).fraction = s.fraction ∧ (recalc c s).target = s.target := by
  unfold recalc; rw [if_pos h]; exact ⟨rfl, rfl⟩

theorem bump_quiet (c : Cfg) (s : St) (δ : Rat) (h : ¬ drifts c s δ) :
    bump c s δ = { s with cost := max 0 (s.cost + δ) } := if_neg h

theorem bump_eval (c : Cfg) (s : St) (δ : Rat) (h : drifts c s δ) :
    bump c s δ = recalc c { s with cost := max 0 (s.cost + δ) } := if_pos h

/-- **Charges are exact** (definitional for the model: the content is that the *code* charges
what `step` charges, which is `facts_charge_table` — one event on a live session of either class
costs exactly `charge`): every chunk received and every message sent is charged `n·bw`, every
failed request `base + its own cost`, through the same `bump_cost`; and `bump_cost(δ)` moves the
cost to `max 0 (cost + δ)` — further decayed only if that drift triggers a re-evaluation. -/
theorem charges_exact (c : Cfg) (s : St) :
    (∀ n, step c s (.dataReceived n) = bump c s ((n : Rat) * c.bw)) ∧
    (∀ n, step c s (.sent n) = bump c s ((n : Rat) * c.bw)) ∧
    (∀ e, step c s (.error e) = bump c s (c.base + e)) ∧
    (∀ δ, step c s (.bump δ) = bump c s δ) ∧
    (∀ δ, (¬ absQ (max 0 (s.cost + δ) - s.last) > c.threshold →
            bump c s δ = { s with cost := max 0 (s.cost + δ) }) ∧
          (absQ (max 0 (s.cost + δ) - s.last) > c.threshold →
            bump c s δ = recalc c { s with cost := max 0 (s.cost + δ) })) :=
  ⟨fun _ => rfl, fun _ => rfl, fun _ => rfl, fun _ => rfl, fun δ => ⟨bump_quiet c s δ, bump_eval c s δ⟩⟩

/-- every operation that is not an environment change goes through `bump_cost` or is the
evaluation itself -/
theorem step_cases (c : Cfg) (s : St) (op : Op) :
    (∃ δ, charge c op = some δ ∧ step c s op = bump c s δ) ∨ (op = .recalc ∧ step c s op = recalc c s) ∨
    (charge c op = none ∧ (step c s op).cost = s.cost ∧ (step c s op).last = s.last ∧
      (step c s op).fraction = s.fraction ∧ (step c s op).target = s.target) := by
  cases op with
  | recalc => exact Or.inr (Or.inl ⟨rfl, rfl⟩)
  | advance dt => exact Or.inr (Or.inr ⟨rfl, rfl, rfl, rfl, rfl⟩)
  | setExtra e => exact Or.inr (Or.inr ⟨rfl, rfl, rfl, rfl, rfl⟩)
  | _ => exact Or.inl ⟨_, rfl, rfl⟩

structure Good (c : Cfg) (s : St) : Prop where
  cost_nonneg : 0 ≤ s.cost
  last_nonneg : 0 ≤ s.last
  drift : absQ (s.cost - s.last) ≤ c.threshold
  frac_nonneg : 0 ≤ s.fraction
  coherent : 0 < c.hard - c.soft → s.target = targetOfFraction c s.fraction
  disabled : c.hard - c.soft ≤ 0 → s.target = c.initial ∧ s.fraction = 0

theorem init_good (c : Cfg) (start : Rat) (ht : 0 ≤ c.threshold) (hi : 0 ≤ c.initial) :
    Good c (init c start) :=
  ⟨Rat.le_refl, Rat.le_refl, by show absQ (0 - 0) ≤ _; rw [Rat.sub_self, absQ_zero]; exact ht,
    Rat.le_refl, fun _ => (targetOfFraction_zero c hi).symm, fun _ => ⟨rfl, rfl⟩⟩

/-- what `recalc` needs from the state it starts in (cost and drift may be anything) -/
structure Pre (c : Cfg) (s : St) : Prop where
  frac_nonneg : 0 ≤ s.fraction
  coherent : 0 < c.hard - c.soft → s.target = targetOfFraction c s.fraction
  disabled : c.hard - c.soft ≤ 0 → s.target = c.initial ∧ s.fraction = 0

theorem Good.pre {c : Cfg} {s : St} (g : Good c s) : Pre c s := ⟨g.frac_nonneg, g.coherent, g.disabled⟩

theorem recalc_good (c : Cfg) (s : St) (ht : 0 ≤ c.threshold) (g : Pre c s) :
    Good c (recalc c s) := by
  obtain ⟨h1, _, h3, _, _⟩ := decay_on_eval c s
  have hc : 0 ≤ (recalc c s).cost := h1 ▸ le_max_left 0 _
  refine ⟨hc, h3 ▸ hc, by rw [h3, Rat.sub_self, absQ_zero]; exact ht, ?_, fun h => ?_, fun h => ?_⟩
  · by_cases h : c.hard - c.soft ≤ 0
    · rw [(recalc_disabled c s h).1]; exact g.frac_nonneg
    · rw [(target_formula c s (Rat.not_le.1 h)).1]; exact fractionOf_nonneg _ _
  · have := target_formula c s h
    rw [this.2, this.1]; rfl
  · have := recalc_disabled c s h
    rw [this.1, this.2]; exact g.disabled h

theorem bump_good (c : Cfg) (s : St) (δ : Rat) (ht : 0 ≤ c.threshold) (g : Good c s) :
    Good c (bump c s δ) := by
  by_cases h : drifts c s δ
  · rw [bump_eval c s δ h]
    exact recalc_good c _ ht ⟨g.frac_nonneg, g.coherent, g.disabled⟩
  · rw [bump_quiet c s δ h]
    exact ⟨le_max_left 0 _, g.last_nonneg, Rat.not_lt.1 h, g.frac_nonneg, g.coherent, g.disabled⟩

theorem step_good (c : Cfg) (s : St) (op : Op) (ht : 0 ≤ c.threshold) (g : Good c s) :
    Good c (step c s op) := by
  rcases step_cases c s op with ⟨δ, _, e⟩ | ⟨_, e⟩ | ⟨_, e1, e2, e3, e4⟩
  · exact e ▸ bump_good c s δ ht g
  · exact e ▸ recalc_good c s ht g.pre
  · exact ⟨e1 ▸ g.cost_nonneg, e2 ▸ g.last_nonneg, e1 ▸ e2 ▸ g.drift, e3 ▸ g.frac_nonneg,
      fun h => e3 ▸ e4 ▸ g.coherent h, fun h => e3 ▸ e4 ▸ g.disabled h⟩

theorem run_good (c : Cfg) (ht : 0 ≤ c.threshold) (ops : List Op) :
    ∀ s, Good c s → Good c (run c s ops) := by
  induction ops with
  | nil => intro s g; exact g
  | cons op ops ih => intro s g; exact ih _ (step_good c s op ht g)

/-- a session as constructed by `SessionBase.__init__` (server: the class attributes; client: the
hard limit forced to 0), started at clock value `start`, after the history `ops` -/
def after (c : Cfg) (start : Rat) (ops : List Op) : St := run c (init c start) ops

/-- every charge and every evaluation ends with the cost clamped at 0, whatever the
configuration -/
theorem step_cost_nonneg (c : Cfg) (s : St) (op : Op) (h : 0 ≤ s.cost) : 0 ≤ (step c s op).cost := by
  rcases step_cases c s op with ⟨δ, _, e⟩ | ⟨_, e⟩ | ⟨_, e1, _⟩
  · rw [e]
    by_cases hd : drifts c s δ
    · rw [bump_eval c s δ hd, (decay_on_eval c _).1]; exact le_max_left 0 _
    · rw [bump_quiet c s δ hd]; exact le_max_left 0 _
  · rw [e, (decay_on_eval c s).1]; exact le_max_left 0 _
  · exact e1 ▸ h

/-- **The cost is never negative** — whatever the history: negative `bump_cost` deltas, clocks
running backwards, any configuration. -/
theorem cost_nonneg (c : Cfg) (start : Rat) (ops : List Op) : 0 ≤ (after c start ops).cost := by
  suffices h : ∀ s, 0 ≤ s.cost → 0 ≤ (run c s ops).cost from h _ Rat.le_refl
  induction ops with
  | nil => intro s h; exact h
  | cons op ops ih => intro s h; exact ih _ (step_cost_nonneg c s op h)

/-- **The lazily evaluated cost never runs away**: between evaluations the current cost stays
within the drift threshold of the cost at the last evaluation. -/
theorem drift_bounded (c : Cfg) (start : Rat) (ops : List Op) (ht : 0 ≤ c.threshold)
    (hi : 0 ≤ c.initial) :
    absQ ((after c start ops).cost - (after c start ops).last) ≤ c.threshold :=
  (run_good c ht ops _ (init_good c start ht hi)).drift

/-- **Monotone throttle**: a larger evaluated cost never gives a larger limit, and never a smaller
delay fraction. -/
theorem target_monotone (c : Cfg) (hr : 0 < c.hard - c.soft) (hi : 0 ≤ c.initial) {e1 e2 : Rat}
    (h : e1 ≤ e2) :
    targetOf c e2 ≤ targetOf c e1 ∧ fractionOf c e1 ≤ fractionOf c e2 :=
  ⟨targetOfFraction_anti c hi (fractionOf_mono c hr h), fractionOf_mono c hr h⟩

/-- **End points**: at or below the soft limit the limit is the initial one and there is no delay;
at or beyond the hard limit the limit is 0; strictly between, the limit is in `(0, initial]` and
the fraction is exactly the linear interpolation `(ev − soft)/(hard − soft) ∈ (0,1)`. -/
theorem target_endpoints (c : Cfg) (hr : 0 < c.hard - c.soft) (hi : 1 ≤ c.initial) (e : Rat) :
    (e ≤ c.soft → targetOf c e = c.initial ∧ fractionOf c e = 0) ∧
    (c.hard ≤ e → targetOf c e = 0) ∧
    (c.soft < e → e < c.hard →
      0 < targetOf c e ∧ targetOf c e ≤ c.initial ∧
      fractionOf c e = (e - c.soft) / (c.hard - c.soft) ∧ 0 < fractionOf c e ∧ fractionOf c e < 1) := by
  have hi0 : 0 ≤ c.initial := by omega
  refine ⟨?_, ?_, ?_⟩
  · intro h
    have := fractionOf_below c hr h
    exact ⟨by unfold targetOf; rw [this]; exact targetOfFraction_zero c hi0, this⟩
  · intro h
    exact targetOfFraction_ge_one c hi0 (fractionOf_above c hr h)
  · intro h1 h2
    obtain ⟨a, b, d⟩ := fractionOf_between c hr h1 h2
    exact ⟨targetOfFraction_lt_one c hi d, targetOfFraction_le_initial c hi0 (Rat.le_of_lt b), a, b, d⟩

theorem admission_refused (c : Cfg) {s : St} (h : s.target ≤ 0) : admission c s = .refused := if_pos h

/-- an admitted request sleeps `fraction · cost_sleep` (the code skips the sleep when that is 0) -/
theorem admission_run (c : Cfg) {s : St} (h : 0 < s.target) :
    admission c s = .run (s.fraction * c.sleepMax) := by
  rw [admission, if_neg (Int.not_le.2 h)]
  by_cases hz : s.fraction = 0
  · rw [if_pos hz, hz, Rat.zero_mul]
  · rw [if_neg hz]

/-- **Delay is proportional and bounded**, for every history: the limit and the fraction are
always those of the same evaluation (`coherent`), so a request that is admitted (limit > 0 at the
moment `_retarget_semaphore` tests it; no suspension point before `_cost_fraction` is read) sleeps
`fraction·cost_sleep` with `0 ≤ fraction < 1`: strictly less than the configured maximum. -/
theorem delay_proportional (c : Cfg) (start : Rat) (ops : List Op) (ht : 0 ≤ c.threshold)
    (hi : 0 ≤ c.initial) (hs : 0 < c.sleepMax) (hr : 0 < c.hard - c.soft)
    (hadm : 0 < (after c start ops).target) :
    ∃ d, admission c (after c start ops) = .run d ∧ 0 ≤ d ∧ d < c.sleepMax ∧
      d = (after c start ops).fraction * c.sleepMax := by
  have g : Good c (after c start ops) := run_good c ht ops _ (init_good c start ht hi)
  have hlt : (after c start ops).fraction < 1 :=
    fraction_lt_one_of_target_pos c hi (g.coherent hr ▸ hadm)
  have hd := Rat.mul_lt_mul_of_pos_right hlt hs
  rw [Rat.one_mul] at hd
  exact ⟨_, admission_run c hadm, Rat.mul_nonneg g.frac_nonneg (Rat.le_of_lt hs), hd, rfl⟩

/-- the history contains no evaluation: no explicit `recalc_concurrency()`, and no charge whose
drift passes the threshold (the clock and `extra_cost()` may change freely) -/
def noEval (c : Cfg) (s : St) : List Op → Prop
  | [] => True
  | .recalc :: _ => False
  | op :: ops =>
      (match charge c op with
       | some δ => ¬ drifts c s δ
       | none => True) ∧ noEval c (step c s op) ops

theorem step_noEval_frame (c : Cfg) (s : St) (op : Op) (ops : List Op) (h : noEval c s (op :: ops)) :
    (step c s op).target = s.target ∧ (step c s op).fraction = s.fraction ∧ noEval c (step c s op) ops := by
  have hb : ∀ δ, ¬ drifts c s δ → (bump c s δ).target = s.target ∧ (bump c s δ).fraction = s.fraction := by
    intro δ hd
    rw [bump_quiet c s δ hd]; exact ⟨rfl, rfl⟩
  cases op with
  | recalc => exact h.elim
  | bump _ | dataReceived _ | sent _ | error _ => exact ⟨(hb _ h.1).1, (hb _ h.1).2, h.2⟩
  | advance _ | setExtra _ => exact ⟨rfl, rfl, h.2⟩

theorem run_noEval_frame (c : Cfg) (ops : List Op) : ∀ (s : St), noEval c s ops →
    (run c s ops).target = s.target ∧ (run c s ops).fraction = s.fraction := by
  induction ops with
  | nil => intro s _; exact ⟨rfl, rfl⟩
  | cons op ops ih =>
    intro s h
    obtain ⟨h1, h2, h3⟩ := step_noEval_frame c s op ops h
    have := ih _ h3
    exact ⟨by rw [run, this.1, h1], by rw [run, this.2, h2]⟩

/-- **Refused past the hard limit**: an evaluation that finds `cost + extra ≥ hard` sets the limit
to 0, and it stays 0 over **every history without a further evaluation** (any traffic, errors,
bumps whose drift stays within the threshold, clock movements, `extra_cost` changes): every
request that obtains the permit from then on takes the refusal branch — hook, −101, close:
`facts_admit_table`; that it does obtain the permit and that no queued request is left behind is
`disconnect_reachable` (Compose.lean). -/
theorem refused_past_hard (c : Cfg) (s : St) (hr : 0 < c.hard - c.soft) (hi : 0 ≤ c.initial)
    (h : c.hard ≤ (recalc c s).cost + s.extra) :
    (recalc c s).target = 0 ∧ admission c (recalc c s) = .refused ∧
    (∀ ops, noEval c (recalc c s) ops →
       (run c (recalc c s) ops).target = 0 ∧ admission c (run c (recalc c s) ops) = .refused) := by
  have ht : (recalc c s).target = 0 := by
    rw [(target_formula c s hr).2]
    exact targetOfFraction_ge_one c hi (fractionOf_above c hr h)
  refine ⟨ht, admission_refused c (Int.le_of_eq ht), fun ops hno => ?_⟩
  have := (run_noEval_frame c ops _ hno).1.trans ht
  exact ⟨this, admission_refused c (Int.le_of_eq this)⟩

/-- **`hard ≤ soft` disables limiting**: for every history the limit stays the initial one, the
fraction stays 0, and every admitted request runs without delay. -/
theorem hard_le_soft_disables (c : Cfg) (start : Rat) (ops : List Op) (ht : 0 ≤ c.threshold)
    (hi : 1 ≤ c.initial) (h : c.hard ≤ c.soft) :
    (after c start ops).target = c.initial ∧ (after c start ops).fraction = 0 ∧
    admission c (after c start ops) = .run 0 := by
  have hi0 : 0 ≤ c.initial := Int.le_trans (by decide) hi
  have hd : (after c start ops).target = c.initial ∧ (after c start ops).fraction = 0 :=
    (run_good c ht ops _ (init_good c start ht hi0)).disabled (sub_nonpos h)
  refine ⟨hd.1, hd.2, ?_⟩
  rw [admission_run c (hd.1 ▸ hi), hd.2, Rat.zero_mul]

/-- **A client session is never throttled or refused** (`cost_hard_limit = 0` on clients), for
every history — provided the soft limit is not negative (a negative soft limit on a client would
make `hard − soft` positive; the shipped value is 2000). -/
theorem client_never_throttled (c : Cfg) (start : Rat) (ops : List Op) (ht : 0 ≤ c.threshold)
    (hi : 1 ≤ c.initial) (hs : 0 ≤ c.soft) :
    (after c.client start ops).target = c.initial ∧ (after c.client start ops).fraction = 0 ∧
    admission c.client (after c.client start ops) = .run 0 :=
  hard_le_soft_disables c.client start ops ht hi (by show (0 : Rat) ≤ c.soft; exact hs)

/-! ## tie to the source (facts regenerated from /repo on every run) -/

def shipped : Cfg :=
  ⟨Facts.C14.bwCostPerByte, Facts.C14.costSoftLimit, Facts.C14.costHardLimit,
   Facts.C14.costDecayPerSec, Facts.C14.costSleep, Facts.C14.errorBaseCost,
   Facts.C14.driftThreshold, Facts.C14.initialConcurrent⟩

/-- the shipped class attributes satisfy the side conditions of the theorems above: limiting is
enabled on servers (`hard > soft ≥ 0`), threshold and rates are non-negative, `initial ≥ 1`,
`cost_sleep > 0` -/
theorem facts_config :
    0 < shipped.hard - shipped.soft ∧ 0 ≤ shipped.soft ∧ 0 ≤ shipped.threshold ∧
    1 ≤ shipped.initial ∧ 0 < shipped.sleepMax ∧ 0 ≤ shipped.bw ∧ 0 ≤ shipped.decay ∧
    0 ≤ shipped.base ∧ shipped.client.hard - shipped.client.soft ≤ 0 ∧
    Facts.C14.clientHardLimit = shipped.client.hard := by
  decide +kernel

/-! ### behavioural tables (tools/facts/c14.py RUNS the current tree; nothing below depends on
how the methods are written) -/

open Table in
/-- read a configuration: bw soft hard decay sleep base (numerator, denominator each), init,
threshold (numerator, denominator) -/
def cfgOf : List Int → Option (Cfg × List Int)
  | bwn :: bwd :: sn :: sd :: hn :: hd :: dn :: dd :: sln :: sld :: bn :: bd :: ini :: tn :: td :: rest =>
      some (⟨ratOf bwn bwd, ratOf sn sd, ratOf hn hd, ratOf dn dd, ratOf sln sld, ratOf bn bd,
             ratOf tn td, ini⟩, rest)
  | _ => none

open Table in
/-- read `n` operations (kind, numerator, denominator): 0 bump_cost, 1 recalc_concurrency,
2 data_received(n bytes), 3 clock advance, 4 extra_cost := -/
def takeAcctOps : Nat → List Int → Option (List Op × List Int)
  | 0, l => some ([], l)
  | n + 1, k :: a :: b :: l =>
      let op : Op :=
        if k = 0 then .bump (ratOf a b) else if k = 1 then .recalc
        else if k = 2 then .dataReceived a.toNat else if k = 3 then .advance (ratOf a b)
        else .setExtra (ratOf a b)
      (takeAcctOps n l).map (fun r => (op :: r.1, r.2))
  | _ + 1, _ => none

open Table in
/-- the model reproduces the observed `cost` and `max_concurrent` after every event -/
def checkAcct (c : Cfg) : St → List Op → List Int → Bool
  | _, [], [] => true
  | s, op :: ops, cn :: cd :: t :: obs =>
      let s' := step c s op
      decide (s'.cost = ratOf cn cd) && decide (s'.target = t) && checkAcct c s' ops obs
  | _, _, _ => false

def acctRowOk (row : List Int) : Bool :=
  match cfgOf row with
  | some (c0, cl :: k :: rest) =>
      let c := if cl = 1 then c0.client else c0
      match takeAcctOps k.toNat rest with
      | some (ops, obs) => checkAcct c (init c 0) ops obs
      | none => false
  | _ => false

/-- **`bump_cost`, `recalc_concurrency`, `data_received`, the client override: the model computes
what the code computes** — on every history the facts extractor ran on a bare `SessionBase`
(every pair of events over a 10-letter alphabet around soft / hard / the drift threshold, and
longer seeded histories on server, client and hard ≤ soft configurations), exactly (all inputs
dyadic, soft ranges powers of two: every float operation of the code is exact). -/
theorem facts_acct_table :
    Facts.C14.acctTable.all acctRowOk = true ∧ 100 ≤ Facts.C14.acctTable.length := by
  decide +kernel

theorem facts_drift : Facts.C14.driftStrict = true ∧ Facts.C14.driftThreshold = shipped.threshold :=
  ⟨by decide, rfl⟩

open Table in
/-- class (0 RPCSession / 1 MessageSession), kind (0 good request or message, 1 failing request,
2 crashing handler, 3 failing notification, 4 garbage line, 5 invalid request object, 7 bad
checksum, 8 handler result that cannot be JSON-encoded: set / bytes / too deeply nested), bw, base, bytes in, bytes out (unframed), own cost, cost delta, errors delta -/
def chargeRowOk (row : List Int) : Bool :=
  match row with
  | [_cls, kind, bwn, bwd, bn, bd, nin, nout, on, od, dn, dd, derr] =>
      let c : Cfg := ⟨ratOf bwn bwd, 0, 0, 0, 0, ratOf bn bd, 0, 0⟩
      let isErr := decide (kind ≠ 0)
      let want := (charge c (.dataReceived nin.toNat)).getD 0 + (charge c (.sent nout.toNat)).getD 0 +
        (if isErr then (charge c (.error (ratOf on od))).getD 0 else 0)
      decide (ratOf dn dd = want) && decide (derr = if isErr then 1 else 0)
  | _ => false

/-- **Every message received or sent is charged at the per-byte rate, every failed request or
notification and every protocol violation the base error cost plus its own cost, and counted as
one error** — observed on live sessions of both classes (request + reply, failing request,
crashing handler, failing notification, garbage line, invalid request, bad checksum, a handler
result that cannot be encoded as JSON). -/
theorem facts_charge_table :
    Facts.C14.chargeTable.all chargeRowOk = true ∧ 36 ≤ Facts.C14.chargeTable.length := by
  decide +kernel

open Table in
/-- class, cfg, fraction of the soft range, refused?, started?, delay, hook calls, closing?,
reply code -/
def admitRowOk (row : List Int) : Bool :=
  match row with
  | cls :: rest =>
    match cfgOf rest with
    | some (c, [fn, fd, refused, started, dn, dd, hooks, closing, rcode]) =>
        let s := run c (init c 0) [.bump (c.soft + ratOf fn fd * (c.hard - c.soft)), .recalc]
        match admission c s with
        | .refused =>
            decide (refused = 1) && decide (started = 0) && decide (hooks = 1) && decide (closing = 1) &&
              decide (cls = 0 → rcode = Facts.C14.excessiveResourceUsage)
        | .run d =>
            decide (refused = 0) && decide (started = 1) && decide (ratOf dn dd = d) &&
              decide (hooks = 0) && decide (closing = 0)
    | _ => false
  | _ => false

/-- **Admission decision of both session classes** (`_throttled_request`, `_throttled_message`):
a request fed after an evaluation at fraction f of the soft range starts after exactly
`f · cost_sleep` virtual seconds when f < 1, and is refused when f ≥ 1 — handler not run,
disconnect hook called once, session closing, reply −101 on an RPC session. -/
theorem facts_admit_table :
    Facts.C14.admitTable.all admitRowOk = true ∧ 20 ≤ Facts.C14.admitTable.length ∧
    Facts.C14.excessiveResourceUsage = -101 := by
  decide +kernel

def demo : Cfg := ⟨1/1024, 200, 600, 1/2, 2, 100, 100, 4⟩

-- a history that throttles, decays and is finally refused
example : (after demo 0 [.error 150, .recalc]).target = 4 := by decide +kernel
example : (after demo 0 [.error 150, .error 150]).target = 1 ∧
          (after demo 0 [.error 150, .error 150]).fraction = 3/4 ∧
          (after demo 0 [.error 150, .error 150]).cost = 500 := by decide +kernel
example : admission demo (after demo 0 [.error 150, .error 150]) = .run (3/2) := by decide +kernel
example : admission demo (after demo 0 [.error 150, .error 150, .error 1]) = .refused := by
  decide +kernel
example : (after demo 0 [.error 150, .error 150, .advance 400, .recalc]).cost = 300 := by
  decide +kernel
example : (after demo 0 [.bump 50, .bump (-80)]).cost = 0 := by decide +kernel
-- `noEval` histories exist after a refusal-grade evaluation (traffic, a small bump, the clock)
example : noEval demo (recalc demo (after demo 0 [.bump 700]))
    [.dataReceived 1024, .bump 50, .advance 10, .setExtra 5, .error (-80)] := by
  simp only [noEval, charge, drifts, step]
  decide +kernel
-- hypotheses of `delay_proportional` / `refused_past_hard` are satisfiable
example : 0 < demo.hard - demo.soft ∧ 0 < (after demo 0 [.error 150, .error 150]).target := by
  decide +kernel
example : demo.hard ≤ (recalc demo (after demo 0 [.bump 700])).cost + (after demo 0 [.bump 700]).extra := by
  decide +kernel
-- a client with the same history is untouched
example : (after demo.client 0 [.error 150, .error 150, .error 1]).target = 4 := by decide +kernel

end Aiorpcx.C14
