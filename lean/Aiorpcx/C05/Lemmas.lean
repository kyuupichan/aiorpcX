import Aiorpcx.C05.Model
/-! The building blocks of the codec (C04's model) as the receive path sees them: which
exceptions they can raise and what their `ProtocolError`s carry. -/
namespace Aiorpcx.C05
open Aiorpcx.Py Aiorpcx.C04

/-- the guards are sufficient for the theorems: every way `json.loads(message.decode())` can
raise is turned into a `ProtocolError`; `TypeError` is caught around the id look-up and around
`sorted`; the connection, the session and the loop over a request batch catch `ProtocolError`;
and both response paths look at `future.done()` before resolving a future -/
def adequate (g : Guards) : Bool :=
  [LoadsOutcome.unicodeError, .jsonDecodeError, .recursionError, .intDigitsValueError].all
    (fun o => match o.exc? with
      | some e => e.caughtBy g.payload.clause1 || e.caughtBy g.payload.clause2
      | none => true)
  && PyExc.typeError.caughtBy g.lookup
  && PyExc.typeError.caughtBy g.sort
  && PyExc.protocolError.caughtBy g.recv
  && PyExc.protocolError.caughtBy g.loop
  && PyExc.protocolError.caughtBy g.member
  && g.doneSingle
  && g.doneBatch

/-- is a raised `e` turned into a `ProtocolError` by `_message_to_payload`? -/
def parseCaught (g : PayloadGuards) (e : PyExc) : Bool :=
  e.caughtBy g.clause1 || e.caughtBy g.clause2

theorem adequate_iff (g : Guards) : adequate g = true ↔
    (∀ (o : LoadsOutcome) (e : PyExc), o.exc? = some e → parseCaught g.payload e = true)
    ∧ PyExc.typeError.caughtBy g.lookup = true
    ∧ PyExc.typeError.caughtBy g.sort = true
    ∧ PyExc.protocolError.caughtBy g.recv = true
    ∧ PyExc.protocolError.caughtBy g.loop = true
    ∧ PyExc.protocolError.caughtBy g.member = true
    ∧ g.doneSingle = true
    ∧ g.doneBatch = true := by
  simp only [adequate, Bool.and_eq_true, List.all_cons, List.all_nil, Bool.and_true,
    LoadsOutcome.exc?]
  constructor
  · rintro ⟨⟨⟨⟨⟨⟨⟨⟨h1, h2, h3, h4⟩, b⟩, c⟩, d⟩, e⟩, f⟩, h⟩, i⟩
    refine ⟨fun o e ho => ?_, b, c, d, e, f, h, i⟩
    cases o <;> cases ho <;> assumption
  · rintro ⟨a, b, c, d, e, f, h, i⟩
    exact ⟨⟨⟨⟨⟨⟨⟨⟨a .unicodeError _ rfl, a .jsonDecodeError _ rfl, a .recursionError _ rfl,
      a .intDigitsValueError _ rfl⟩, b⟩, c⟩, d⟩, e⟩, f⟩, h⟩, i⟩

def NoPy {α : Type} (r : R α) : Prop := ∀ e, r ≠ .error (.py e)

theorem NoPy.ok {α : Type} (a : α) : NoPy (Except.ok a : R α) := by intro e h; cases h
theorem NoPy.proto {α : Type} (e : PErr) : NoPy (Except.error (.proto e) : R α) := by
  intro e' h; cases h

theorem NoPy.error {α : Type} {r : R α} {e : Exc} (h : NoPy r) (he : r = .error e) :
    ∃ pe, e = .proto pe := by
  cases e with
  | proto pe => exact ⟨pe, rfl⟩
  | py x => exact absurd he (h x)

/-- `| .error e => .error e`: re-raising what a `NoPy` computation raised -/
theorem NoPy.reraise {α β : Type} {r : R α} {e : Exc} (h : NoPy r) (he : r = .error e) :
    NoPy (.error e : R β) := by
  obtain ⟨pe, rfl⟩ := h.error he
  exact NoPy.proto pe

/-- `_message_to_payload`: a value that `json.loads` returned gets through; a failure of
`json.loads` is turned into a parse error (with reply, under `null`) if one of the two `except`
clauses catches it, and escapes otherwise -/
theorem messageToPayload_cases (g : PayloadGuards) (P : Proto) (o : LoadsOutcome) :
    (∃ v, o = .value v ∧ messageToPayload g P o = .ok v)
    ∨ (∃ e msg, o.exc? = some e ∧ messageToPayload g P o =
        if parseCaught g e then .error (.proto (mkError P PARSE_ERROR msg true .null))
        else .error (.py e)) := by
  fun_cases messageToPayload g P o
  · exact Or.inl ⟨_, rfl, rfl⟩
  · rename_i hv he
    cases o <;> first | exact (hv _ rfl).elim | cases he
  · rename_i e h1 _ he
    exact Or.inr ⟨e, _, he, (if_pos (by simp only [parseCaught, h1, Bool.true_or])).symm⟩
  · rename_i e h1 h2 _ he
    exact Or.inr ⟨e, _, he, (if_pos (by simp only [parseCaught, h2, Bool.or_true])).symm⟩
  · rename_i e h1 h2 _ he
    exact Or.inr ⟨e, [], he, (if_neg (by
      simp only [parseCaught, h1, h2, Bool.or_self, Bool.false_eq_true, not_false_eq_true])).symm⟩

/-- the id an error reply to the payload `p` may carry: `null`, or `p`'s own `id` member -/
def IdOf (p : J) (rid : J) : Prop :=
  rid = .null ∨ ∃ kvs, p = .obj kvs ∧ J.lookup kId kvs = some rid

theorem v1MessageId_ok {p rid : J} (h : v1MessageId p = .ok rid) :
    ∃ kvs, p = .obj kvs ∧ J.lookup kId kvs = some rid := by
  revert h
  fun_cases v1MessageId p <;> intro h <;> cases h
  rename_i kvs hl
  exact ⟨kvs, rfl, hl⟩

/-- `JSONRPCv2._message_id` accepts dicts only; it returns their `id` member, a number, a string
or `None` (or `None` where a missing id is allowed) -/
theorem v2MessageId_ok {p rid : J} {req : Bool} (h : v2MessageId p req = .ok rid) :
    rid.hashable = true ∧ ∃ kvs, p = .obj kvs ∧ (rid = .null ∨ J.lookup kId kvs = some rid) := by
  revert h
  fun_cases v2MessageId p req <;> intro h <;> cases h
  · rename_i kvs hl hc
    refine ⟨?_, kvs, rfl, Or.inr hl⟩
    cases rid <;> first | rfl | exact absurd rfl hc
  · rename_i kvs _ _
    exact ⟨rfl, kvs, rfl, Or.inl rfl⟩

theorem messageId_ok {P : Proto} {p rid : J} {req : Bool} (h : messageId P p req = .ok rid) :
    ∃ kvs, p = .obj kvs ∧ IdOf p rid := by
  cases P with
  | v1 =>
    obtain ⟨kvs, rfl, hl⟩ := v1MessageId_ok h
    exact ⟨kvs, rfl, Or.inr ⟨kvs, rfl, hl⟩⟩
  | v2 | loose | auto =>
    obtain ⟨_, kvs, rfl, hl⟩ := v2MessageId_ok h
    exact ⟨kvs, rfl, hl.imp id fun hl => ⟨kvs, rfl, hl⟩⟩

theorem messageId_noPy (P : Proto) (p : J) (req : Bool) (h : P ≠ .v1 ∨ p.isDict = true) :
    NoPy (messageId P p req) := by
  cases P with
  | v1 =>
    rcases h with h | h
    · exact absurd rfl h
    · cases p <;> cases h
      simp only [messageId, v1MessageId]
      split <;> first | exact NoPy.proto _ | exact NoPy.ok _
  | v2 | loose | auto =>
    show NoPy (v2MessageId p req)
    fun_cases v2MessageId p req <;> first | exact NoPy.proto _ | exact NoPy.ok _

theorem validateMessage_noPy (P : Proto) (kvs : List (Str × J)) : NoPy (validateMessage P kvs) := by
  fun_cases validateMessage P kvs <;> first | exact NoPy.proto _ | exact NoPy.ok _

theorem requestArgs_noPy (P : Proto) (kvs : List (Str × J)) : NoPy (requestArgs P kvs) := by
  fun_cases requestArgs P kvs <;> first | exact NoPy.proto _ | exact NoPy.ok _

theorem singleRequest_noPy (m a : J) : NoPy (singleRequest m a) := by
  fun_cases singleRequest m a <;> first | exact NoPy.proto _ | exact NoPy.ok _

theorem responseValue_noPy (P : Proto) (kvs : List (Str × J)) : NoPy (responseValue P kvs) := by
  fun_cases responseValue P kvs <;> first | exact NoPy.proto _ | exact NoPy.ok _

theorem processRequestBody_noPy (P : Proto) (kvs : List (Str × J)) (rid : J) :
    NoPy (processRequestBody P (.obj kvs) rid) := by
  fun_cases processRequestBody P (.obj kvs) rid
  · rename_i h; cases h
  · exact (validateMessage_noPy P _).reraise ‹_›
  · exact (requestArgs_noPy P _).reraise ‹_›
  · exact (singleRequest_noPy _ _).reraise ‹_›
  · exact NoPy.ok _

theorem processRequestBody_ok {P : Proto} {p rid : J} {item : Item}
    (h : processRequestBody P p rid = .ok item) :
    ∃ m a, item = if rid.isNone then .notification m a else .request m a := by
  revert h
  fun_cases processRequestBody P p rid <;> intro h <;> cases h
  exact ⟨_, _, rfl⟩

/-- `_process_request`: a request or notification under its id, or a `ProtocolError` built by
`_error(.., send=True, id)` — it carries a single error reply whose id is `None` or the
payload's `id` member, and it is not marked as a response -/
theorem processRequest_cases (P : Proto) (p : J) (h : P ≠ .v1 ∨ p.isDict = true) :
    (∃ m a rid, processRequest P p =
        .ok (if rid.isNone then .notification m a else .request m a, rid)) ∨
    (∃ code msg rid, IdOf p rid ∧
      processRequest P p = .error (.proto (mkError P code msg true rid))) := by
  fun_cases processRequest P p
  · exact Or.inr ⟨_, _, _, Or.inl rfl, rfl⟩
  · rename_i hne hm
    obtain ⟨pe, rfl⟩ := (messageId_noPy P p false h).error hm
    exact (hne pe rfl).elim
  · rename_i hm _ _
    obtain ⟨_, _, hid⟩ := messageId_ok hm
    exact Or.inr ⟨_, _, _, hid, rfl⟩
  · rename_i hm _ hne hb
    obtain ⟨kvs, rfl, _⟩ := messageId_ok hm
    obtain ⟨pe, rfl⟩ := (processRequestBody_noPy P kvs _).error hb
    exact (hne pe rfl).elim
  · rename_i hm _ hb
    obtain ⟨m, a, rfl⟩ := processRequestBody_ok hb
    exact Or.inl ⟨m, a, _, rfl⟩

/-- `_process_response`: a `Response` under its id, or a `ProtocolError` built by
`_error(.., send=False, id)` — no reply, marked with the response id -/
theorem processResponse_cases (P : Proto) (p : J) (h : P ≠ .v1 ∨ p.isDict = true) :
    (∃ v rid, processResponse P p = .ok (.response v, rid)) ∨
    (∃ code msg rid, processResponse P p = .error (.proto (mkError P code msg false rid))) := by
  fun_cases processResponse P p
  · exact Or.inr ⟨_, _, _, rfl⟩
  · rename_i hne hm
    obtain ⟨pe, rfl⟩ := (messageId_noPy P p true h).error hm
    exact (hne pe rfl).elim
  · exact Or.inr ⟨_, _, _, rfl⟩
  · rename_i hm body _ hne hb
    obtain ⟨kvs, rfl, _⟩ := messageId_ok hm
    have : NoPy body := by
      show NoPy (match validateMessage P kvs with
        | .error e => .error e
        | .ok () => responseValue P kvs)
      split
      · exact (validateMessage_noPy P kvs).reraise ‹_›
      · exact responseValue_noPy P kvs
    obtain ⟨pe, rfl⟩ := this.error hb
    exact (hne pe rfl).elim
  · exact Or.inl ⟨_, _, rfl⟩

theorem processResponse_id_hashable (P : Proto) (hP : P ≠ .v1) (p : J) (v : Item) (rid : J)
    (h : processResponse P p = .ok (v, rid)) : rid.hashable = true := by
  have hmid : messageId P p true = v2MessageId p true := by
    cases P <;> first | rfl | exact absurd rfl hP
  revert h
  fun_cases processResponse P p <;> intro h <;> cases h
  rename_i hm
  exact (v2MessageId_ok (hmid ▸ hm)).1

/-- everything the decoder proper can make of a payload: a request or notification; a `Response`
(of an object without `method`); the members of a batch (a non-empty array, protocol with
batches); a `ProtocolError` with a reply under the payload's own id or null; or (an object
without `method` again) one without reply, marked with the response id -/
theorem payloadToItem_cases (P : Proto) (p : J) :
    (∃ m a rid, payloadToItem P p =
        .ok (if rid.isNone then .notification m a else .request m a, rid))
    ∨ (∃ v rid kvs, p = .obj kvs ∧ J.hasKey kMethod kvs = false
        ∧ payloadToItem P p = .ok (.response v, rid))
    ∨ (∃ ps, p = .arr ps ∧ ps ≠ [] ∧ P ≠ .v1 ∧ payloadToItem P p = .ok (.batch ps, .null))
    ∨ (∃ code msg rid, IdOf p rid
        ∧ payloadToItem P p = .error (.proto (mkError P code msg true rid)))
    ∨ (∃ code msg rid kvs, p = .obj kvs ∧ J.hasKey kMethod kvs = false
        ∧ payloadToItem P p = .error (.proto (mkError P code msg false rid))) := by
  generalize hr : payloadToItem P p = r
  have refused : ∀ {msg}, r = .error (.proto (mkError P INVALID_REQUEST msg true .null)) →
      ∃ code msg rid, IdOf p rid ∧ r = .error (.proto (mkError P code msg true rid)) :=
    fun h => ⟨_, _, _, Or.inl rfl, h⟩
  cases p with
  | obj kvs =>
    simp only [payloadToItem] at hr
    split at hr
    · rcases processRequest_cases P (.obj kvs) (Or.inr rfl) with
        ⟨m, a, rid, h⟩ | ⟨code, msg, rid, hid, h⟩
      · exact Or.inl ⟨m, a, rid, hr.symm.trans h⟩
      · exact Or.inr (Or.inr (Or.inr (Or.inl ⟨code, msg, rid, hid, hr.symm.trans h⟩)))
    · rename_i hm
      have hm : J.hasKey kMethod kvs = false := by simpa using hm
      rcases processResponse_cases P (.obj kvs) (Or.inr rfl) with ⟨v, rid, h⟩ | ⟨code, msg, rid, h⟩
      · exact Or.inr (Or.inl ⟨v, rid, kvs, rfl, hm, hr.symm.trans h⟩)
      · exact Or.inr (Or.inr (Or.inr (Or.inr ⟨code, msg, rid, kvs, rfl, hm, hr.symm.trans h⟩)))
  | arr xs =>
    simp only [payloadToItem] at hr
    split at hr
    · rename_i hb
      split at hr
      · exact Or.inr (Or.inr (Or.inr (Or.inl (refused hr.symm))))
      · rename_i hne
        exact Or.inr (Or.inr (Or.inl ⟨xs, rfl, fun hn => hne (by rw [hn]; rfl),
          fun hv => (by rw [hv] at hb; cases hb), hr.symm⟩))
    · exact Or.inr (Or.inr (Or.inr (Or.inl (refused hr.symm))))
  | _ => exact Or.inr (Or.inr (Or.inr (Or.inl (refused hr.symm))))

end Aiorpcx.C05
