import Aiorpcx.C05.Props
import Aiorpcx.C05.Probe
import Aiorpcx.C05.Grid
import Aiorpcx.Facts.C05
/-!
# C05 — the tie to the current source tree

`Facts.C05.probeTable` / `Facts.C05.loopTable` are what the real code of /repo did, on this
run, on every probe of the grid of `Probe.lean` (tools/facts/c05.py runs it; no syntax is read).
`Facts.C05.guards = deriveGuards probeTable loopTable` are the guards the model is run with.
-/
namespace Aiorpcx.C05
open Aiorpcx.Py Aiorpcx.C04

/-- every row of the public part of the grid was observed -/
theorem facts_probe_table_complete : complete Facts.C05.probeTable = true := by decide +kernel

/-- the guards read off the tables of the current tree, spelled out.  Evaluating `deriveGuards`
walks the probe table a dozen times: the theorems about `Facts.C05.guards` go through this
equation, so the walk is made here only. -/
theorem facts_guards_eq : Facts.C05.guards =
    { payload := ⟨[.unicodeDecodeError], [.jsonDecodeError, .recursionError, .valueError]⟩,
      lookup := [.typeError], sort := [.typeError], recv := [.protocolError],
      loop := [.protocolError], member := [.protocolError] } := by decide +kernel

/-- **the proof obligation on the current source tree**: read off the observed behaviour, every
exception the receive path can meet is turned into a `ProtocolError` where the theorems need it,
and a future that is already done is never resolved again -/
theorem facts_guards_adequate : adequate Facts.C05.guards = true := by
  rw [facts_guards_eq]; decide +kernel

/-- **the model reproduces the decision table**: run with the derived guards, the model ends
every probe — public and direct, every protocol, every state — the way the real code did, and
leaves as many requests pending -/
theorem facts_probe_table_reproduced :
    Facts.C05.probeTable.all (Row.reproducedBy Facts.C05.guards) = true := by
  rw [facts_guards_eq]; decide +kernel

/-- `loopQuiet` with its tests nested instead of conjoined.  As written, `loopQuiet` walks the
whole table once per error kind, logging mode and width; in this form the walks over the whole
table are four (the kernel evaluates each of the inner `filter`s once). -/
theorem loopQuiet_eq (lt : List LoopRow) : loopQuiet lt =
    (lt.all (fun r => r.ended != .wedged)
    && errorKinds.all fun k => [true, false].all fun v =>
        ((((lt.filter fun r => r.width > 1 && r.start == 99).filter (·.verbose == v)).filter
          (·.kind == k)).any fun _ => true)
        && [2, 3, 4].all fun w =>
            ((((lt.filter fun r => r.width == w && r.run > 270).filter (·.verbose == v)).filter
              (·.kind == k)).length ≥ w)) := by
  simp only [loopQuiet, List.any_filter, List.filter_filter, Bool.and_assoc, Bool.and_true]

/-- no session of the grid — long messages of every error kind with 1- to 4-byte characters
straddling the plausible cut points, logging at its defaults and fully on — was left open but
not listening: the measured part of the hypothesis `Env.quiet` of `session_serving_or_closed` -/
theorem facts_loop_table_quiet : loopQuiet Facts.C05.loopTable = true := by
  rw [loopQuiet_eq]; decide +kernel

/-- … and the model's loop, with quiet bookkeeping, ends each of them the way the session did -/
theorem facts_loop_table_reproduced :
    Facts.C05.loopTable.all (LoopRow.reproducedBy Facts.C05.guards) = true := by
  rw [facts_guards_eq]; decide +kernel

/-- **whatever explains the observations is adequate**: the observed tables contain the key
probes with the outcomes of a correct tree, hence *any* guards under which the model reproduces
them are adequate (`explains_adequate`) — the derivation `deriveGuards` is a convenience, not
part of the argument -/
theorem facts_pin_adequacy (g : Guards)
    (h : Facts.C05.probeTable.all (Row.reproducedBy g) = true)
    (hl : Facts.C05.loopTable.all (LoopRow.reproducedBy g) = true) : adequate g = true :=
  explains_adequate Facts.C05.probeTable Facts.C05.loopTable g (by decide +kernel) (by decide +kernel) h hl

/-- the theorems, instantiated with the guards of the current tree -/
theorem only_protocol_error_current (c : Conn) (o : LoadsOutcome) :
    (∃ r, (receiveMessage Facts.C05.guards c o).2 = .ok r)
    ∨ (∃ e, (receiveMessage Facts.C05.guards c o).2 = .error (.proto e)) :=
  only_protocol_error _ facts_guards_adequate c o

theorem session_serving_or_closed_current (c : Conn) (msgs : List (LoadsOutcome × Env))
    (hq : ∀ m ∈ msgs, m.2.quiet = true) :
    (runLoop Facts.C05.guards { conn := c, phase := .receiving } msgs).phase = .receiving ∨
    (runLoop Facts.C05.guards { conn := c, phase := .receiving } msgs).phase = .closed :=
  session_serving_or_closed _ facts_guards_adequate c msgs hq

end Aiorpcx.C05
