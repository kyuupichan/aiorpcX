import Aiorpcx.C05.Lemmas
/-! `receive_message` and its helpers: equations that say what each of them does in terms of
the entry a response names, and what the batch helpers return and raise. -/
namespace Aiorpcx.C05
open Aiorpcx.Py Aiorpcx.C04

theorem pySorted_cases {α : Type} (key : α → J) (xs : List α) :
    pySorted key xs = .error .typeError ∨ ∃ ys, pySorted key xs = .ok ys ∧ ys.Perm xs := by
  generalize hr : pySorted key xs = r
  unfold pySorted at hr
  repeat' split at hr
  · exact Or.inr ⟨xs, hr.symm, .refl _⟩
  · exact Or.inr ⟨_, hr.symm, List.mergeSort_perm xs _⟩
  · exact Or.inl hr.symm

theorem pySorted_length {α : Type} (key : α → J) (xs ys : List α) (h : pySorted key xs = .ok ys) :
    ys.length = xs.length := by
  rcases pySorted_cases key xs with h' | ⟨_, h', hp⟩ <;> rw [h'] at h <;> cases h
  exact hp.length_eq

/-- `request_id in self._requests`, for a hashable id: some listed single entry has an equal key -/
theorem any_singleKeys (rid : J) : ∀ out : List Entry,
    (singleKeys out).any (pyEq rid) = (findSingle rid out).isSome
  | [] => rfl
  | en :: r => by
      unfold findSingle singleKeys
      rw [List.filterMap_cons]
      cases en.key with
      | single i =>
        simp only [List.any_cons]
        cases pyEq rid i
        · exact any_singleKeys rid r
        · rfl
      | batch ks => exact any_singleKeys rid r

theorem findSingle_mem (rid : J) : ∀ (out : List Entry) (en : Entry),
    findSingle rid out = some en → en ∈ out
  | a :: r, en, h => by
      unfold findSingle at h
      split at h
      · split at h
        · cases h; exact List.mem_cons_self
        · exact List.mem_cons_of_mem _ (findSingle_mem rid r en h)
      · exact List.mem_cons_of_mem _ (findSingle_mem rid r en h)

theorem resolve_guarded (c' : Conn) (en : Entry) (v : Completion) :
    resolve true c' en v =
      (c', .ok (if en.fut = .pending then { completed := some (en.key, v) }
                else { discarded := some en.key })) := by
  unfold resolve
  cases en.fut <;> rfl

/-- `_receive_response` in terms of the entry the id names: a `bool` names none, an unhashable
id raises in the look-up, an unknown id is refused, and the entry of a known id is popped and
its future resolved -/
theorem receiveResponse_eq (g : Guards) (c : Conn) (v : RespVal) (rid : J) :
    receiveResponse g c v rid =
      if rid.isBool then (c, .error (unsent "response to unsent request"))
      else if rid.hashable then
        match findSingle rid c.out with
        | none => (c, .error (unsent "response to unsent request"))
        | some en => resolve g.doneSingle { c with out := popSingle rid c.out } en (.single v)
      else
        (c, .error (if PyExc.typeError.caughtBy g.lookup then
          unsent "response to unsent request" else .py .typeError)) := by
  unfold receiveResponse pyIn
  cases rid.isBool
  · cases rid.hashable
    · simp only [Bool.false_eq_true, if_false]
      cases PyExc.typeError.caughtBy g.lookup <;> rfl
    · simp only [Bool.false_eq_true, if_false, if_true, any_singleKeys]
      cases findSingle rid c.out <;> rfl
  · rfl

theorem processResponses_cases (P : Proto) (hP : P ≠ .v1) (ps : List J) :
    (∃ pairs, processResponses P ps = .ok pairs ∧ ∀ pr ∈ pairs, pr.1.hashable = true)
    ∨ (∃ code msg rid, processResponses P ps = .error (.proto (mkError P code msg false rid))) := by
  induction ps with
  | nil => exact Or.inl ⟨[], rfl, nofun⟩
  | cons p ps ih =>
    generalize hr : processResponses P (p :: ps) = r
    unfold processResponses at hr
    rcases processResponse_cases P p (Or.inl hP) with ⟨v, rid, h⟩ | ⟨code, msg, rid, h⟩ <;> rw [h] at hr
    · rcases ih with ⟨pairs, h2, h4⟩ | ⟨code, msg, rid', h2⟩ <;> rw [h2] at hr
      · refine Or.inl ⟨_, hr.symm, fun pr hpr => ?_⟩
        rcases List.mem_cons.1 hpr with rfl | hpr
        · exact processResponse_id_hashable P hP p _ rid h
        · exact h4 pr hpr
      · exact Or.inr ⟨_, _, _, hr.symm⟩
    · exact Or.inr ⟨_, _, _, hr.symm⟩

theorem findBatch_mem (ids : List J) : ∀ (out : List Entry) (en : Entry),
    findBatch ids out = some en → en ∈ out
  | a :: r, en, h => by
      unfold findBatch at h
      split at h
      · split at h
        · cases h; exact List.mem_cons_self
        · exact List.mem_cons_of_mem _ (findBatch_mem ids r en h)
      · exact List.mem_cons_of_mem _ (findBatch_mem ids r en h)

/-- `_receive_response_batch` on a connection whose protocol has batches: the entry the sorted
ids name is popped and its future resolved if still pending; or the batch is refused with a
`ProtocolError` that carries no reply -/
theorem receiveResponseBatch_cases (g : Guards) (hg : adequate g = true) (c : Conn)
    (hP : c.proto ≠ .v1) (ps : List J) :
    (∃ en vs ids, en ∈ c.out ∧ findBatch ids c.out = some en ∧
        receiveResponseBatch g c ps =
          ({ c with out := popBatch ids c.out },
           .ok (if en.fut = .pending then { completed := some (en.key, .batch vs) }
                else { discarded := some en.key })))
    ∨ (∃ e, receiveResponseBatch g c ps = (c, .error (.proto e)) ∧ e.errorMessage = none) := by
  obtain ⟨-, -, hs, -, -, -, -, hd⟩ := (adequate_iff g).1 hg
  generalize hr : receiveResponseBatch g c ps = r
  unfold receiveResponseBatch at hr
  rcases processResponses_cases c.proto hP ps with ⟨pairs, h1, h3⟩ | ⟨code, msg, rid, h1⟩
  · rw [h1] at hr
    simp only at hr
    rcases pySorted_cases (fun t : J × RespVal => t.1) pairs with hso | ⟨ordered, hso, hperm⟩
    · simp only [hso, hs, if_true] at hr
      exact Or.inr ⟨_, hr.symm, rfl⟩
    · have hall : (ordered.map (·.1)).all J.hashable = true := by
        rw [List.all_map, List.all_eq_true]
        exact fun pr hpr => h3 pr (hperm.mem_iff.1 hpr)
      simp only [hso, hall, Bool.not_true, Bool.false_eq_true, if_false] at hr
      cases hf : findBatch (ordered.map (·.1)) c.out with
      | none => rw [hf] at hr; exact Or.inr ⟨_, hr.symm, rfl⟩
      | some en =>
        simp only [hf, hd, resolve_guarded] at hr
        exact Or.inl ⟨en, _, _, findBatch_mem _ _ _ hf, hf, hr.symm⟩
  · rw [h1] at hr
    exact Or.inr ⟨_, hr.symm, rfl⟩

/-- an error reply built by `_error(code, message, True, id)` in the connection's format -/
def IsErrorReply (P : Proto) (reply : J) : Prop :=
  ∃ (code : Int) (msg : Str) (rid : J), reply = errorPayload P (.int code) (.str msg) rid

/-- … whose id is `null` or the `id` member of the payload `p` it answers -/
def IsErrorReplyTo (P : Proto) (p : J) (reply : J) : Prop :=
  ∃ (code : Int) (msg : Str) (rid : J), IdOf p rid ∧ reply = errorPayload P (.int code) (.str msg) rid

theorem IsErrorReplyTo.isErrorReply {P : Proto} {p reply : J} (h : IsErrorReplyTo P p reply) :
    IsErrorReply P reply := by
  obtain ⟨code, msg, rid, _, h⟩ := h; exact ⟨code, msg, rid, h⟩

theorem processMember_cases (g : Guards) (hg : adequate g = true) (P : Proto) (hP : P ≠ .v1) (p : J) :
    (∃ x, processMember g P p = .ok (.inl x))
    ∨ (∃ reply, processMember g P p = .ok (.inr reply) ∧ IsErrorReplyTo P p reply) := by
  obtain ⟨-, -, -, -, -, hm, -⟩ := (adequate_iff g).1 hg
  unfold processMember
  rcases processRequest_cases P p (Or.inl hP) with ⟨m, a, rid, h⟩ | ⟨code, msg, rid, hid, h⟩
  · rw [h]; exact Or.inl ⟨_, rfl⟩
  · rw [h]
    simp only [Exc.cls, hm, if_true, mkError]
    exact Or.inr ⟨_, rfl, code, msg, rid, hid, rfl⟩

theorem processRequests_cases (g : Guards) (hg : adequate g = true) (P : Proto) (hP : P ≠ .v1)
    (ps : List J) : ∃ items parts, processRequests g P ps = .ok (items, parts)
      ∧ ∀ r ∈ parts, ∃ p ∈ ps, IsErrorReplyTo P p r := by
  induction ps with
  | nil => exact ⟨[], [], rfl, nofun⟩
  | cons p ps ih =>
    obtain ⟨items, parts, h1, h2⟩ := ih
    have up : ∀ {r}, (∃ p' ∈ ps, IsErrorReplyTo P p' r) → ∃ p' ∈ p :: ps, IsErrorReplyTo P p' r :=
      fun ⟨p', hp', hq⟩ => ⟨p', List.mem_cons_of_mem _ hp', hq⟩
    unfold processRequests
    rcases processMember_cases g hg P hP p with ⟨x, hx⟩ | ⟨reply, hr, hr'⟩
    · rw [hx, h1]
      exact ⟨x :: items, parts, rfl, fun r hr => up (h2 r hr)⟩
    · rw [hr, h1]
      refine ⟨items, reply :: parts, rfl, fun r hr2 => ?_⟩
      rcases List.mem_cons.1 hr2 with rfl | hr2
      · exact ⟨p, List.mem_cons_self, hr'⟩
      · exact up (h2 r hr2)

/-- `_receive_request_batch`: the valid members as items, or (no valid member at all) one
`ProtocolError` carrying the batch of the members' error replies, each under its member's id
or null -/
theorem receiveRequestBatch_cases (g : Guards) (hg : adequate g = true) (c : Conn)
    (hP : c.proto ≠ .v1) (ps : List J) :
    (∃ items, receiveRequestBatch g c ps = (c, .ok { items := items }))
    ∨ (∃ parts, parts ≠ [] ∧ (∀ r ∈ parts, ∃ p ∈ ps, IsErrorReplyTo c.proto p r) ∧
        receiveRequestBatch g c ps =
          (c, .error (.proto { code := 0, msg := [], errorMessage := some (.batch parts) }))) := by
  obtain ⟨items, parts, h1, h2⟩ := processRequests_cases g hg c.proto hP ps
  unfold receiveRequestBatch
  rw [h1]
  simp only
  split
  · rename_i hc
    simp only [Bool.and_eq_true, Bool.not_eq_true', List.isEmpty_eq_false_iff] at hc
    exact Or.inr ⟨parts, hc.2, h2, rfl⟩
  · exact Or.inl ⟨items, rfl⟩

/-- `receive_message` once the protocol is fixed: what becomes of the item (or the error)
`message_to_item` made of the bytes -/
def dispatch (g : Guards) (c : Conn) (r : R (Item × J)) : Conn × R Recv :=
  match r with
  | .error e =>
      if e.cls.caughtBy g.recv then
        match e with
        | .proto pe =>
            match pe.responseMsgId with
            | some rid => receiveResponse g c (.protoError pe.code pe.msg) rid
            | none => (c, .error e)
        | .py _ => (c, .error (.py .attributeError))
      else (c, .error e)
  | .ok (.request m a, rid) => (c, .ok { items := [(.request m a, rid)] })
  | .ok (.notification m a, rid) => (c, .ok { items := [(.notification m a, rid)] })
  | .ok (.response v, rid) => receiveResponse g c v rid
  | .ok (.batch payloads, _) =>
      if payloads.all responseShapedMember then receiveResponseBatch g c payloads
      else receiveRequestBatch g c payloads

/-- `receive_message` is the one-shot protocol switch followed by `dispatch` -/
theorem receiveMessage_eq (g : Guards) (c : Conn) (o : LoadsOutcome) :
    receiveMessage g c o =
      if c.proto = .auto then
        match messageToPayload g.payload .auto o with
        | .error e => (c, .error e)
        | .ok main =>
            dispatch g { c with proto := detectProtocol main }
              (messageToItem g.payload (detectProtocol main) o)
      else dispatch g c (messageToItem g.payload c.proto o) := by
  unfold receiveMessage
  split
  · cases messageToPayload g.payload .auto o <;> rfl
  · rfl

theorem receiveMessage_value (g : Guards) (c : Conn) (p : J) (hna : c.proto ≠ .auto) :
    receiveMessage g c (.value p) = dispatch g c (payloadToItem c.proto p) := by
  rw [receiveMessage_eq, if_neg hna]; rfl

theorem dispatch_response (g : Guards) (c : Conn) (v : RespVal) (rid : J) :
    dispatch g c (.ok (.response v, rid)) = receiveResponse g c v rid := rfl

theorem dispatch_batch (g : Guards) (c : Conn) (ps : List J) (rid : J) :
    dispatch g c (.ok (.batch ps, rid)) =
      if ps.all responseShapedMember then receiveResponseBatch g c ps
      else receiveRequestBatch g c ps := rfl

/-- an exception that is not a `ProtocolError`: let through, unless the `except` of
`receive_message` catches it, and then its handler fails on `e.response_msg_id` -/
theorem dispatch_py (g : Guards) (c : Conn) (x : PyExc) :
    dispatch g c (.error (.py x)) =
      (c, .error (.py (if x.caughtBy g.recv then .attributeError else x))) := by
  by_cases h : x.caughtBy g.recv = true
  · simp only [dispatch, Exc.cls, h, if_true]
  · simp only [dispatch, Exc.cls, h, Bool.false_eq_true, if_false]

/-- a `ProtocolError` that is not marked with a response id is let through, caught or not -/
theorem dispatch_proto (g : Guards) (c : Conn) (pe : PErr) (h : pe.responseMsgId = none) :
    dispatch g c (.error (.proto pe)) = (c, .error (.proto pe)) := by
  unfold dispatch
  simp only [h]
  split <;> rfl

/-- a `ProtocolError` marked with a response id: the `except` of `receive_message` hands it to
the request the id names -/
theorem dispatch_marked (g : Guards) (c : Conn) (pe : PErr) (rid : J)
    (h : pe.responseMsgId = some rid) :
    dispatch g c (.error (.proto pe)) =
      if PyExc.protocolError.caughtBy g.recv then receiveResponse g c (.protoError pe.code pe.msg) rid
      else (c, .error (.proto pe)) := by
  unfold dispatch
  simp only [h, Exc.cls]

/-- bytes that `json.loads` could not decode, protocol already fixed: a parse error with a reply
if `_message_to_payload` catches the failure; otherwise the failure escapes (through a handler
that cannot deal with it, if the `except` of `receive_message` catches it) -/
theorem receiveMessage_raised (g : Guards) (c : Conn) {o : LoadsOutcome} {e : PyExc}
    (hna : c.proto ≠ .auto) (he : o.exc? = some e) :
    ∃ msg, receiveMessage g c o =
      (c, .error (if parseCaught g.payload e then
          .proto (mkError c.proto PARSE_ERROR msg true .null)
        else .py (if e.caughtBy g.recv then .attributeError else e))) := by
  rw [receiveMessage_eq, if_neg hna]
  unfold messageToItem
  rcases messageToPayload_cases g.payload c.proto o with ⟨v, rfl, _⟩ | ⟨e', msg, he', hm⟩
  · cases he
  · cases he.symm.trans he'
    rw [hm]
    refine ⟨msg, ?_⟩
    cases parseCaught g.payload e
    · exact dispatch_py g c e
    · exact dispatch_proto g c _ rfl

end Aiorpcx.C05
