import Aiorpcx.C05.Recv
import Aiorpcx.C05.Probe
/-!
# C05 — the grid discriminates: any guards that explain the observations are adequate

`deriveGuards` (`Probe.lean`) reads guards off the decision table.  This file shows that the
reading does not matter: for **every** `g : Guards`, if the model run with `g` ends ten key
probes of the grid and a session probe (one or more per clause of `adequate`) the way a correct
tree ends them, then `g` is adequate (`grid_discriminates`).  So a tree whose table has those
outcomes, and a model that reproduces the table, leave no room for an inadequate explanation —
and conversely every clause of `adequate` is witnessed by a probe whose outcome flips when the
clause fails.
-/
namespace Aiorpcx.C05
open Aiorpcx.Py Aiorpcx.C04

/-- a probe that ends as `good` exactly when the clause `b` of `adequate` holds: if it was seen
to end as `good`, the clause holds -/
theorem clause_of_probe {α : Type} {r : α} {b : Bool} {good bad : α}
    (hp : r = if b then good else bad) (hr : r = good) (hne : bad ≠ good) : b = true := by
  cases b
  · exact absurd (hp.symm.trans hr) hne
  · rfl

/-- what the model says about a public probe with decodable bytes, protocol already fixed -/
theorem modelRow_value (g : Guards) {i : Inp} {P : Proto} (st : St) {p : J} (hP : P ≠ .auto)
    (hi : i.outcome = .value p) :
    modelRow g (.receiveMessage i) P st =
      some (endedOf (dispatch g ⟨P, st.out⟩ (payloadToItem P p)).2,
        (dispatch g ⟨P, st.out⟩ (payloadToItem P p)).1.out.length) := by
  show some (endedOf (receiveMessage g ⟨P, st.out⟩ i.outcome).2, _) = _
  rw [hi, receiveMessage_value g ⟨P, st.out⟩ p hP]

/-- the four ways `json.loads(message.decode())` can raise, on a 2.0 connection with nothing
outstanding: a `ProtocolError` with a reply exactly when `_message_to_payload` catches it -/
theorem parse_probe (g : Guards) (i : Inp) (e : PyExc) (hi : i.outcome.exc? = some e) :
    modelRow g (.receiveMessage i) .v2 .empty =
      if parseCaught g.payload e then some (.protoReply, 0)
      else some (.escaped (if e.caughtBy g.recv then .attributeError else e), 0) := by
  obtain ⟨msg, h⟩ := receiveMessage_raised g ⟨.v2, St.empty.out⟩ (by decide) hi
  show some (endedOf (receiveMessage g ⟨.v2, St.empty.out⟩ i.outcome).2, _) = _
  rw [h]
  cases parseCaught g.payload e <;> rfl

/-- a response whose id is a list, 1.0 connection with singles outstanding: reaches the look-up
in `_requests` -/
theorem lookup_probe (g : Guards) :
    modelRow g (.receiveMessage .respListId) .v1 .singles =
      if PyExc.typeError.caughtBy g.lookup then some (.protoNoReply, 2)
      else some (.escaped .typeError, 2) := by
  have hp : payloadToItem .v1 (.obj [(kJsonrpc, s20), (kResult, .int 7), (kError, .null), (kId, .arr [.int 1])])
      = .ok (.response (.result (.int 7)), .arr [.int 1]) := by decide +kernel
  rw [modelRow_value g _ (by decide) rfl, hp, dispatch_response, receiveResponse_eq]
  cases PyExc.typeError.caughtBy g.lookup <;> rfl

/-- a response batch whose ids are `0` and `"x"`, 2.0 connection: reaches `sorted` -/
theorem sort_probe (g : Guards) :
    modelRow g (.receiveMessage .batchMixedIds) .v2 .empty =
      if PyExc.typeError.caughtBy g.sort then some (.protoNoReply, 0)
      else some (.escaped .typeError, 0) := by
  obtain ⟨hp, hall, hpr, hso⟩ :
      payloadToItem .v2 (.arr [resp2 (.int 1) (.int 0), resp2 (.int 2) (sx "x")])
        = .ok (.batch [resp2 (.int 1) (.int 0), resp2 (.int 2) (sx "x")], .null)
      ∧ ([resp2 (.int 1) (.int 0), resp2 (.int 2) (sx "x")]).all responseShapedMember = true
      ∧ processResponses .v2 [resp2 (.int 1) (.int 0), resp2 (.int 2) (sx "x")]
        = .ok [(.int 0, .result (.int 1)), (sx "x", .result (.int 2))]
      ∧ pySorted (fun t : J × RespVal => t.1)
          [(J.int 0, RespVal.result (.int 1)), (sx "x", .result (.int 2))] = .error .typeError := by
    decide +kernel
  rw [modelRow_value g _ (by decide) rfl, hp, dispatch_batch, hall, if_pos rfl]
  simp only [receiveResponseBatch, hpr, hso]
  cases PyExc.typeError.caughtBy g.sort <;> rfl

/-- a malformed response (neither result nor error) whose id names an awaited request: the
`except ProtocolError` of `receive_message` hands it to the request -/
theorem recv_probe (g : Guards) :
    modelRow g (.receiveMessage .respMalformedKnown) .v2 .singles =
      if PyExc.protocolError.caughtBy g.recv then some (.returned, 1) else some (.protoNoReply, 2) := by
  obtain ⟨code, msg, hp⟩ : ∃ code msg, payloadToItem .v2 (.obj [(kJsonrpc, s20), (kId, .int 0)])
      = .error (.proto (mkError .v2 code msg false (.int 0))) := ⟨_, _, rfl⟩
  rw [modelRow_value g _ (by decide) rfl, hp, dispatch_marked g _ _ _ rfl, receiveResponse_eq]
  cases PyExc.protocolError.caughtBy g.recv <;> rfl

/-- a request batch with one invalid member: the `except ProtocolError` around
`_process_request` turns the member into an error entry and the valid member is processed -/
theorem member_probe (g : Guards) :
    modelRow g (.receiveMessage .batchOneBad) .v2 .empty =
      if PyExc.protocolError.caughtBy g.member then some (.returned, 0) else some (.protoReply, 0) := by
  obtain ⟨hp, hall, h1⟩ :
      payloadToItem .v2 (.arr [.obj [(kJsonrpc, s20), (kMethod, sx "m"), (kId, .int 3)], .int 5])
        = .ok (.batch [.obj [(kJsonrpc, s20), (kMethod, sx "m"), (kId, .int 3)], .int 5], .null)
      ∧ ([J.obj [(kJsonrpc, s20), (kMethod, sx "m"), (kId, .int 3)], .int 5]).all responseShapedMember
        = false
      ∧ processRequest .v2 (.obj [(kJsonrpc, s20), (kMethod, sx "m"), (kId, .int 3)])
        = .ok (.request (lit "m") (.arr []), .int 3) := by decide +kernel
  obtain ⟨code, msg, h2⟩ : ∃ code msg, processRequest .v2 (.int 5)
      = .error (.proto (mkError .v2 code msg true .null)) := ⟨_, _, rfl⟩
  rw [modelRow_value g _ (by decide) rfl, hp, dispatch_batch, hall, if_neg Bool.false_ne_true]
  cases hb : PyExc.protocolError.caughtBy g.member <;>
    simp only [receiveRequestBatch, processRequests, processMember, h1, h2, Exc.cls, hb] <;> rfl

/-- the peer's response to a request whose waiter has given up -/
theorem doneSingle_probe (g : Guards) :
    modelRow g (.receiveMessage .respKnownV2) .v2 .singleCancelled =
      if g.doneSingle then some (.returned, 1) else some (.escaped invalidStateError, 1) := by
  have hp : payloadToItem .v2 (resp2 (.int 7) (.int 0)) = .ok (.response (.result (.int 7)), .int 0) := by
    decide +kernel
  rw [modelRow_value g _ (by decide) rfl, hp, dispatch_response, receiveResponse_eq]
  cases g.doneSingle <;> rfl

/-- the peer's response to a batch whose waiter has given up -/
theorem doneBatch_probe (g : Guards) :
    modelRow g (.receiveMessage .batchKnown) .v2 .batchCancelled =
      if g.doneBatch then some (.returned, 1) else some (.escaped invalidStateError, 1) := by
  obtain ⟨hp, hall, hpr, hso⟩ :
      payloadToItem .v2 (.arr [resp2 (.int 7) (.int 0)]) = .ok (.batch [resp2 (.int 7) (.int 0)], .null)
      ∧ ([resp2 (.int 7) (.int 0)]).all responseShapedMember = true
      ∧ processResponses .v2 [resp2 (.int 7) (.int 0)] = .ok [(.int 0, .result (.int 7))]
      ∧ pySorted (fun t : J × RespVal => t.1) [(J.int 0, RespVal.result (.int 7))]
        = .ok [(.int 0, .result (.int 7))] := by decide +kernel
  rw [modelRow_value g _ (by decide) rfl, hp, dispatch_batch, hall, if_pos rfl]
  simp only [receiveResponseBatch, hpr, hso]
  cases g.doneBatch <;> rfl

/-- undecodable bytes at session level: served exactly when `_message_to_payload` turns the
failure into a `ProtocolError` and the loop handles `ProtocolError` -/
theorem loop_probe (g : Guards) :
    modelLoop g .parseJson =
      if parseCaught g.payload .jsonDecodeError && PyExc.protocolError.caughtBy g.loop then .served
      else .wedged := by
  obtain ⟨msg, h⟩ := receiveMessage_raised g ⟨.v2, []⟩ (o := .jsonDecodeError) (by decide) rfl
  cases hc : parseCaught g.payload .jsonDecodeError <;> rw [hc] at h
  · -- escapes `receive_message`: the loop dies whether or not it catches the class
    generalize (if PyExc.jsonDecodeError.caughtBy g.recv then PyExc.attributeError
      else PyExc.jsonDecodeError) = y at h
    cases hy : y.caughtBy g.loop <;>
      simp only [modelLoop, loopStep, MsgKind.outcome, h, Bool.false_eq_true, if_false, Exc.cls, hy] <;> rfl
  · cases hl : PyExc.protocolError.caughtBy g.loop <;>
      simp only [modelLoop, loopStep, MsgKind.outcome, h, if_true, Exc.cls, hl] <;> rfl

/-- the ten key probes and how a correct tree ends them -/
def keyRows : List (Via × Proto × St × Ended × Nat) :=
  [(.receiveMessage .badUtf8, .v2, .empty, .protoReply, 0),
   (.receiveMessage .badJson, .v2, .empty, .protoReply, 0),
   (.receiveMessage .deepNesting, .v2, .empty, .protoReply, 0),
   (.receiveMessage .hugeInt, .v2, .empty, .protoReply, 0),
   (.receiveMessage .respListId, .v1, .singles, .protoNoReply, 2),
   (.receiveMessage .batchMixedIds, .v2, .empty, .protoNoReply, 0),
   (.receiveMessage .respMalformedKnown, .v2, .singles, .returned, 1),
   (.receiveMessage .batchOneBad, .v2, .empty, .returned, 0),
   (.receiveMessage .respKnownV2, .v2, .singleCancelled, .returned, 1),
   (.receiveMessage .batchKnown, .v2, .batchCancelled, .returned, 1)]

/-- **the grid discriminates** — for every `g`: if the model run with `g` ends the key probes
the way a correct tree does and serves a session after undecodable bytes, then `g` is adequate. -/
theorem grid_discriminates (g : Guards)
    (hrows : keyRows.all (fun r => modelRow g r.1 r.2.1 r.2.2.1 == some (r.2.2.2.1, r.2.2.2.2)) = true)
    (hloop : modelLoop g .parseJson = .served) : adequate g = true := by
  simp only [keyRows, List.all_cons, List.all_nil, Bool.and_true, Bool.and_eq_true, beq_iff_eq] at hrows
  obtain ⟨p1, p2, p3, p4, hl, hs, hr, hm, hds, hdb⟩ := hrows
  have hne : ∀ {x : PyExc}, some (Ended.escaped x, 0) ≠ some (Ended.protoReply, 0) := by
    intro x h; cases h
  have q1 := clause_of_probe (parse_probe g .badUtf8 _ rfl) p1 hne
  have q2 := clause_of_probe (parse_probe g .badJson _ rfl) p2 hne
  have q3 := clause_of_probe (parse_probe g .deepNesting _ rfl) p3 hne
  have q4 := clause_of_probe (parse_probe g .hugeInt _ rfl) p4 hne
  have qloop := clause_of_probe (loop_probe g) hloop (by decide)
  rw [q2, Bool.true_and] at qloop
  refine (adequate_iff g).2 ⟨fun o e ho => ?_,
    clause_of_probe (lookup_probe g) hl (by decide), clause_of_probe (sort_probe g) hs (by decide),
    clause_of_probe (recv_probe g) hr (by decide), qloop,
    clause_of_probe (member_probe g) hm (by decide),
    clause_of_probe (doneSingle_probe g) hds (by decide),
    clause_of_probe (doneBatch_probe g) hdb (by decide)⟩
  cases o <;> cases ho <;> assumption

/-- a table contains the key rows with the outcomes of a correct tree -/
def hasKeyRows (t : List Row) : Bool :=
  keyRows.all fun k => t.any fun r =>
    r.via == k.1 && r.proto == k.2.1 && r.st == k.2.2.1 && r.ended == k.2.2.2.1 && r.pending == k.2.2.2.2

/-- a session table has a served session after undecodable bytes -/
def hasServedParse (lt : List LoopRow) : Bool := lt.any fun r => r.kind == .parseJson && r.ended == .served

/-- **whatever explains the observations is adequate** — let `t`, `lt` be decision tables that
contain the key rows with the outcomes of a correct tree.  Then *any* guards `g` under which the
model reproduces `t` and `lt` are adequate: the verdict does not hinge on how guards are read
off the table (`deriveGuards`), only on the table and on the model. -/
theorem explains_adequate (t : List Row) (lt : List LoopRow) (g : Guards)
    (hk : hasKeyRows t = true) (hs : hasServedParse lt = true)
    (h : t.all (Row.reproducedBy g) = true) (hl : lt.all (LoopRow.reproducedBy g) = true) :
    adequate g = true := by
  apply grid_discriminates
  · rw [List.all_eq_true]
    intro k hkm
    obtain ⟨r, hr, hm⟩ := List.any_eq_true.1 (List.all_eq_true.1 hk k hkm)
    simp only [Bool.and_eq_true, beq_iff_eq] at hm
    obtain ⟨⟨⟨⟨h1, h2⟩, h3⟩, h4⟩, h5⟩ := hm
    have hrep := List.all_eq_true.1 h r hr
    rw [Row.reproducedBy, beq_iff_eq, h1, h2, h3, h4, h5] at hrep
    rw [hrep, beq_self_eq_true]
  · obtain ⟨r, hr, hm⟩ := List.any_eq_true.1 hs
    simp only [Bool.and_eq_true, beq_iff_eq] at hm
    have hrep := List.all_eq_true.1 hl r hr
    rw [LoopRow.reproducedBy, beq_iff_eq, hm.1, hm.2] at hrep
    exact hrep

end Aiorpcx.C05
