import Aiorpcx.C05.Recv
import Aiorpcx.C04.Roundtrip
/-!
# C05 — no byte sequence from the peer can crash or wedge message processing

`receiveMessage g c o` (`Model.lean`) is `JSONRPCConnection.receive_message(message)` in
connection state `c` — the protocol plus the outstanding entries, each with the state of its
future (pending / cancelled by a waiter that gave up / already resolved) — where
`o : LoadsOutcome` is what `json.loads(message.decode())` did (a value or one of its four ways to
raise — trusted-base law L3) and `g : Guards` says which exceptions the code turns into a
`ProtocolError` where and whether it looks at `future.done()` before resolving a future.  The
theorems hold for every `g` that is `adequate`, every connection state, every outcome and every
payload value; no bound.  The guards of the current tree are derived on every run from a decision
table obtained by running the real functions on hostile inputs in every connection state
(`Probe.lean`); that they are adequate, and that the model run with them gives, row by row, what
the real code did, are `facts_guards_adequate` and `facts_probe_table_reproduced` (`Tie.lean`).
-/
namespace Aiorpcx.C05
open Aiorpcx.Py Aiorpcx.C04

/-- "the bytes were a response" as the library documents it (`message_to_item`): a JSON object
without a `method` member, or — for a protocol with batches — a non-empty array all of whose
members are objects with a `result` or an `error` member -/
def responseShaped (P : Proto) : LoadsOutcome → Bool
  | .value (.obj kvs) => !(J.hasKey kMethod kvs)
  | .value (.arr xs) => P.allowBatches && !xs.isEmpty && xs.all responseShapedMember
  | _ => false

/-- a well-formed error reply in protocol `P`'s format: one error response, or the batch of
the members' error responses (non-empty) -/
def WellFormedReply (P : Proto) : Reply → Prop
  | .single p => IsErrorReply P p
  | .batch ps => ps ≠ [] ∧ ∀ p ∈ ps, IsErrorReply P p

/-- what the message was, as a payload (`null` when it could not be decoded at all) -/
def payloadOf : LoadsOutcome → J
  | .value v => v
  | _ => .null

/-- the reply answers *this* message: a single error reply in `P`'s format carrying `null` or
the message's own `id` member; or the non-empty batch of error replies each of which carries
`null` or the `id` member of one of the members of the batch the message was -/
def ReplyTo (P : Proto) (o : LoadsOutcome) : Reply → Prop
  | .single r => IsErrorReplyTo P (payloadOf o) r
  | .batch rs => rs ≠ [] ∧ ∃ ms, payloadOf o = .arr ms ∧ ∀ r ∈ rs, ∃ p ∈ ms, IsErrorReplyTo P p r

theorem ReplyTo.wellFormed {P : Proto} {o : LoadsOutcome} {reply : Reply} (h : ReplyTo P o reply) :
    WellFormedReply P reply := by
  cases reply with
  | single r => exact h.isErrorReply
  | batch rs =>
    obtain ⟨hne, ms, _, hall⟩ := h
    refine ⟨hne, fun r hr => ?_⟩
    obtain ⟨p, _, hp⟩ := hall r hr
    exact hp.isErrorReply

/-- the protocol in force once `receive_message` has run its one-shot detection -/
def protoAfter (g : Guards) (c : Conn) (o : LoadsOutcome) : Proto :=
  if c.proto = .auto then
    match messageToPayload g.payload .auto o with
    | .ok main => detectProtocol main
    | .error _ => .auto
  else c.proto

/-- how the table of outstanding entries changed when the entry `en` was removed: it was the
entry a response id named, or the entry a sorted tuple of response ids named -/
def Removed (c c' : Conn) (en : Entry) : Prop :=
  (∃ rid, findSingle rid c.out = some en ∧ c'.out = popSingle rid c.out) ∨
  (∃ ids, findBatch ids c.out = some en ∧ c'.out = popBatch ids c.out)

/-- Outcome classes of `receive_message`; every case of the code lands in one of them. -/
inductive Outcome (g : Guards) (c : Conn) (o : LoadsOutcome) : Conn × R Recv → Prop where
  /-- returned `[item, …]`, nothing else happened -/
  | items (c' : Conn) (items : List (Item × J)) (hout : c'.out = c.out) :
      Outcome g c o (c', .ok { items := items })
  /-- returned `[]` after resolving the pending future of exactly one outstanding entry -/
  | completed (c' : Conn) (en : Entry) (v : Completion) (hk : en ∈ c.out)
      (hp : en.fut = .pending) (hout : Removed c c' en) :
      Outcome g c o (c', .ok { completed := some (en.key, v) })
  /-- returned `[]` after dropping exactly one outstanding entry whose future was already done
  (the waiter had given up, or somebody else resolved it): nothing is resolved a second time -/
  | discarded (c' : Conn) (en : Entry) (hk : en ∈ c.out)
      (hp : en.fut ≠ .pending) (hout : Removed c c' en) :
      Outcome g c o (c', .ok { discarded := some en.key })
  /-- raised a `ProtocolError` carrying a well-formed reply to this message; outstanding
  requests untouched -/
  | errorWithReply (c' : Conn) (e : PErr) (reply : Reply) (hout : c'.out = c.out)
      (hr : e.errorMessage = some reply) (hto : ReplyTo c'.proto o reply) :
      Outcome g c o (c', .error (.proto e))
  /-- raised a `ProtocolError` without reply — only for bytes that were a response -/
  | errorNoReply (c' : Conn) (e : PErr) (hout : c'.out = c.out) (hr : e.errorMessage = none)
      (hresp : responseShaped c'.proto o = true) :
      Outcome g c o (c', .error (.proto e))

theorem Removed.transport {c c0 c' : Conn} {en : Entry} (h : Removed c c' en) (hout : c.out = c0.out) :
    Removed c0 c' en := by
  unfold Removed at *
  rw [← hout]; exact h

/-- the classes only talk about the outstanding entries of the starting state -/
theorem Outcome.transport {g : Guards} {c c0 : Conn} {o : LoadsOutcome} {r : Conn × R Recv}
    (h : Outcome g c o r) (hout : c.out = c0.out) : Outcome g c0 o r := by
  cases h with
  | items c'' items h => exact .items c'' items (by rw [h, hout])
  | completed c'' en v hk hp h =>
    exact .completed c'' en v (by rw [← hout]; exact hk) hp (h.transport hout)
  | discarded c'' en hk hp h =>
    exact .discarded c'' en (by rw [← hout]; exact hk) hp (h.transport hout)
  | errorWithReply c'' e reply h h1 h2 => exact .errorWithReply c'' e reply (by rw [h, hout]) h1 h2
  | errorNoReply c'' e h h1 h2 => exact .errorNoReply c'' e (by rw [h, hout]) h1 h2

theorem Outcome.noPy {g : Guards} {c : Conn} {o : LoadsOutcome} {r : Conn × R Recv}
    (h : Outcome g c o r) : (∃ x, r.2 = .ok x) ∨ (∃ e, r.2 = .error (.proto e)) := by
  cases h with
  | items c' items h => exact Or.inl ⟨_, rfl⟩
  | completed c' en v hk hp h => exact Or.inl ⟨_, rfl⟩
  | discarded c' en hk hp h => exact Or.inl ⟨_, rfl⟩
  | errorWithReply c' e reply h h1 h2 => exact Or.inr ⟨e, rfl⟩
  | errorNoReply c' e h h1 h2 => exact Or.inr ⟨e, rfl⟩

/-- a `ProtocolError` built by `_error(code, message, True, id)` whose id is `null` or the
message's own `id` member: raised as it is, with its reply -/
theorem Outcome.ofReply {g : Guards} {c : Conn} {o : LoadsOutcome} (code : Int) (msg : Str)
    (rid : J) (hid : IdOf (payloadOf o) rid) :
    Outcome g c o (c, .error (.proto (mkError c.proto code msg true rid))) :=
  .errorWithReply c _ _ rfl rfl ⟨code, msg, rid, hid, rfl⟩

theorem receiveResponse_outcome (g : Guards) (hg : adequate g = true) (c : Conn) (o : LoadsOutcome)
    (v : RespVal) (rid : J) (hresp : responseShaped c.proto o = true) :
    Outcome g c o (receiveResponse g c v rid) := by
  obtain ⟨-, hl, -, -, -, -, hd, -⟩ := (adequate_iff g).1 hg
  have hno : Outcome g c o (c, .error (unsent "response to unsent request")) :=
    .errorNoReply c _ rfl rfl hresp
  rw [receiveResponse_eq, hl, hd, if_pos (rfl : true = true)]
  repeat' split
  · exact hno
  · exact hno
  · rename_i en hf
    have hrem : Removed c { c with out := popSingle rid c.out } en := Or.inl ⟨rid, hf, rfl⟩
    rw [resolve_guarded]
    split
    · exact .completed _ en _ (findSingle_mem _ _ _ hf) ‹_› hrem
    · exact .discarded _ en (findSingle_mem _ _ _ hf) ‹_› hrem
  · exact hno

theorem dispatch_outcome (g : Guards) (hg : adequate g = true) (c : Conn) (o : LoadsOutcome) :
    Outcome g c o (dispatch g c (messageToItem g.payload c.proto o)) := by
  obtain ⟨hpay, -, -, hrecv, -⟩ := (adequate_iff g).1 hg
  unfold messageToItem
  rcases messageToPayload_cases g.payload c.proto o with ⟨p, rfl, hm⟩ | ⟨e, msg, he, hm⟩ <;> rw [hm]
  · show Outcome g c _ (dispatch g c (payloadToItem c.proto p))
    rcases payloadToItem_cases c.proto p with ⟨m, a, rid, h⟩ | ⟨v, rid, kvs, rfl, hk, h⟩ |
      ⟨ps, rfl, hne, hP, h⟩ | ⟨code, msg, rid, hid, h⟩ | ⟨code, msg, rid, kvs, rfl, hk, h⟩ <;> rw [h]
    · cases rid.isNone <;> exact .items c _ rfl
    · exact receiveResponse_outcome g hg c _ v rid (by simp only [responseShaped, hk, Bool.not_false])
    · rw [dispatch_batch]
      split
      · rename_i hall
        rcases receiveResponseBatch_cases g hg c hP ps with
          ⟨en, vs, ids, hk, hf, heq⟩ | ⟨e, heq, he1⟩ <;> rw [heq]
        · have hrem : Removed c { c with out := popBatch ids c.out } en := Or.inr ⟨ids, hf, rfl⟩
          split
          · exact .completed _ en _ hk ‹_› hrem
          · exact .discarded _ en hk ‹_› hrem
        · refine .errorNoReply c e rfl he1 ?_
          have hab : c.proto.allowBatches = true := by
            cases hcp : c.proto <;> first | rfl | exact absurd hcp hP
          cases ps with
          | nil => exact absurd rfl hne
          | cons x xs =>
            simp only [responseShaped, hab, hall, List.isEmpty_cons, Bool.not_false, Bool.and_self]
      · rcases receiveRequestBatch_cases g hg c hP ps with ⟨items, heq⟩ | ⟨parts, hne', hparts, heq⟩ <;>
          rw [heq]
        · exact .items c items rfl
        · exact .errorWithReply c _ (.batch parts) rfl rfl ⟨hne', ps, rfl, hparts⟩
    · rw [dispatch_proto g c _ rfl]
      exact .ofReply code msg rid hid
    · -- a response in error: handed to the request its id names
      rw [dispatch_marked g c _ rid rfl, hrecv, if_pos rfl]
      exact receiveResponse_outcome g hg c _ _ rid (by simp only [responseShaped, hk, Bool.not_false])
  · rw [hpay o e he, if_pos rfl]
    show Outcome g c o (dispatch g c (.error (.proto (mkError c.proto PARSE_ERROR msg true .null))))
    rw [dispatch_proto g c _ rfl]
    exact .ofReply _ msg _ (Or.inl rfl)

/-- **Structure theorem**: whatever the connection state and whatever `json.loads` did,
`receive_message` ends in one of the five `Outcome` classes. -/
theorem receive_outcome (g : Guards) (hg : adequate g = true) (c : Conn) (o : LoadsOutcome) :
    Outcome g c o (receiveMessage g c o) := by
  rw [receiveMessage_eq]
  split
  · rename_i hauto
    rcases messageToPayload_cases g.payload .auto o with ⟨main, rfl, hm⟩ | ⟨e, msg, he, hm⟩ <;>
      rw [hm]
    · -- from here on the connection is `c` with the detected protocol (same outstanding keys)
      exact (dispatch_outcome g hg { c with proto := detectProtocol main } _).transport rfl
    · rw [((adequate_iff g).1 hg).1 o e he, if_pos rfl]
      exact hauto ▸ .ofReply _ msg _ (Or.inl rfl)
  · exact dispatch_outcome g hg c o

/-- the error replies the theorems speak of are in the wire format of the protocol in force:
2.0 — `"jsonrpc":"2.0"`, an `error` object with an integer code and a string message, no
`result`; 1.0 — `"result": null` and the `error` object; both carry an `id` member -/
theorem error_reply_conforms (P : Proto) (reply : J) (h : IsErrorReply P reply) :
    ∃ kvs code msg rid, reply = .obj kvs
      ∧ J.lookup kError kvs = some (errorObj (.int code) (.str msg))
      ∧ J.lookup kId kvs = some rid
      ∧ (P ≠ .v1 → J.lookup kJsonrpc kvs = some s20 ∧ J.lookup kResult kvs = none)
      ∧ (P = .v1 → J.lookup kResult kvs = some .null) := by
  obtain ⟨code, msg, rid, rfl⟩ := h
  have h1 : ∀ e r : J, J.lookup kError [(kResult, .null), (kError, e), (kId, r)] = some e
      ∧ J.lookup kId [(kResult, .null), (kError, e), (kId, r)] = some r
      ∧ J.lookup kResult [(kResult, .null), (kError, e), (kId, r)] = some .null :=
    fun e r => ⟨rfl, rfl, rfl⟩
  have h2 : ∀ e r : J, J.lookup kError [(kJsonrpc, s20), (kError, e), (kId, r)] = some e
      ∧ J.lookup kId [(kJsonrpc, s20), (kError, e), (kId, r)] = some r
      ∧ J.lookup kJsonrpc [(kJsonrpc, s20), (kError, e), (kId, r)] = some s20
      ∧ J.lookup kResult [(kJsonrpc, s20), (kError, e), (kId, r)] = none :=
    fun e r => ⟨rfl, rfl, rfl, rfl⟩
  cases P
  · obtain ⟨a, b, c⟩ := h1 (errorObj (.int code) (.str msg)) rid
    exact ⟨_, code, msg, rid, rfl, a, b, fun h => absurd rfl h, fun _ => c⟩
  all_goals
    obtain ⟨a, b, c, d⟩ := h2 (errorObj (.int code) (.str msg)) rid
    exact ⟨_, code, msg, rid, rfl, a, b, fun _ => ⟨c, d⟩, nofun⟩

/-- **only_protocol_error** — handing a connection any bytes has two outcomes: items to process
or a `ProtocolError`; no other exception escapes, whatever is outstanding (pending, abandoned
or already resolved requests and batches alike). -/
theorem only_protocol_error (g : Guards) (hg : adequate g = true) (c : Conn) (o : LoadsOutcome) :
    (∃ r, (receiveMessage g c o).2 = .ok r) ∨ (∃ e, (receiveMessage g c o).2 = .error (.proto e)) :=
  (receive_outcome g hg c o).noPy

/-- **non_response_errors_carry_reply** — if the bytes were not a response, a `ProtocolError`
carries a well-formed error reply in the format of the protocol in force, and the reply answers
this very message (`ReplyTo`): one error response under the request's own `id` or `null`, or the
batch of the members' error responses, each under `null` or the `id` of a member of the batch
received. -/
theorem non_response_errors_carry_reply (g : Guards) (hg : adequate g = true) (c c' : Conn)
    (o : LoadsOutcome) (e : PErr) (h : receiveMessage g c o = (c', .error (.proto e)))
    (hnr : responseShaped c'.proto o = false) :
    ∃ reply, e.errorMessage = some reply ∧ WellFormedReply c'.proto reply
      ∧ ReplyTo c'.proto o reply := by
  have ho := receive_outcome g hg c o
  rw [h] at ho
  cases ho with
  | errorWithReply _ _ reply _ h1 h2 => exact ⟨reply, h1, h2.wellFormed, h2⟩
  | errorNoReply _ _ _ _ h2 => rw [h2] at hnr; cases hnr

/-- `ReplyTo` spelled out for a single reply: it is the error payload of the protocol, and its
`id` is `null` or the value of the `id` member of the JSON object the peer sent -/
theorem reply_id_is_requests_or_null (P : Proto) (o : LoadsOutcome) (r : J)
    (h : ReplyTo P o (.single r)) :
    ∃ code msg rid, r = errorPayload P (.int code) (.str msg) rid ∧
      (rid = .null ∨ ∃ kvs, o = .value (.obj kvs) ∧ J.lookup kId kvs = some rid) := by
  obtain ⟨code, msg, rid, hid, hr⟩ := h
  refine ⟨code, msg, rid, hr, ?_⟩
  rcases hid with hid | ⟨kvs, hp, hl⟩
  · exact Or.inl hid
  · refine Or.inr ⟨kvs, ?_, hl⟩
    cases o with
    | value v => exact congrArg LoadsOutcome.value hp
    | _ => cases hp

/-- non-vacuity: a 2.0 request with ill-typed `params` and id 3 is refused with a reply under
id 3; undecodable bytes are refused with a reply under `null` -/
example :
    ∃ e, (receiveMessage Guards.repaired ⟨.v2, []⟩
      (.value (.obj [(kJsonrpc, s20), (kMethod, .str (lit "m")), (kParams, .int 5), (kId, .int 3)]))).2
        = .error (.proto e)
      ∧ e.errorMessage = some (.single (errorPayload .v2 (.int INVALID_ARGS)
          (.str (lit "invalid request arguments")) (.int 3))) :=
  ⟨mkError .v2 INVALID_ARGS (lit "invalid request arguments") true (.int 3), rfl, rfl⟩
example :
    ∃ e, (receiveMessage Guards.repaired ⟨.v1, []⟩ .unicodeError).2 = .error (.proto e)
      ∧ e.errorMessage = some (.single (errorPayload .v1 (.int PARSE_ERROR)
          (.str (lit "messages must be encoded in UTF-8")) .null)) :=
  ⟨mkError .v1 PARSE_ERROR (lit "messages must be encoded in UTF-8") true .null, rfl, rfl⟩

/-- **outstanding_undisturbed** — an erroring message leaves the outstanding requests exactly
as they were; a message that returns either leaves them alone too, or removes exactly one
outstanding entry — the one its id(s) name — and resolves that entry's future if and only if
it was still pending (a future that is already done is never resolved a second time). -/
theorem outstanding_undisturbed (g : Guards) (hg : adequate g = true) (c c' : Conn)
    (o : LoadsOutcome) (res : R Recv) (h : receiveMessage g c o = (c', res)) :
    match res with
    | .error _ => c'.out = c.out
    | .ok r =>
        match r.completed, r.discarded with
        | none, none => c'.out = c.out
        | some (k, _), none => ∃ en ∈ c.out, en.key = k ∧ en.fut = .pending ∧ Removed c c' en
        | none, some k => ∃ en ∈ c.out, en.key = k ∧ en.fut ≠ .pending ∧ Removed c c' en
        | some _, some _ => False := by
  have ho := receive_outcome g hg c o
  rw [h] at ho
  cases ho with
  | items _ items hout => exact hout
  | completed _ en v hk hp hout => exact ⟨en, hk, rfl, hp, hout⟩
  | discarded _ en hk hp hout => exact ⟨en, hk, rfl, hp, hout⟩
  | errorWithReply _ e reply hout _ _ => exact hout
  | errorNoReply _ e hout _ _ => exact hout

/-- a response (well-formed or malformed with a recoverable id) that names an outstanding
single request: the entry is removed; its future is resolved with the response exactly when it
was still pending, and left alone when the waiter had given up or somebody else resolved it —
in neither case is anything raised -/
theorem response_to_outstanding (g : Guards) (hg : adequate g = true) (c : Conn)
    (v : RespVal) (rid : J) (en : Entry) (hk : findSingle rid c.out = some en)
    (hh : rid.hashable = true) (hb : rid.isBool = false) :
    receiveResponse g c v rid =
      ({ c with out := popSingle rid c.out },
       .ok (if en.fut = .pending then { completed := some (en.key, .single v) }
            else { discarded := some en.key })) := by
  obtain ⟨-, -, -, -, -, -, hd, -⟩ := (adequate_iff g).1 hg
  rw [receiveResponse_eq, hb, hh, hk, hd]
  exact resolve_guarded _ en _

/-- a malformed response whose id is recoverable and outstanding (and still awaited) completes
exactly that request, exceptionally (with the `ProtocolError`), and nothing is raised -/
theorem bad_response_completes_its_request (g : Guards) (hg : adequate g = true) (c : Conn)
    (code : Int) (msg : Str) (rid : J) (en : Entry) (hk : findSingle rid c.out = some en)
    (hp : en.fut = .pending) (hh : rid.hashable = true) (hb : rid.isBool = false) :
    receiveResponse g c (.protoError code msg) rid =
      ({ c with out := popSingle rid c.out },
       .ok { completed := some (en.key, .single (.protoError code msg)) }) := by
  rw [response_to_outstanding g hg c _ rid en hk hh hb, if_pos hp]

/-- **late responses are harmless** — the peer's response to a request whose waiter has already
given up (future cancelled, entry still in the table: what `sent_request_timeout` leaves behind)
or whose future somebody else resolved is swallowed: the entry goes, nothing is raised -/
theorem late_response_is_harmless (g : Guards) (hg : adequate g = true) (c : Conn)
    (v : RespVal) (rid : J) (en : Entry) (hk : findSingle rid c.out = some en)
    (hp : en.fut ≠ .pending) (hh : rid.hashable = true) (hb : rid.isBool = false) :
    receiveResponse g c v rid =
      ({ c with out := popSingle rid c.out }, .ok { discarded := some en.key }) := by
  rw [response_to_outstanding g hg c _ rid en hk hh hb, if_neg hp]

/-- … and the `future.done()` test is what makes it so: the same code without it lets
`asyncio.InvalidStateError` escape `receive_message` for a single request and for a batch whose
waiter gave up, and the session's message loop dies with the transport open -/
theorem done_guard_needed :
    (receiveMessage { Guards.repaired with doneSingle := false }
      ⟨.v2, [⟨.single (.int 0), .cancelled⟩]⟩
      (.value (.obj [(kJsonrpc, s20), (kResult, .int 7), (kId, .int 0)]))).2
        = .error (.py invalidStateError)
    ∧ (receiveMessage { Guards.repaired with doneBatch := false }
      ⟨.v2, [⟨.batch [.int 0], .finished⟩]⟩
      (.value (.arr [.obj [(kJsonrpc, s20), (kResult, .int 7), (kId, .int 0)]]))).2
        = .error (.py invalidStateError)
    ∧ (loopStep { Guards.repaired with doneSingle := false }
        ⟨⟨.v2, [⟨.single (.int 0), .cancelled⟩]⟩, .receiving⟩
        (.value (.obj [(kJsonrpc, s20), (kResult, .int 7), (kId, .int 0)])) {}).1.phase = .dead := by
  decide +kernel

/-- one loop iteration never leaves the session open-but-not-listening, provided the loop's own
bookkeeping and logging raise nothing (`env.quiet`, measured: `facts_loop_table_quiet`) -/
theorem loopStep_not_dead (g : Guards) (hg : adequate g = true) (s : Sess) (o : LoadsOutcome)
    (env : Env) (hq : env.quiet = true) (h : s.phase ≠ .dead) :
    (loopStep g s o env).1.phase ≠ .dead := by
  obtain ⟨-, -, -, -, hloop, -⟩ := (adequate_iff g).1 hg
  simp only [Env.quiet, Bool.and_eq_true, Option.isNone_iff_eq_none] at hq
  obtain ⟨hpre, herr⟩ := hq
  unfold loopStep
  cases hph : s.phase with
  | dead => exact absurd hph h
  | closed => exact h
  | receiving =>
    have hres := only_protocol_error g hg s.conn o
    generalize receiveMessage g s.conn o = rm at hres ⊢
    obtain ⟨c, res⟩ := rm
    simp only [hpre]
    rcases hres with ⟨r, rfl⟩ | ⟨e, rfl⟩
    · exact fun h => Phase.noConfusion h
    · simp only [Exc.cls, hloop, if_true, herr]
      cases e.errorMessage with
      | none => exact fun h => Phase.noConfusion h
      | some reply => cases env.send <;> exact fun h => Phase.noConfusion h

def Ev.quiet : Ev → Bool
  | .msg _ env => env.quiet
  | _ => true

/-- the invariant behind the session theorems: whatever happens to the table of outstanding
requests in between, a session whose bookkeeping raises nothing never becomes `dead` -/
theorem runEvents_not_dead (g : Guards) (hg : adequate g = true) :
    ∀ (evs : List Ev) (s : Sess), (∀ e ∈ evs, e.quiet = true) → s.phase ≠ .dead →
      (runEvents g s evs).phase ≠ .dead
  | [], _, _, h => h
  | e :: rest, s, hq, h => by
      refine runEvents_not_dead g hg rest _ (fun e he => hq e (List.mem_cons_of_mem _ he)) ?_
      cases e with
      | msg o env => exact loopStep_not_dead g hg s o env (hq _ List.mem_cons_self) h
      | _ => exact h

/-- a sequence of messages is a history without local events -/
theorem runLoop_eq_runEvents (g : Guards) : ∀ (msgs : List (LoadsOutcome × Env)) (s : Sess),
    runLoop g s msgs = runEvents g s (msgs.map fun m => .msg m.1 m.2)
  | [], _ => rfl
  | _ :: rest, _ => runLoop_eq_runEvents g rest _

theorem Phase.receiving_or_closed {p : Phase} (h : p ≠ .dead) : p = .receiving ∨ p = .closed := by
  cases p
  · exact Or.inl rfl
  · exact Or.inr rfl
  · exact absurd rfl h

/-- **session_serving_or_closed** — after any sequence of received messages (and whatever the
transport does with the replies) the session is still in its receive loop or has closed the
connection; it is never left open but no longer listening.  Hypothesis: the loop's bookkeeping
(statistics, cost, the logging calls that are handed the peer's bytes) raises nothing. -/
theorem session_serving_or_closed (g : Guards) (hg : adequate g = true) (c : Conn)
    (msgs : List (LoadsOutcome × Env)) (hq : ∀ m ∈ msgs, m.2.quiet = true) :
    (runLoop g { conn := c, phase := .receiving } msgs).phase = .receiving ∨
    (runLoop g { conn := c, phase := .receiving } msgs).phase = .closed := by
  rw [runLoop_eq_runEvents]
  refine Phase.receiving_or_closed (runEvents_not_dead g hg _ _ (fun e he => ?_) nofun)
  obtain ⟨m, hm, rfl⟩ := List.mem_map.1 he
  exact hq m hm

example : (runLoop Guards.repaired ⟨⟨.v2, [⟨.single (.int 0), .cancelled⟩]⟩, .receiving⟩
    [(.recursionError, {}), (.intDigitsValueError, {}),
     (.value (.obj [(kResult, .int 1), (kError, .null), (kId, .arr [.int 1])]), {}),
     (.value (.obj [(kJsonrpc, s20), (kResult, .int 1), (kId, .int 0)]), {})]).phase
    = .receiving := by decide +kernel

/-- **session_serving_or_closed_interleaved** — the same for every interleaving of received
messages with what the local side does to the table of outstanding requests in between: sending
requests and batches, waiters giving up (their `sent_request_timeout` firing at any point
relative to the responses: the future is cancelled, the entry stays), futures resolved
elsewhere, entries removed.  "Whatever requests are outstanding", dynamically. -/
theorem session_serving_or_closed_interleaved (g : Guards) (hg : adequate g = true) (c : Conn)
    (evs : List Ev) (hq : ∀ e ∈ evs, e.quiet = true) :
    (runEvents g { conn := c, phase := .receiving } evs).phase = .receiving ∨
    (runEvents g { conn := c, phase := .receiving } evs).phase = .closed := by
  exact Phase.receiving_or_closed (runEvents_not_dead g hg evs _ hq nofun)

/-- the race of seeded change C05-r2m2 as a history: the session sends request 0, the waiter
times out, and the peer's response is processed before anybody has removed the entry; then a
duplicate of it; the session keeps serving.  Without the `done()` test the first response
kills the loop. -/
example : (runEvents Guards.repaired ⟨⟨.v2, []⟩, .receiving⟩
    [.sent (.single (.int 0)), .gaveUp 0,
     .msg (.value (.obj [(kJsonrpc, s20), (kResult, .int 1), (kId, .int 0)])) {},
     .msg (.value (.obj [(kJsonrpc, s20), (kResult, .int 1), (kId, .int 0)])) {}]).phase
    = .receiving := by decide +kernel
example : (runEvents { Guards.repaired with doneSingle := false } ⟨⟨.v2, []⟩, .receiving⟩
    [.sent (.single (.int 0)), .gaveUp 0,
     .msg (.value (.obj [(kJsonrpc, s20), (kResult, .int 1), (kId, .int 0)])) {}]).phase
    = .dead := by decide +kernel

/-- the hypothesis of `session_serving_or_closed` is necessary: bookkeeping that raises — before
`receive_message`, or in the `except ProtocolError` handler (e.g. a debug line that decodes a
prefix of the message) — leaves the loop, and the session is open but no longer listening -/
theorem bookkeeping_raise_wedges (g : Guards) (c : Conn) (o : LoadsOutcome) (env : Env) (x : PyExc) :
    (env.preRaises = some x → (loopStep g ⟨c, .receiving⟩ o env).1.phase = .dead)
    ∧ (env.preRaises = none → env.errRaises = some x →
        PyExc.protocolError.caughtBy g.loop = true →
        (∃ c' e, receiveMessage g c o = (c', .error (.proto e))) →
        (loopStep g ⟨c, .receiving⟩ o env).1.phase = .dead) := by
  constructor
  · intro h
    simp only [loopStep, h]
  · intro hpre herr hloop ⟨c', e, hrm⟩
    simp only [loopStep, hpre, hrm, Exc.cls, hloop, if_true, herr]

example : (loopStep Guards.repaired ⟨⟨.v2, []⟩, .receiving⟩
    (.value (.obj [(kJsonrpc, s20), (kResult, .int 1), (kId, .int 0)]))
    { errRaises := some .unicodeDecodeError }).1.phase = .dead := by decide +kernel

theorem loopStep_item (g : Guards) (c c' : Conn) (o : LoadsOutcome) (it : Item × J)
    (h : receiveMessage g c o = (c', .ok { items := [it] })) :
    loopStep g { conn := c, phase := .receiving } o {} =
      ({ conn := c', phase := .receiving }, [.spawned [it]]) := by
  simp only [loopStep, h]
  rfl

/-- "still serving": in the receive loop, a valid request in the connection's protocol is
handed to the request handler under its own id (its answer is C02/C03's concern); 2.0 and Loose
connections -/
theorem serving_answers_probe (g : Guards) (c : Conn) (hP : c.proto ≠ .v1 ∧ c.proto ≠ .auto)
    (m : Str) (args rid : J) (hargs : Args args) (hrid : ReqId rid) :
    ∃ p, requestPayload c.proto m args rid = .ok p ∧
      loopStep g { conn := c, phase := .receiving } (.value p) {} =
        ({ conn := c, phase := .receiving }, [.spawned [(.request m args, rid)]]) := by
  obtain ⟨p, h1, _, h3⟩ := roundtrip_request c.proto hP.1 m args rid hargs hrid
  refine ⟨p, h1, loopStep_item g c c _ _ ?_⟩
  rw [receiveMessage_value g c p hP.2, h3]
  rfl

/-- … a 1.0 connection (positional arguments, any non-null id) -/
theorem serving_answers_probe_v1 (g : Guards) (c : Conn) (hP : c.proto = .v1)
    (m : Str) (xs : List J) (rid : J) (hrid : rid.isNone = false) :
    ∃ p, requestPayload .v1 m (.arr xs) rid = .ok p ∧
      loopStep g { conn := c, phase := .receiving } (.value p) {} =
        ({ conn := c, phase := .receiving }, [.spawned [(.request m (.arr xs), rid)]]) := by
  obtain ⟨p, h1, h3⟩ := roundtrip_request_v1 m xs rid hrid
  refine ⟨p, h1, loopStep_item g c c _ _ ?_⟩
  rw [receiveMessage_value g c p (by rw [hP]; decide), hP, h3]
  rfl

/-- the 2.0 request a peer sends is recognised as 2.0 by the auto-detection -/
theorem detect_request_v2 (m : Str) (args rid : J) (p : J)
    (h : requestPayload .v2 m args rid = .ok p) : detectProtocol p = .v2 := by
  -- whatever is appended, the payload begins with `"jsonrpc": "2.0"`
  obtain ⟨rest, rfl⟩ : ∃ rest, p = .obj ((kJsonrpc, s20) :: rest) := by
    cases h
    cases rid.isNone <;> cases (args.truthy || pyEq args (.obj [])) <;> exact ⟨_, rfl⟩
  have hv : getD kJsonrpc ((kJsonrpc, s20) :: rest) = s20 := by
    unfold getD J.lookup
    rw [if_pos rfl]; rfl
  have h20 : pyEq s20 s20 = true := by decide +kernel
  unfold detectProtocol protocolForPayload
  simp only [hv, h20, if_true]

/-- … and a connection still auto-detecting: the first valid 2.0 request fixes the protocol to
2.0 and is handed to the request handler -/
theorem serving_answers_probe_auto (g : Guards) (c : Conn) (hP : c.proto = .auto)
    (m : Str) (args rid : J) (hargs : Args args) (hrid : ReqId rid) :
    ∃ p, requestPayload .v2 m args rid = .ok p ∧
      loopStep g { conn := c, phase := .receiving } (.value p) {} =
        ({ conn := { c with proto := .v2 }, phase := .receiving },
         [.spawned [(.request m args, rid)]]) := by
  obtain ⟨p, h1, _, h3⟩ := roundtrip_request .v2 (by decide) m args rid hargs hrid
  refine ⟨p, h1, loopStep_item g c _ _ _ ?_⟩
  rw [receiveMessage_eq, if_pos hP]
  show dispatch g _ (payloadToItem (detectProtocol p) p) = _
  rw [detect_request_v2 m args rid p h1, h3]
  rfl

/-! ## The pinned tree: counter-examples (F4, F5, F6) as theorems about `Guards.pinned` -/

/-- F4: a 1.0 response whose id is a list → `TypeError: unhashable type` escapes -/
theorem F4_pinned_witness :
    (receiveMessage Guards.pinned ⟨.v1, [⟨.single (.int 0), .pending⟩, ⟨.single (.int 1), .pending⟩]⟩
      (.value (.obj [(kResult, .int 1), (kError, .null), (kId, .arr [.int 1])]))).2
      = .error (.py .typeError) := by decide +kernel

/-- … and the repaired tree turns it into a `ProtocolError` that disturbs nothing -/
theorem F4_repaired :
    ∃ e, receiveMessage Guards.repaired ⟨.v1, [⟨.single (.int 0), .pending⟩, ⟨.single (.int 1), .pending⟩]⟩
      (.value (.obj [(kResult, .int 1), (kError, .null), (kId, .arr [.int 1])]))
      = (⟨.v1, [⟨.single (.int 0), .pending⟩, ⟨.single (.int 1), .pending⟩]⟩, .error (.proto e)) :=
  ⟨invalidRequest "response to unsent request", rfl⟩

/-- F5: a 2.0 response batch with ids `0` and `"x"` (or `0` and `null`, or `null` and `null`)
→ `TypeError: '<' not supported` from `sorted` escapes -/
theorem F5_pinned_witness :
    (receiveMessage Guards.pinned ⟨.v2, [⟨.batch [.int 0, .int 1], .pending⟩]⟩
      (.value (.arr [.obj [(kJsonrpc, s20), (kResult, .int 1), (kId, .int 0)],
                     .obj [(kJsonrpc, s20), (kResult, .int 2), (kId, .str (lit "x"))]]))).2
      = .error (.py .typeError)
    ∧ (receiveMessage Guards.pinned ⟨.v2, [⟨.batch [.int 0, .int 1], .pending⟩]⟩
      (.value (.arr [.obj [(kJsonrpc, s20), (kResult, .int 1), (kId, .null)],
                     .obj [(kJsonrpc, s20), (kResult, .int 2), (kId, .null)]]))).2
      = .error (.py .typeError) := by
  decide +kernel

theorem F5_repaired :
    ∃ e, receiveMessage Guards.repaired ⟨.v2, [⟨.batch [.int 0, .int 1], .pending⟩]⟩
      (.value (.arr [.obj [(kJsonrpc, s20), (kResult, .int 1), (kId, .int 0)],
                     .obj [(kJsonrpc, s20), (kResult, .int 2), (kId, .str (lit "x"))]]))
      = (⟨.v2, [⟨.batch [.int 0, .int 1], .pending⟩]⟩, .error (.proto e)) :=
  ⟨invalidRequest "response to unsent batch", rfl⟩

/-- F6: `RecursionError` (deep nesting) and the plain `ValueError` of an over-long integer
literal escape `_message_to_payload`; at session level the message task dies with the
transport still open -/
theorem F6_pinned_witness (c : Conn) (hc : c.proto ≠ .auto) :
    (receiveMessage Guards.pinned c .recursionError).2 = .error (.py .recursionError)
    ∧ (receiveMessage Guards.pinned c .intDigitsValueError).2 = .error (.py .valueError)
    ∧ (loopStep Guards.pinned ⟨c, .receiving⟩ .recursionError {}).1.phase = .dead := by
  obtain ⟨P, out⟩ := c
  cases P <;> first | exact absurd rfl hc | exact ⟨rfl, rfl, rfl⟩

theorem pinned_not_adequate : adequate Guards.pinned = false := by decide
theorem repaired_adequate : adequate Guards.repaired = true := by decide

end Aiorpcx.C05
