import Aiorpcx.C09.Progress
import Aiorpcx.Facts.C09
/-!
# C09 — no task outlives its TaskGroup's join

Model: `Aiorpcx.C09.react` (see `Model.lean`).  The theorems quantify over **every** finite
sequence of environment actions (members and daemons spawned at any time, also by members that
are being cancelled; every outcome; external cancels; slow reactions; `join()` vs `__aexit__`
with or without a raising body; the joiner cancelled at any instant; `next_done()` callers), every
wait policy, and every order in which `_cancel_tasks` may iterate its set.
-/
namespace Aiorpcx.C09

/-- **`joined` implies everybody finished.**  In every reachable state of every group, once
`join()` has completed (`joined = True`) every task ever placed in the group - daemonic or not,
also those spawned by members while they were being cancelled - has finished. -/
theorem joined_all_done (p : Policy) (as : List Action) :
    (runAll (init p) as).1.joined = true →
    ∀ m ∈ (runAll (init p) as).1.mem, m.status = .done :=
  (reachable p as).inv.joinedDone

/-- **No task outlives the join.**  Whenever the joiner has left `join()` / `__aexit__` -
normally, because a member failed, because the body raised, or because the joining task was
cancelled - every member has finished; the one excluded exit is the joiner being cancelled
*again while it is awaiting the members it has cancelled* (`abandoned`, finding F11 below). -/
theorem join_exit_all_done (p : Policy) (as : List Action) (j : Joiner)
    (hj : (runAll (init p) as).1.joiner = some j) (hx : j.phase = .exited)
    (hclean : j.abandoned = false) :
    ∀ m ∈ (runAll (init p) as).1.mem, m.status = .done := by
  have hr := reachable p as
  exact hr.inv.joinedDone (hr.exitClean j hj hx hclean)

/-- slow members are waited for: as long as some member has not finished, a joiner that has not
been cancelled a second time is still inside `join()` -/
theorem slow_members_waited (p : Policy) (as : List Action) (j : Joiner) (m : Mem)
    (hj : (runAll (init p) as).1.joiner = some j) (hclean : j.abandoned = false)
    (hm : m ∈ (runAll (init p) as).1.mem) (hrun : m.status ≠ .done) :
    j.phase ≠ .exited := by
  intro hx
  exact hrun (join_exit_all_done p as j hj hx hclean m hm)

/-- **Nothing can be added afterwards**: once joined, `spawn`/`add_task` is refused
(RuntimeError) and the group is unchanged. -/
theorem no_add_after_join (g : G) (i : Nat) (d : Bool) (ch : List Child) (h : g.joined = true) :
    g.apply (.spawn i d ch) = (g, [Obs.spawnRefused i]) := by
  simp [G.apply, G.add, h]

/-- `joined` is never reset by the joiner's algorithm (repaired or pinned): every branch leaves
it alone, sets it, sweeps or pops -/
theorem joinerStep_joined {g : G} {perm : List Nat} {r : G × List Obs}
    (h : g.joinerStep perm = some r) (hg : g.joined = true) : r.1.joined = true := by
  have sweep : ∀ {l p}, g.deliverCancels l = p → p.1.joined = true := fun e =>
    e ▸ (mstep_deliverCancels g _).frame.joined.trans hg
  have pop : ∀ j, (g.joinerPop j).1.joined = true := fun j => by
    unfold G.joinerPop; cases g.doneq <;> exact hg
  revert h
  fun_cases G.joinerStep g perm <;> intro h <;> cases h <;>
    first | exact hg | rfl | exact pop _ | exact (sweep ‹g.deliverCancels _ = _› :)

/-- ... and `joined` is still set after the whole reactive step -/
theorem no_add_after_join_react (g : G) (i : Nat) (d : Bool) (ch : List Child)
    (h : g.joined = true) : (react g (.spawn i d ch)).1.joined = true := by
  rw [react_fst, no_add_after_join g i d ch h]
  generalize g.fuel = fuel
  induction fuel generalizing g with
  | zero => exact h
  | succ n ih =>
    unfold G.runJoiner
    cases hs : g.joinerStep (Action.spawn i d ch).perm with
    | none => exact h
    | some r => exact ih r.1 (joinerStep_joined hs h)

/-- tie to the source (regenerated from /repo each run): exactly the four policies of the model
are admitted, and `join()`'s `finally:` sweeps in a loop before setting `joined` last - the shape
`G.joinerStep`'s `.fin` branch models with `fixed = true` -/
theorem facts_join_shape : Facts.C09.admittedPolicies = ["all", "any", "object", "none"] ∧
    Facts.C09.joinFinallyLoops = true ∧ Facts.C09.joinedSetLast = true := by decide +kernel

/-- **F10 (pinned tree; repaired by the `fix:` commit).**  With the pinned `finally:` clause - a
single `_cancel_tasks(self._pending | self.daemons)` - a member that spawns a new member while
it is being cancelled makes `join()` return with `joined = True` while the new member (100) is
still running. -/
theorem join_exit_all_done_fails_pinned :
    let g := (runAll { wait := .all, fixed := false }
      [.spawn 0 false [⟨100, false⟩], .spawn 1 false [], .join [],
       .finish 1 .exc [], .finCancel 0 []]).1
    g.joined = true ∧ g.statusOf 100 = some .run := by decide +kernel

/-- the same history on the repaired model: the join goes on to cancel 100 and is still waiting -/
example :
    let g := (runAll (init .all)
      [.spawn 0 false [⟨100, false⟩], .spawn 1 false [], .join [],
       .finish 1 .exc [], .finCancel 0 []]).1
    g.joined = false ∧ g.statusOf 100 = some .canc := by decide +kernel

/-- **F11 (known finding).**  The full statement - *every* exit of the joiner, including one
forced by a second cancellation - is false of the code: cancelling the joiner again while
`join()` awaits the (slow) members it has cancelled makes it raise with both members still
running. -/
def join_exit_all_done_full : Prop :=
  ∀ (p : Policy) (as : List Action) (j : Joiner),
    (runAll (init p) as).1.joiner = some j → j.phase = .exited →
    ∀ m ∈ (runAll (init p) as).1.mem, m.status = .done

theorem join_exit_all_done_full_fails : ¬ join_exit_all_done_full := by
  intro h
  have := h .all [.spawn 0 false [], .spawn 1 false [], .join [], .cancelJoiner [0, 1],
                  .cancelJoiner []]
    { phase := .exited, snapshot := some [0, 1], exc := true, blocked := false,
      hasPermit := false, abandoned := true } (by decide +kernel) rfl
    ⟨0, false, .canc, .none, []⟩ (by decide +kernel)
  cases this

/-- a reachable, joined group with five finished tasks (member failure, a daemon, children
spawned during cancellation) -/
example :
    let g := (runAll (init .all)
      [.spawn 0 false [⟨100, false⟩, ⟨101, true⟩], .spawn 1 true [], .spawn 2 false [], .join [],
       .finish 2 .exc [0, 1], .finCancel 0 [], .finCancel 1 [], .extCancel 100 [100, 101],
       .finCancel 101 [], .finCancel 100 []]).1
    g.joined = true ∧ g.mem.length = 5 ∧ g.completed = some 2 := by decide +kernel

/-- joiner cancelled once: join re-raises after everybody finished -/
example :
    let r := runAll (init .all) [.spawn 0 false [], .join [], .cancelJoiner [0], .finCancel 0 []]
    r.1.joined = true ∧ r.2.getLast? = some [Obs.joinExit true] := by decide +kernel

/-- **`G.fuel` is adequate - termination of `join()`'s algorithm.**  For every policy and every
action sequence, no reaction runs out of fuel: after each action of the environment the joiner's
algorithm - the `next_done` loop, then the repaired clean-up "cancel every unfinished member of
`_pending | daemons`, wait for them, look again, until none is left" - comes to rest within
`G.fuel` steps.  (Measure: `Fuel.lean`, `G.mu`; a running member weighs 3 plus 3 per child it
spawns when cancelled, a cancelled one 2, a queued finisher 1; every step lowers `mu`, and
`mu < G.fuel` by `mu_lt_fuel`.) -/
theorem fuel_adequate (p : Policy) (as : List Action) :
    ∀ o ∈ (runAll (init p) as).2, Obs.outOfFuel ∉ o :=
  runAll_noOOF _ as (reach_init p)

/-- non-vacuity: a history with two clean-up sweeps (children spawned during cancellation, a
second cancellation) - nine reactions, none out of fuel, the last one is the join exit -/
example :
    let r := runAll (init .all)
      [.spawn 0 false [⟨100, false⟩, ⟨101, true⟩], .spawn 1 true [], .spawn 2 false [], .join [],
       .finish 2 .exc [0, 1], .finCancel 0 [], .finCancel 1 [], .extCancel 100 [100, 101],
       .finCancel 101 []]
    r.2.length = 9 ∧ (∀ o ∈ r.2, Obs.outOfFuel ∉ o) ∧ r.2.getLast? = some [Obs.joinExit false] := by
  decide +kernel

/-- the fuel bound is what makes the statement non-trivial: with too little fuel the same
algorithm does report `outOfFuel` -/
example : Obs.outOfFuel ∈ (G.runJoiner (setJ { wait := .all } (newJoiner .next)) [] 1).2 := by
  decide +kernel

/-- **every reaction runs to completion**: in every reachable state the joiner's algorithm has
nothing left to do - there is no joiner, or it is parked in `next_done()`, or it has exited, or
it is awaiting a snapshot of cancelled members one of which has not finished -/
theorem reaction_completes (p : Policy) (as : List Action) (perm : List Nat) :
    (runAll (init p) as).1.joinerStep perm = none := by
  rw [joinerStep_none_iff _ perm (reachable p as).fixed]
  exact reachable_quiescent p as

/-- no `next_done()` caller at all: full semaphore accounting incl. `popped = joinPopped` -/
theorem ninv_reachable (p : Policy) (as : List Action) (hnc : ∀ a ∈ as, a.isNextDone = false) :
    NInv true (runAll (init p) as).1 :=
  ninv_runAll _ as (noParking_of_noNextDone _ as hnc) (fun _ => hnc) (reach_init p) (ninv_init p)

/-- `next_done()` callers that never had to wait: the accounting still holds -/
theorem ninv_reachable_noParking (p : Policy) (as : List Action) (hnp : NoParking (init p) as) :
    NInv false (runAll (init p) as).1 :=
  ninv_runAll _ as hnp nofun (reach_init p) (ninv_init p)

/-- **No stuck state.**  In a history in which no other task ever had to *wait* in
`next_done()` (`NoParking`: callers that are served at once are allowed - exactly the situation
of F12, a caller parked on the semaphore, is excluded), after any reaction a joiner that has not
exited is waiting for a member that has not finished: either it is parked in the `next_done`
loop and some *pending* (non-daemon, unfinished) member exists, or it is in
`cancel_remaining()` / the clean-up awaiting a snapshot of cancelled members of which one has
not finished. -/
theorem joiner_waits_only_for_unfinished_of_noParking (p : Policy) (as : List Action)
    (hnp : NoParking (init p) as) (j : Joiner)
    (hj : (runAll (init p) as).1.joiner = some j) (hne : j.phase ≠ .exited) :
    (j.phase = .next ∧ j.blocked = true ∧
      ∃ m ∈ (runAll (init p) as).1.mem, m.id ∈ (runAll (init p) as).1.pending ∧
        m.daemon = false ∧ m.status ≠ .done) ∨
    ((j.phase = .cancelrem ∨ j.phase = .fin) ∧
      ∃ snap, j.snapshot = some snap ∧
        ∃ m ∈ (runAll (init p) as).1.mem, m.id ∈ snap ∧ m.status ≠ .done) := by
  have hg := reachable p as
  have hn := ninv_reachable_noParking p as hnp
  have hq := reachable_quiescent p as
  generalize (runAll (init p) as).1 = g at *
  have hji := hg.jinv
  simp only [G.Quiescent, hj] at hq
  rcases hq with hb | hx | ⟨hph, snap, hsn, hun⟩
  · left
    refine ⟨(hji.blockedNext j hj hb).1, hb, ?_⟩
    obtain ⟨_, _, hpend⟩ := hn.blocked j hj hb
    cases hp : g.pending with
    | nil => exact absurd hp hpend
    | cons i is =>
      obtain ⟨m, hm, hid, hd, hs⟩ := hg.tinv.pend i (by simp [G.core, hp])
      exact ⟨m, hm, by rw [hid]; simp, hd, hs⟩
  · exact absurd hx hne
  · right
    refine ⟨hph, snap, hsn, ?_⟩
    cases hu : g.unfinished snap with
    | nil => rw [hu] at hun; simp at hun
    | cons i is =>
      have hi : i ∈ g.unfinished snap := by rw [hu]; simp
      simp only [G.unfinished, List.mem_filter, Bool.not_eq_true'] at hi
      obtain ⟨m, hm, hid⟩ := hji.snapTracked j snap hj hsn i hi.1
      refine ⟨m, hm, by rw [hid]; exact hi.1, ?_⟩
      intro hd
      have hf : g.find i = some m := by rw [← hid]; exact find_of_mem hg.tinv.nodup hm
      have := hi.2
      simp [G.isDone, G.statusOf, hf, hd] at this

/-- the same for histories without any `next_done()` caller (no `Action.nextDone`) -/
theorem joiner_waits_only_for_unfinished (p : Policy) (as : List Action)
    (hnc : ∀ a ∈ as, a.isNextDone = false) (j : Joiner)
    (hj : (runAll (init p) as).1.joiner = some j) (hne : j.phase ≠ .exited) :
    (j.phase = .next ∧ j.blocked = true ∧
      ∃ m ∈ (runAll (init p) as).1.mem, m.id ∈ (runAll (init p) as).1.pending ∧
        m.daemon = false ∧ m.status ≠ .done) ∨
    ((j.phase = .cancelrem ∨ j.phase = .fin) ∧
      ∃ snap, j.snapshot = some snap ∧
        ∃ m ∈ (runAll (init p) as).1.mem, m.id ∈ snap ∧ m.status ≠ .done) :=
  joiner_waits_only_for_unfinished_of_noParking p as (noParking_of_noNextDone _ as hnc) j hj hne

/-- `NoParking` is observable: a caller has to wait exactly when the action reports
`nextDoneBlocked`; here a caller that is served at once, before `join()` starts -/
example :
    NoParking (init .all) [.spawn 0 false [], .finish 0 .val [], .nextDone 7 [], .spawn 1 false [],
      .join [], .finish 1 .val []] ∧
    (runAll (init .all) [.spawn 0 false [], .finish 0 .val [], .nextDone 7 [], .spawn 1 false [],
      .join [], .finish 1 .val []]).1.joined = true := by
  refine ⟨?_, by decide +kernel⟩
  simp only [NoParking, Action.isNextDone]
  decide +kernel

/-- non-vacuity of both alternatives: parked in the loop waiting for member 1; in the clean-up
waiting for the slow member 0 -/
example :
    let g := (runAll (init .all) [.spawn 0 false [], .spawn 1 false [], .join [],
      .finish 0 .val []]).1
    g.joiner.map (fun j => (j.phase, j.blocked)) = some (.next, true) ∧ g.pending = [1] := by
  decide +kernel

example :
    let g := (runAll (init .any) [.spawn 0 false [], .spawn 1 false [], .join [],
      .finish 1 .val [0]]).1
    g.joiner.map (fun j => (j.phase, j.snapshot)) = some (.fin, some [0]) ∧
    g.statusOf 0 = some .canc := by decide +kernel

/-- **"Cancels the rest".**  In the reaction in which the joiner enters the clean-up of
`join()` (it was not there before - no joiner yet, in `cancel_remaining()`, or in the `next_done`
loop - and afterwards it is in the clean-up or has left by the regular exit), every member that
was in the group when the environment's action had been applied has received a cancellation or
has finished: none of them is still plainly running.  Holds with competing `next_done()`
callers too.  (Members spawned later in the same reaction by members being cancelled are caught
by the next sweep: `join_exit_all_done`.) -/
theorem cleanup_cancels_every_unfinished (p : Policy) (as : List Action) (a : Action)
    (hpre : ∀ j, (runAll (init p) as).1.joiner = some j → j.phase = .next ∨ j.phase = .cancelrem)
    (j' : Joiner) (hj' : (react (runAll (init p) as).1 a).1.joiner = some j')
    (hph : j'.phase = .fin ∨ j'.phase = .exited) (hab : j'.abandoned = false) :
    ∀ m ∈ ((runAll (init p) as).1.apply a).1.mem,
      ∃ m' ∈ (react (runAll (init p) as).1 a).1.mem, m'.id = m.id ∧ m'.status ≠ .run := by
  have hg := reachable p as
  generalize (runAll (init p) as).1 = g at *
  have hg1 := reach_apply g a hg
  rw [react_fst] at hj' ⊢
  exact cleanup_run a.perm _ _ hg1.fixed hg1.inv hg1.tinv hg1.jinv (mu_lt_fuel _ hg1.linv)
    (astep_preFin (apply_astep g a) hg.jinv hpre) j' hj' hph hab

/-- non-vacuity: member 2 fails while 0 (which will spawn 100 when cancelled), daemon 1 and 3
(already reacting to an external cancel) are unfinished; in that reaction 0 and 1 receive the
cancellation, 3 its second one; 100 appears, running, to be caught by the next sweep -/
example :
    let g := (runAll (init .all) [.spawn 0 false [⟨100, false⟩], .spawn 1 true [],
      .spawn 2 false [], .spawn 3 false [], .extCancel 3 [], .join []]).1
    let g' := (react g (.finish 2 .exc [0, 1, 3])).1
    g.joiner.map (·.phase) = some .next ∧ g'.joiner.map (·.phase) = some .fin ∧
    g'.statusOf 0 = some .canc ∧ g'.statusOf 1 = some .canc ∧ g'.statusOf 3 = some .done ∧
    g'.statusOf 100 = some .run := by decide +kernel

/-- `Action.cancelRem` (another task calls `cancel_remaining()`; every theorem above quantifies
over it too): member 0 is reacting slowly to that sweep when `join()` starts - join sees it
pending, parks, and `joined` stays false until it has finished -/
example :
    let g := (runAll (init .all) [.spawn 0 false [], .cancelRem [0], .join []]).1
    let g' := (runAll (init .all) [.spawn 0 false [], .cancelRem [0], .join [], .finCancel 0 []]).1
    g.statusOf 0 = some .canc ∧ g.pending = [0] ∧ g.joined = false ∧
    g.joiner.map (fun j => (j.phase, j.blocked)) = some (.next, true) ∧
    g'.joined = true ∧ g'.statusOf 0 = some .done := by decide +kernel

end Aiorpcx.C09
