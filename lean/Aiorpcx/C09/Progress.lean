import Aiorpcx.C09.Exit
import Aiorpcx.C09.NoConsumer
import Aiorpcx.C09.Cleanup
/-! The invariants of every reachable state, kept by the environment's actions and by the steps
of the joiner; in such a state a reaction never runs out of fuel and ends in a quiescent state
(the joiner's algorithm has run to completion). -/
namespace Aiorpcx.C09

/-- an empty group with wait policy `p` (the repaired `join()`) -/
def init (p : Policy) : G := { wait := p }

structure Reach (g : G) : Prop where
  fixed : g.fixed = true
  inv : CInv g.core
  tinv : TInv g.core
  linv : LInv g
  jinv : JInv g
  exitClean : ExitClean g

theorem reach_init (p : Policy) : Reach (init p) :=
  ⟨rfl, ⟨List.nodup_nil, fun _ h => (nomatch h), fun h => (nomatch h)⟩,
    ⟨List.nodup_nil, fun _ h => (nomatch h), fun _ h => (nomatch h)⟩,
    ⟨rfl, List.nodup_nil, fun _ h => (nomatch h)⟩, jinv_init p, fun _ h => (nomatch h)⟩

theorem reach_astep {g : G} {a : Action} {g' : G} {o : List Obs} (hs : AStep g a g' o)
    (h : Reach g) : Reach g' :=
  have ⟨ht, _, hfix, hc⟩ := core_astep hs h.tinv
  ⟨hfix.trans h.fixed, hc h.inv, ht, linv_astep hs h.linv, jinv_astep hs h.jinv h.tinv,
    exitClean_astep hs h.exitClean⟩

theorem reach_jstep {g : G} {perm : List Nat} {j : Joiner} {g' : G} {o : List Obs}
    (h : Reach g) (hj : g.joiner = some j) (hb : j.blocked = false) (hs : JStep g perm j g' o) :
    Reach g' :=
  have ⟨ht, _, hfix, hc⟩ := core_jstep hs h.tinv
  ⟨hfix.trans h.fixed, hc h.inv, ht, linv_jstep hs h.linv, jinv_jstep hj hb h.jinv h.tinv hs,
    exitClean_jstep hs⟩

theorem reach_apply (g : G) (a : Action) (h : Reach g) : Reach (g.apply a).1 :=
  reach_astep (apply_astep g a) h

theorem reach_react (g : G) (a : Action) (h : Reach g) : Reach (react g a).1 := by
  rw [react_fst]
  exact runJoiner_keeps (fun _ h => h.fixed) reach_jstep _ _ (reach_apply g a h)

theorem reach_runAll (g : G) (as : List Action) (h : Reach g) : Reach (runAll g as).1 :=
  runAll_keeps reach_react as g h

theorem reachable (p : Policy) (as : List Action) : Reach (runAll (init p) as).1 :=
  reach_runAll _ as (reach_init p)

theorem react_terminates (g : G) (a : Action) (h : Reach g) :
    NoOOF (react g a).2 ∧ (react g a).1.Quiescent := by
  have h1 := reach_apply g a h
  have := runJoiner_terminates a.perm _ _ h1.fixed h1.tinv (mu_lt_fuel _ h1.linv)
  rw [react_fst, react_snd]
  exact ⟨noOOF_append (apply_astep g a).noOOF this.1, this.2⟩

theorem runAll_noOOF (g : G) (as : List Action) (h : Reach g) :
    ∀ o ∈ (runAll g as).2, NoOOF o := by
  induction as generalizing g with
  | nil => exact nofun
  | cons a as ih =>
    intro o ho
    rcases List.mem_cons.1 ho with rfl | ho
    · exact (react_terminates g a h).1
    · exact ih _ (reach_react g a h) o ho

theorem runAll_quiescent (g : G) (as : List Action) (h : Reach g) (hq : g.Quiescent) :
    (runAll g as).1.Quiescent :=
  (runAll_keeps (P := fun g => Reach g ∧ g.Quiescent)
    (fun g a h => ⟨reach_react g a h.1, (react_terminates g a h.1).2⟩) as g ⟨h, hq⟩).2

theorem reachable_quiescent (p : Policy) (as : List Action) : (runAll (init p) as).1.Quiescent :=
  runAll_quiescent _ as (reach_init p) trivial

theorem ninv_react {s : Bool} (g : G) (a : Action)
    (hnc : a.isNextDone = false ∨ (s = false ∧ g.consumerWouldPark = false))
    (hr : Reach g) (h : NInv s g) : NInv s (react g a).1 := by
  rw [react_fst]
  exact (runJoiner_keeps (P := fun g => Reach g ∧ NInv s g) (fun _ h => h.1.fixed)
    (fun h hj hb hs => ⟨reach_jstep h.1 hj hb hs, ninv_jstep hj hb h.2 hs⟩) _ _
    ⟨reach_apply g a hr, ninv_astep (apply_astep g a) hnc h⟩).2

/-- with `s = true` (`popped = joinPopped`) the history has no `next_done()` caller at all -/
theorem ninv_runAll {s : Bool} (g : G) (as : List Action) (hnp : NoParking g as)
    (hs : s = true → ∀ a ∈ as, a.isNextDone = false) (hr : Reach g) (h : NInv s g) :
    NInv s (runAll g as).1 := by
  induction as generalizing g with
  | nil => exact h
  | cons a as ih =>
    refine ih _ hnp.2 (fun e b hb => hs e b (List.mem_cons_of_mem _ hb)) (reach_react g a hr)
      (ninv_react g a ?_ hr h)
    cases s
    · cases hn : a.isNextDone
      · exact .inl rfl
      · exact .inr ⟨rfl, hnp.1 hn⟩
    · exact .inl (hs rfl a (List.mem_cons_self ..))

end Aiorpcx.C09
