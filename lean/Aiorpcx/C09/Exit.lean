import Aiorpcx.C09.JStep
/-! A clean exit of the joiner (not the abandoned one of F11) implies `joined`. -/
namespace Aiorpcx.C09

def ExitClean (g : G) : Prop :=
  ∀ j, g.joiner = some j → j.phase = .exited → j.abandoned = false → g.joined = true

theorem exitClean_of_frame {g g' : G} (h : Frame g g') (hg : ExitClean g) : ExitClean g' := by
  intro j' hj' hp ha
  obtain ⟨j, hj, e1, _, e2, _⟩ := h.joiner_of hj'
  rw [h.joined]
  exact hg j hj (e1 ▸ hp) (e2 ▸ ha)

theorem exitClean_setJ (g : G) {j : Joiner} {ph : Phase} (h : j.phase = ph) (hne : ph ≠ .exited) :
    ExitClean (setJ g j) := by
  intro j' hj' hp _
  cases Option.some.inj hj'
  exact absurd (h.symm.trans hp) hne

theorem exitClean_jstep {g : G} {perm : List Nat} {j : Joiner} {g' : G} {o : List Obs}
    (hs : JStep g perm j g' o) : ExitClean g' := by
  cases hs with
  | crSweep hp _ => exact exitClean_setJ _ hp nofun
  | crDone _ _ _ _ => exact exitClean_setJ _ (ph := .next) rfl nofun
  | pop _ _ =>
    obtain ⟨g0, ph, hph, e⟩ := joinerPop_joiner g j
    rw [e]
    rcases hph with rfl | rfl <;> exact exitClean_setJ _ rfl nofun
  | nowait _ _ _ => exact exitClean_setJ _ (ph := .fin) rfl nofun
  | nothingLeft _ _ _ _ _ => exact exitClean_setJ _ (ph := .fin) rfl nofun
  | park hp _ _ _ _ => exact exitClean_setJ _ hp nofun
  | acquire hp _ _ _ _ _ => exact exitClean_setJ _ hp nofun
  | finExit _ _ _ => exact fun _ _ _ _ => rfl
  | finSweep hp _ _ => exact exitClean_setJ _ hp nofun
  | finClear _ hp _ _ => exact exitClean_setJ _ hp nofun

theorem exitClean_astep {g : G} {a : Action} {g' : G} {o : List Obs} (h : AStep g a g' o)
    (hg : ExitClean g) : ExitClean g' := by
  rcases h.frame with hf | hj
  · exact exitClean_of_frame hf hg
  cases hj with
  | enter _ _ hph => rcases hph with rfl | rfl <;> exact exitClean_setJ _ rfl nofun
  | cancelLoop _ _ _ => exact exitClean_setJ _ (ph := .fin) rfl nofun
  | cancelPermit _ _ _ => exact exitClean_setJ _ (ph := .fin) rfl nofun
  | cancelAwait _ _ =>
    intro j' hj' _ ha
    cases Option.some.inj hj'
    cases ha

end Aiorpcx.C09
