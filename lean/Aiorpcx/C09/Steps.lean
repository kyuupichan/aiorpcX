import Aiorpcx.C09.Inv
/-! What the member-level primitives of the TaskGroup model (`G.add`, `G.finishMem`,
`G.addChildren`, `G.deliverCancel`, `G.deliverCancels`) do: their case equations, and the
relation `MStep` - every one of them is a sequence of four kinds of elementary change.  An
invariant is shown preserved by the elementary changes and then holds along every primitive. -/
namespace Aiorpcx.C09

theorem find_mem {g : G} {i : Nat} {m : Mem} (h : g.find i = some m) : m ∈ g.mem ∧ m.id = i := by
  unfold G.find at h
  exact ⟨List.mem_of_find?_eq_some h, by simpa using List.find?_some h⟩

theorem find_none {g : G} {i : Nat} (h : g.find i = none) : i ∉ g.mem.map (·.id) := by
  unfold G.find at h
  rw [List.find?_eq_none] at h
  intro hi
  obtain ⟨m, hm, rfl⟩ := List.mem_map.1 hi
  exact h m hm (by simp)

theorem find_of_mem {g : G} (hnd : (g.mem.map (·.id)).Nodup) {m : Mem} (hm : m ∈ g.mem) :
    g.find m.id = some m := by
  cases h : g.find m.id with
  | none => exact absurd (List.mem_map.2 ⟨m, hm, rfl⟩) (find_none h)
  | some m' =>
    obtain ⟨h1, h2⟩ := find_mem h
    rw [eq_of_nodup_map_ids _ hnd m' h1 m hm h2]

theorem mem_addUnique_iff (l : List Nat) (i x : Nat) : x ∈ addUnique l i ↔ x ∈ l ∨ x = i := by
  unfold addUnique
  split
  · rename_i h
    have hi : i ∈ l := by simpa using h
    exact ⟨Or.inl, fun h => h.elim id (fun e => e ▸ hi)⟩
  · simp

theorem orderBy_mem (perm snap : List Nat) (x : Nat) : x ∈ orderBy perm snap ↔ x ∈ snap := by
  simp only [orderBy, List.mem_append, List.mem_filter, List.contains_eq_mem, decide_eq_true_eq,
    Bool.not_eq_true', decide_eq_false_iff_not]
  by_cases hp : x ∈ perm <;> simp [hp]

theorem wake_consumer_nil {g : G} (k : Nat) (h : g.doneq = []) :
    g.wake (.consumer k) = (g, [Obs.nextDone k none]) := by
  unfold G.wake
  dsimp only
  split
  · rfl
  · rename_i h'; rw [h] at h'; cases h'

theorem wake_consumer_cons {g : G} (k : Nat) {t : Nat} {rest : List Nat} (h : g.doneq = t :: rest) :
    g.wake (.consumer k) =
      ({ g with doneq := rest, popped := g.popped ++ [t] }, [Obs.nextDone k (some t)]) := by
  unfold G.wake
  dsimp only
  split
  · rename_i h'; rw [h] at h'; cases h'
  · rename_i h'; rw [h] at h'; cases h'; rfl

theorem release_nil {g : G} (h : g.waiters = []) :
    g.release = ({ g with sem := g.sem + 1 }, []) := by
  unfold G.release
  split
  · rfl
  · rename_i h'; rw [h] at h'; cases h'

theorem release_cons {g : G} {w : Waiter} {ws : List Waiter} (h : g.waiters = w :: ws) :
    g.release = G.wake { g with waiters := ws } w := by
  unfold G.release
  split
  · rename_i h'; rw [h] at h'; cases h'
  · rename_i h'; rw [h] at h'; cases h'; rfl

theorem release_setJ {g : G} (j : Joiner) (h : Waiter.joiner ∉ g.waiters) :
    (setJ g j).release = (setJ g.release.1 j, g.release.2) := by
  cases hw : g.waiters with
  | nil => rw [release_nil (g := setJ g j) hw, release_nil hw]; rfl
  | cons w ws =>
    rw [release_cons (g := setJ g j) hw, release_cons hw]
    cases w with
    | joiner => rw [hw] at h; exact absurd (List.mem_cons_self ..) h
    | consumer k =>
      by_cases hd : g.doneq = []
      · rw [wake_consumer_nil (g := { setJ g j with waiters := ws }) k hd,
          wake_consumer_nil (g := { g with waiters := ws }) k hd]; rfl
      · obtain ⟨t, rest, hd⟩ := List.exists_cons_of_ne_nil hd
        rw [wake_consumer_cons (g := { setJ g j with waiters := ws }) k hd,
          wake_consumer_cons (g := { g with waiters := ws }) k hd]; rfl

theorem add_some {g g' : G} {i : Nat} {d : Bool} {ch : List Child} (h : g.add i d ch = some g') :
    g.joined = false ∧ g.find i = none ∧
    g' = { g with mem := g.mem ++ [⟨i, d, .run, .none, ch⟩],
                  pending := if d then g.pending else addUnique g.pending i,
                  daemons := if d then addUnique g.daemons i else g.daemons } := by
  unfold G.add at h
  split at h
  · cases h
  · split at h
    · cases h
    · rename_i hj hf
      exact ⟨by simpa using hj, by simpa using hf, (Option.some.inj h).symm⟩

/-- the state in which `_on_done` calls `Semaphore.release()`: member `i` is marked done and has
moved from `pending` to the done queue and the completion log -/
def G.queued (g : G) (i : Nat) (o : Outcome) : G :=
  { g.setMem i fun m => { m with status := .done, outcome := o } with
    pending := g.pending.filter (· != i), doneq := g.doneq ++ [i], log := g.log ++ [i] }

theorem finishMem_none {g : G} {i : Nat} (o : Outcome) (hf : g.find i = none) :
    g.finishMem i o = (g, []) := by
  unfold G.finishMem; rw [hf]

theorem finishMem_done {g : G} {i : Nat} {m : Mem} (o : Outcome) (hf : g.find i = some m)
    (hs : m.status = .done) : g.finishMem i o = (g, []) := by
  unfold G.finishMem; rw [hf]; simp only [hs, beq_self_eq_true, ↓reduceIte]

theorem finishMem_live {g : G} {i : Nat} {m : Mem} (o : Outcome) (hf : g.find i = some m)
    (hs : m.status ≠ .done) :
    g.finishMem i o =
      if m.daemon then (g.setMem i fun m => { m with status := .done, outcome := o }, [])
      else (g.queued i o).release := by
  unfold G.finishMem; rw [hf]
  simp only [beq_iff_eq, hs, ↓reduceIte]
  rfl

theorem deliverCancel_none {g : G} {i : Nat} (hf : g.find i = none) :
    g.deliverCancel i = (g, []) := by
  unfold G.deliverCancel; rw [hf]

theorem deliverCancel_done {g : G} {i : Nat} {m : Mem} (hf : g.find i = some m)
    (hs : m.status = .done) : g.deliverCancel i = (g, []) := by
  unfold G.deliverCancel; rw [hf]; simp only [hs]

theorem deliverCancel_canc {g : G} {i : Nat} {m : Mem} (hf : g.find i = some m)
    (hs : m.status = .canc) : g.deliverCancel i = g.finishMem i .cancelled := by
  unfold G.deliverCancel; rw [hf]; simp only [hs]

theorem deliverCancel_run {g g2 : G} {i : Nat} {m : Mem} (hf : g.find i = some m)
    (hs : m.status = .run)
    (h : (g.setMem i fun m => { m with status := .canc }).addChildren m.children = (g2, [])) :
    g.deliverCancel i = (g2, [Obs.cancelReceived i]) := by
  unfold G.deliverCancel; rw [hf]; simp only [hs, h]

/-- the member's own spawn was refused (`RuntimeError`): it dies of that exception -/
theorem deliverCancel_refused {g g2 : G} {i : Nat} {m : Mem} {c : Child} {cs : List Child}
    (hf : g.find i = some m) (hs : m.status = .run)
    (h : (g.setMem i fun m => { m with status := .canc }).addChildren m.children = (g2, c :: cs)) :
    g.deliverCancel i = ((g2.finishMem i .exc).1,
      [Obs.cancelReceived i, Obs.spawnRefused c.id] ++ (g2.finishMem i .exc).2) := by
  unfold G.deliverCancel; rw [hf]; simp only [hs, h]

theorem deliverCancels_cons (g : G) (i : Nat) (is : List Nat) :
    g.deliverCancels (i :: is) =
      (((g.deliverCancel i).1.deliverCancels is).1,
       (g.deliverCancel i).2 ++ ((g.deliverCancel i).1.deliverCancels is).2) := rfl

/-- `MStep g g' o`: the group goes from `g` to `g'`, reporting `o`, by members being added,
receiving their first cancellation, finishing, or having a spawn refused -/
inductive MStep : G → G → List Obs → Prop where
  | refl (g : G) : MStep g g []
  | add {g g' : G} {i : Nat} {d : Bool} {ch : List Child} : g.add i d ch = some g' → MStep g g' []
  | canc {g : G} {i : Nat} {m : Mem} : g.find i = some m → m.status = .run →
      MStep g (g.setMem i fun m => { m with status := .canc }) [Obs.cancelReceived i]
  | fin {g : G} {i : Nat} {m : Mem} (o : Outcome) : g.find i = some m → m.status ≠ .done →
      MStep g (g.finishMem i o).1 (g.finishMem i o).2
  | refused (g : G) (c : Nat) : MStep g g [Obs.spawnRefused c]
  | trans {a b c : G} {o1 o2 : List Obs} : MStep a b o1 → MStep b c o2 → MStep a c (o1 ++ o2)

theorem mstep_finishMem (g : G) (i : Nat) (o : Outcome) :
    MStep g (g.finishMem i o).1 (g.finishMem i o).2 := by
  cases hf : g.find i with
  | none => rw [finishMem_none o hf]; exact .refl g
  | some m =>
    by_cases hs : m.status = .done
    · rw [finishMem_done o hf hs]; exact .refl g
    · exact .fin o hf hs

theorem mstep_addChildren (g : G) (cs : List Child) : MStep g (g.addChildren cs).1 [] := by
  induction cs generalizing g with
  | nil => exact .refl g
  | cons c cs ih =>
    unfold G.addChildren
    cases h : g.add c.id c.daemon [] with
    | none => exact .refl g
    | some g' => exact .trans (.add h) (ih g')

theorem mstep_deliverCancel (g : G) (i : Nat) :
    MStep g (g.deliverCancel i).1 (g.deliverCancel i).2 := by
  cases hf : g.find i with
  | none => rw [deliverCancel_none hf]; exact .refl g
  | some m =>
    cases hs : m.status with
    | done => rw [deliverCancel_done hf hs]; exact .refl g
    | canc => rw [deliverCancel_canc hf hs]; exact mstep_finishMem g i _
    | run =>
      have h2 := mstep_addChildren (g.setMem i fun m => { m with status := .canc }) m.children
      rcases h : (g.setMem i fun m => { m with status := .canc }).addChildren m.children with
        ⟨g2, _ | ⟨c, cs⟩⟩
      · rw [deliverCancel_run hf hs h]; rw [h] at h2
        exact .trans (.canc hf hs) h2
      · rw [deliverCancel_refused hf hs h]; rw [h] at h2
        -- elaborated first, so that the two observation lists are only compared by computation
        have := MStep.trans (.trans (.canc hf hs) h2)
          (.trans (.refused g2 c.id) (mstep_finishMem g2 i .exc))
        exact this

theorem mstep_deliverCancels (g : G) (l : List Nat) :
    MStep g (g.deliverCancels l).1 (g.deliverCancels l).2 := by
  induction l generalizing g with
  | nil => exact .refl g
  | cons i is ih => rw [deliverCancels_cons]; exact .trans (mstep_deliverCancel g i) (ih _)

/-- what `Semaphore.release()` does to a parked joiner -/
def woken (j : Joiner) : Joiner := { j with blocked := false, hasPermit := true }

/-- the policy, the flags and what the join loop recorded stay; the joiner's record too, except
that it may be woken -/
structure Frame (g g' : G) : Prop where
  wait : g'.wait = g.wait
  fixed : g'.fixed = g.fixed
  joined : g'.joined = g.joined
  completed : g'.completed = g.completed
  joinPopped : g'.joinPopped = g.joinPopped
  joiner : g'.joiner = g.joiner ∨ g'.joiner = g.joiner.map woken

theorem Frame.refl (g : G) : Frame g g := ⟨rfl, rfl, rfl, rfl, rfl, .inl rfl⟩

theorem Frame.trans {a b c : G} (h1 : Frame a b) (h2 : Frame b c) : Frame a c := by
  refine ⟨h2.wait.trans h1.wait, h2.fixed.trans h1.fixed, h2.joined.trans h1.joined,
    h2.completed.trans h1.completed, h2.joinPopped.trans h1.joinPopped, ?_⟩
  rcases h1.joiner with e1 | e1 <;> rcases h2.joiner with e2 | e2 <;> rw [e2, e1]
  · exact .inl rfl
  · exact .inr rfl
  · exact .inr rfl
  · right; cases a.joiner <;> rfl

theorem Frame.joiner_of {g g' : G} (h : Frame g g') {j' : Joiner} (hj' : g'.joiner = some j') :
    ∃ j, g.joiner = some j ∧ j'.phase = j.phase ∧ j'.snapshot = j.snapshot ∧
      j'.abandoned = j.abandoned ∧ (j'.blocked = true → j' = j) := by
  rcases h.joiner with e | e <;> rw [e] at hj'
  · exact ⟨j', hj', rfl, rfl, rfl, fun _ => rfl⟩
  · cases hj : g.joiner with
    | none => rw [hj] at hj'; cases hj'
    | some j =>
      rw [hj] at hj'; cases Option.some.inj hj'
      exact ⟨j, rfl, rfl, rfl, rfl, fun h => (nomatch h)⟩

theorem Frame.wake {g g0 : G} (h : Frame g g0) (w : Waiter) : Frame g (g0.wake w).1 := by
  refine h.trans ?_
  unfold G.wake
  cases w with
  | joiner => exact ⟨rfl, rfl, rfl, rfl, rfl, .inr rfl⟩
  | consumer k => cases g0.doneq <;> exact ⟨rfl, rfl, rfl, rfl, rfl, .inl rfl⟩

theorem Frame.release {g g0 : G} (h : Frame g g0) : Frame g g0.release.1 := by
  unfold G.release
  cases g0.waiters with
  | nil => exact h.trans ⟨rfl, rfl, rfl, rfl, rfl, .inl rfl⟩
  | cons w ws =>
    exact (h.trans (c := { g0 with waiters := ws }) ⟨rfl, rfl, rfl, rfl, rfl, .inl rfl⟩).wake w

theorem MStep.frame {g g' : G} {o : List Obs} (h : MStep g g' o) : Frame g g' := by
  induction h with
  | refl g => exact .refl g
  | add h => obtain ⟨_, _, rfl⟩ := add_some h; exact ⟨rfl, rfl, rfl, rfl, rfl, .inl rfl⟩
  | canc _ _ => exact ⟨rfl, rfl, rfl, rfl, rfl, .inl rfl⟩
  | @fin g i m o hf hs =>
    rw [finishMem_live o hf hs]
    split
    · exact ⟨rfl, rfl, rfl, rfl, rfl, .inl rfl⟩
    · exact Frame.release (g0 := g.queued i o) ⟨rfl, rfl, rfl, rfl, rfl, .inl rfl⟩
  | refused g c => exact .refl g
  | trans _ _ ih1 ih2 => exact ih1.trans ih2

theorem MStep.joiner_kept {g g' : G} {o : List Obs} (h : MStep g g' o)
    (hw : Waiter.joiner ∉ g.waiters) : g'.joiner = g.joiner ∧ Waiter.joiner ∉ g'.waiters := by
  induction h with
  | refl g => exact ⟨rfl, hw⟩
  | refused g c => exact ⟨rfl, hw⟩
  | add h => obtain ⟨_, _, rfl⟩ := add_some h; exact ⟨rfl, hw⟩
  | canc _ _ => exact ⟨rfl, hw⟩
  | trans _ _ ih1 ih2 => exact ⟨(ih2 (ih1 hw).2).1.trans (ih1 hw).1, (ih2 (ih1 hw).2).2⟩
  | @fin g i m o hf hs =>
    rw [finishMem_live o hf hs]
    split
    · exact ⟨rfl, hw⟩
    · unfold G.release
      have hw' : Waiter.joiner ∉ (g.queued i o).waiters := hw
      cases hq : (g.queued i o).waiters with
      | nil => exact ⟨rfl, by rw [hq] at hw'; exact hw'⟩
      | cons w ws =>
        rw [hq] at hw'
        cases w with
        | joiner => exact absurd (List.mem_cons_self ..) hw'
        | consumer k =>
          have hws : Waiter.joiner ∉ ws := fun h => hw' (List.mem_cons_of_mem _ h)
          unfold G.wake
          cases (g.queued i o).doneq <;> exact ⟨rfl, hws⟩

@[simp] theorem core_setJ (g : G) (j : Joiner) : (setJ g j).core = g.core := rfl

theorem core_joinerPop (g : G) (j : Joiner) : (g.joinerPop j).1.core = g.core := by
  unfold G.joinerPop
  cases g.doneq <;> rfl

theorem core_wake (g : G) (w : Waiter) : (g.wake w).1.core = g.core := by
  unfold G.wake
  cases w with
  | joiner => rfl
  | consumer k => cases g.doneq <;> rfl

theorem core_release (g : G) : g.release.1.core = g.core := by
  unfold G.release
  cases g.waiters with
  | nil => rfl
  | cons w ws => exact core_wake { g with waiters := ws } w

/-- the member found under a unique id is the only one `setMem` changes -/
theorem eq_of_find {g : G} (hnd : (g.mem.map (·.id)).Nodup) {i : Nat} {m0 m : Mem}
    (hf : g.find i = some m0) (hm : m ∈ g.mem) (hmi : (m.id == i) = true) : m = m0 :=
  eq_of_nodup_map_ids _ hnd m hm m0 (find_mem hf).1 ((beq_iff_eq.1 hmi).trans (find_mem hf).2.symm)

theorem nodup_setMem {g : G} (hnd : (g.mem.map (·.id)).Nodup) (i : Nat) {f : Mem → Mem}
    (hf : ∀ m, (f m).id = m.id) : ((g.setMem i f).mem.map (·.id)).Nodup := by
  rw [show (g.setMem i f).mem.map (·.id) = g.mem.map (·.id) from map_ids_update _ _ _ hf]
  exact hnd

theorem nodup_snoc {g : G} (hnd : (g.mem.map (·.id)).Nodup) {m : Mem} (hf : g.find m.id = none) :
    ((g.mem ++ [m]).map (·.id)).Nodup := by
  rw [List.map_append, List.nodup_append]
  refine ⟨hnd, by simp, ?_⟩
  intro x hx y hy hxy
  rw [List.mem_singleton.1 hy] at hxy
  subst hxy
  exact find_none hf hx

theorem MStep.tinv {g g' : G} {o : List Obs} (h : MStep g g' o) (ht : TInv g.core) :
    TInv g'.core := by
  induction h with
  | refl g => exact ht
  | refused g c => exact ht
  | trans _ _ ih1 ih2 => exact ih2 (ih1 ht)
  | @add g g' i d ch h =>
    obtain ⟨_, hf, rfl⟩ := add_some h
    have old : ∀ {x : Mem}, x ∈ g.mem → x ∈ g.mem ++ [(⟨i, d, .run, .none, ch⟩ : Mem)] :=
      fun hx => List.mem_append_left _ hx
    refine ⟨nodup_snoc ht.nodup hf, ?_, ?_⟩
    · intro x hx
      have hx' : x ∈ g.pending ∨ x = i := by
        cases d
        · exact (mem_addUnique_iff _ _ _).1 hx
        · exact .inl hx
      rcases hx' with hx' | rfl
      · obtain ⟨m, hm, h1⟩ := ht.pend x hx'; exact ⟨m, old hm, h1⟩
      · cases d
        · exact ⟨_, List.mem_append_right _ (List.mem_singleton.2 rfl), rfl, rfl, by simp⟩
        · obtain ⟨m, hm, h1⟩ := ht.pend x hx; exact ⟨m, old hm, h1⟩
    · intro x hx
      have hx' : x ∈ g.daemons ∨ (x = i ∧ d = true) := by
        cases d
        · exact .inl hx
        · exact ((mem_addUnique_iff _ _ _).1 hx).imp_right fun e => ⟨e, rfl⟩
      rcases hx' with hx' | ⟨rfl, rfl⟩
      · obtain ⟨m, hm, h1⟩ := ht.daem x hx'; exact ⟨m, old hm, h1⟩
      · exact ⟨_, List.mem_append_right _ (List.mem_singleton.2 rfl), rfl, rfl⟩
  | @canc g i m0 hf hs =>
    refine ⟨nodup_setMem ht.nodup i (by intro _; rfl), ?_, ?_⟩
    · intro x hx
      obtain ⟨m, hm, h1, h2, h3⟩ := ht.pend x hx
      refine ⟨_, List.mem_map_of_mem hm, ?_⟩
      split <;> simp [h1, h2, h3]
    · intro x hx
      obtain ⟨m, hm, h1, h2⟩ := ht.daem x hx
      refine ⟨_, List.mem_map_of_mem hm, ?_⟩
      split <;> simp [h1, h2]
  | @fin g i m0 o hf hs =>
    have hdaem : ∀ x ∈ g.daemons, ∃ m ∈ g.mem.map
        (fun m => if m.id == i then { m with status := .done, outcome := o } else m),
        m.id = x ∧ m.daemon = true := by
      intro x hx
      obtain ⟨m, hm, h1, h2⟩ := ht.daem x hx
      refine ⟨_, List.mem_map_of_mem hm, ?_⟩
      split <;> simp [h1, h2]
    have hnodup := nodup_setMem ht.nodup i
      (f := fun m => { m with status := .done, outcome := o }) (by intro _; rfl)
    rw [finishMem_live o hf hs]
    split
    · rename_i hd
      refine ⟨hnodup, ?_, hdaem⟩
      intro x hx
      obtain ⟨m, hm, h1, h2, h3⟩ := ht.pend x hx
      refine ⟨_, List.mem_map_of_mem hm, ?_⟩
      by_cases hmi : (m.id == i) = true
      · rw [eq_of_find ht.nodup hf hm hmi, hd] at h2; cases h2
      · rw [if_neg hmi]; exact ⟨h1, h2, h3⟩
    · rw [core_release]
      refine ⟨hnodup, ?_, hdaem⟩
      intro x hx
      obtain ⟨hx, hne⟩ := List.mem_filter.1 hx
      obtain ⟨m, hm, h1, h2, h3⟩ := ht.pend x hx
      refine ⟨_, List.mem_map_of_mem hm, ?_⟩
      have hmi : ¬ (m.id == i) = true := by rw [h1]; simpa using hne
      rw [if_neg hmi]; exact ⟨h1, h2, h3⟩

theorem memLe_setMem {g : G} (hnd : (g.mem.map (·.id)).Nodup) {i : Nat} {m0 : Mem}
    (hf : g.find i = some m0) (f : Mem → Mem)
    (h : (f m0).id = m0.id ∧ (f m0).daemon = m0.daemon ∧ rank (f m0).status ≤ rank m0.status) :
    MemLe g.mem (g.setMem i f).mem := by
  intro m hm
  refine ⟨_, List.mem_map_of_mem hm, ?_⟩
  split
  · rename_i hmi; rw [eq_of_find hnd hf hm hmi]; exact h
  · exact ⟨rfl, rfl, Nat.le_refl _⟩

theorem MStep.memLe {g g' : G} {o : List Obs} (h : MStep g g' o) (ht : TInv g.core) :
    MemLe g.mem g'.mem := by
  induction h with
  | refl g => exact .refl _
  | refused g c => exact .refl _
  | trans h1 _ ih1 ih2 => exact (ih1 ht).trans (ih2 (h1.tinv ht))
  | add h => obtain ⟨_, _, rfl⟩ := add_some h; exact fun m hm => ⟨m, by simp [hm], rfl, rfl, Nat.le_refl _⟩
  | canc hf hs => exact memLe_setMem ht.nodup hf _ ⟨rfl, rfl, by simp [rank, hs]⟩
  | @fin g i m o hf hs =>
    have := memLe_setMem ht.nodup hf (fun m => { m with status := .done, outcome := o })
      ⟨rfl, rfl, by simp [rank]⟩
    rw [finishMem_live o hf hs]
    split
    · exact this
    · rw [show (g.queued i o).release.1.mem = _ from congrArg Core.mem (core_release _)]
      exact this

theorem MStep.cinv {g g' : G} {o : List Obs} (h : MStep g g' o) (hc : CInv g.core) :
    CInv g'.core := by
  induction h with
  | refl g => exact hc
  | refused g c => exact hc
  | trans _ _ ih1 ih2 => exact ih2 (ih1 hc)
  | @add g g' i d ch h =>
    obtain ⟨hj, hf, rfl⟩ := add_some h
    refine ⟨nodup_snoc hc.nodup hf, ?_, ?_⟩
    · intro x hx hnd
      rcases List.mem_append.1 hx with hx | hx
      · refine (hc.covered x hx hnd).imp (fun h => ?_) (fun h => ?_)
        · show x.id ∈ if d then g.pending else addUnique g.pending i
          split
          · exact h
          · exact (mem_addUnique_iff _ _ _).2 (.inl h)
        · show x.id ∈ if d then addUnique g.daemons i else g.daemons
          split
          · exact (mem_addUnique_iff _ _ _).2 (.inl h)
          · exact h
      · rw [List.mem_singleton.1 hx]
        cases d
        · exact .inl ((mem_addUnique_iff _ _ _).2 (.inr rfl))
        · exact .inr ((mem_addUnique_iff _ _ _).2 (.inr rfl))
    · intro h; rw [show g.joined = false from hj] at h; cases h
  | @canc g i m0 hf hs =>
    obtain ⟨hmem, _⟩ := find_mem hf
    refine ⟨nodup_setMem hc.nodup i (by intro _; rfl), ?_, ?_⟩
    · intro x hx hnd
      obtain ⟨y, hy, rfl⟩ := List.mem_map.1 hx
      have hne : y.status ≠ .done := by
        intro hyd
        by_cases hyi : (y.id == i) = true
        · rw [eq_of_find hc.nodup hf hy hyi, hs] at hyd; cases hyd
        · rw [if_neg hyi] at hnd; exact hnd hyd
      have := hc.covered y hy hne
      split <;> exact this
    · intro hj
      have := hc.joinedDone hj m0 hmem
      rw [hs] at this; cases this
  | @fin g i m0 o hf hs =>
    have key : ∀ p' : List Nat, (∀ x ∈ g.pending, x ≠ i → x ∈ p') →
        CInv ⟨g.mem.map (fun m => if m.id == i then { m with status := .done, outcome := o } else m),
          p', g.daemons, g.joined, g.fixed⟩ := by
      intro p' hp
      refine ⟨nodup_setMem hc.nodup i (by intro _; rfl), ?_, ?_⟩
      · intro x hx hnd
        obtain ⟨y, hy, rfl⟩ := List.mem_map.1 hx
        by_cases hyi : (y.id == i) = true
        · rw [if_pos hyi] at hnd; exact absurd rfl hnd
        · rw [if_neg hyi] at hnd ⊢
          exact (hc.covered y hy hnd).imp_left fun h => hp _ h (by simpa using hyi)
      · intro hj x hx
        obtain ⟨y, hy, rfl⟩ := List.mem_map.1 hx
        split
        · rfl
        · exact hc.joinedDone hj y hy
    rw [finishMem_live o hf hs]
    split
    · exact key g.pending fun x hx _ => hx
    · rw [core_release]
      exact key _ fun x hx hne => List.mem_filter.2 ⟨hx, by simpa using hne⟩

end Aiorpcx.C09
