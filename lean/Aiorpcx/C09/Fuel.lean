import Aiorpcx.C09.JStep
import Aiorpcx.C10.Queue
/-!
# Termination of the joiner's algorithm: `G.fuel` is adequate

`react` runs the joiner (the `next_done` loop, then the repeated clean-up sweeps of the repaired
`join()`: "cancel every unfinished member, wait, look again") on fuel.  This file gives the
termination measure and proves that the fuel never runs out.

* potential `psi`: a running member weighs `3 + 3 * (number of children it spawns when cancelled)`
  (each child, once spawned, is a running member without children: 3), a member reacting to a
  cancellation 2, a finished one 0; plus 1 per queued entry of the done queue.  Delivering a
  cancellation to an unfinished member strictly lowers it (the children it adds are paid for by the
  parent), finishing a member lowers it (the queue entry is paid by the member's weight), a pop
  lowers it.
* measure `mu = 2 * psi + (phase constant)`: every `JStep` lowers it.
* `mu < G.fuel` in every state satisfying the queue invariant `LInv` (the done queue holds
  distinct finished members).
-/
namespace Aiorpcx.C09

def wMem (m : Mem) : Nat :=
  match m.status with
  | .run => 3 + 3 * m.children.length
  | .canc => 2
  | .done => 0

def wSum : List Mem → Nat
  | [] => 0
  | m :: ms => wMem m + wSum ms

def G.psi (g : G) : Nat := wSum g.mem + g.doneq.length

def NoOOF (o : List Obs) : Prop := Obs.outOfFuel ∉ o

theorem noOOF_nil : NoOOF [] := by simp [NoOOF]

theorem noOOF_append {a b : List Obs} (ha : NoOOF a) (hb : NoOOF b) : NoOOF (a ++ b) := by
  simp only [NoOOF, List.mem_append, not_or] at *
  exact ⟨ha, hb⟩

theorem noOOF_wake (g : G) (w : Waiter) : NoOOF (g.wake w).2 := by
  unfold G.wake
  cases w with
  | joiner => exact noOOF_nil
  | consumer k => cases g.doneq <;> simp [NoOOF]

theorem noOOF_release (g : G) : NoOOF g.release.2 := by
  unfold G.release
  cases g.waiters with
  | nil => exact noOOF_nil
  | cons w ws => exact noOOF_wake _ w

/-- `outOfFuel` is reported by `runJoiner` alone -/
theorem MStep.noOOF {g g' : G} {o : List Obs} (h : MStep g g' o) : NoOOF o := by
  induction h with
  | refl g => exact noOOF_nil
  | add _ => exact noOOF_nil
  | canc _ _ => simp [NoOOF]
  | refused g c => simp [NoOOF]
  | trans _ _ ih1 ih2 => exact noOOF_append ih1 ih2
  | fin o hf hs =>
    rw [finishMem_live o hf hs]
    split
    · exact noOOF_nil
    · exact noOOF_release _

theorem AStep.noOOF {g : G} {a : Action} {g' : G} {o : List Obs} (h : AStep g a g' o) :
    NoOOF o := by
  cases h with
  | member m => exact m.noOOF
  | nextDoneServe _ _ _ _ _ => exact noOOF_wake _ _
  | invalid _ => simp [NoOOF]
  | nextDoneNone _ _ _ _ => simp [NoOOF]
  | nextDonePark _ _ _ _ => simp [NoOOF]
  | joiner hj =>
    cases hj with
    | cancelPermit _ _ _ => exact noOOF_release _
    | enter _ _ _ => exact noOOF_nil
    | cancelLoop _ _ _ => exact noOOF_nil
    | cancelAwait _ _ => simp [NoOOF]

theorem wSum_append (a b : List Mem) : wSum (a ++ b) = wSum a + wSum b := by
  induction a with
  | nil => simp [wSum]
  | cons m ms ih => simp only [List.cons_append, wSum, ih]; omega

theorem map_upd_id (ms : List Mem) (i : Nat) (f : Mem → Mem) (h : ∀ x ∈ ms, x.id ≠ i) :
    ms.map (fun m => if m.id == i then f m else m) = ms := by
  induction ms with
  | nil => rfl
  | cons m ms ih =>
    have hm : ¬ (m.id == i) = true := by simpa using h m (by simp)
    rw [List.map_cons, if_neg hm, ih (fun x hx => h x (by simp [hx]))]

theorem wSum_update (ms : List Mem) (i : Nat) (f : Mem → Mem) (m0 : Mem)
    (hnd : (ms.map (·.id)).Nodup) (hm0 : m0 ∈ ms) (hid : m0.id = i) :
    wSum (ms.map fun m => if m.id == i then f m else m) + wMem m0 = wSum ms + wMem (f m0) := by
  induction ms with
  | nil => cases hm0
  | cons m ms ih =>
    simp only [List.map_cons, List.nodup_cons, List.mem_map, not_exists, not_and] at hnd
    rcases List.mem_cons.1 hm0 with rfl | hm0
    · have htail : ∀ x ∈ ms, x.id ≠ i := fun x hx hxi => hnd.1 x hx (hxi.trans hid.symm)
      have hhead : (m0.id == i) = true := by simp [hid]
      simp only [List.map_cons, hhead, ↓reduceIte, wSum, map_upd_id ms i f htail]
      omega
    · have hne : ¬ (m.id == i) = true := by
        rw [beq_iff_eq]
        exact fun hmi => hnd.1 m0 hm0 (hid.trans hmi.symm)
      have := ih hnd.2 hm0
      simp only [List.map_cons, if_neg hne, wSum]
      omega

theorem wSum_le (ms : List Mem) :
    wSum ms ≤ 3 * ms.length + 3 * (ms.map (·.children.length)).sum := by
  induction ms with
  | nil => simp [wSum]
  | cons m ms ih =>
    simp only [wSum, List.length_cons, List.map_cons, List.sum_cons]
    have : wMem m ≤ 3 + 3 * m.children.length := by
      unfold wMem; cases m.status <;> simp <;> omega
    omega

theorem wMem_ge_two {m : Mem} (h : m.status ≠ .done) : 2 ≤ wMem m := by
  unfold wMem
  cases hs : m.status with
  | done => exact absurd hs h
  | run => simp; omega
  | canc => simp

theorem psi_setMem {g : G} (hnd : (g.mem.map (·.id)).Nodup) {i : Nat} {m0 : Mem}
    (hf : g.find i = some m0) (f : Mem → Mem) :
    (g.setMem i f).psi + wMem m0 = g.psi + wMem (f m0) := by
  have := wSum_update g.mem i f m0 hnd (find_mem hf).1 (find_mem hf).2
  simp only [G.psi, G.setMem]
  omega

theorem psi_wake (g : G) (w : Waiter) : (g.wake w).1.psi ≤ g.psi := by
  unfold G.wake
  cases w with
  | joiner => exact Nat.le_refl _
  | consumer k =>
    cases hd : g.doneq with
    | nil => exact Nat.le_refl _
    | cons t rest => simp only [G.psi, hd, List.length_cons]; omega

theorem psi_release (g : G) : g.release.1.psi ≤ g.psi := by
  unfold G.release
  cases g.waiters with
  | nil => exact Nat.le_refl _
  | cons w ws => exact psi_wake { g with waiters := ws } w

/-- a member that finishes pays for its queue entry out of its weight -/
theorem psi_finishMem_live {g : G} (hnd : (g.mem.map (·.id)).Nodup) {i : Nat} {m : Mem}
    (o : Outcome) (hf : g.find i = some m) (hs : m.status ≠ .done) :
    (g.finishMem i o).1.psi + 1 ≤ g.psi := by
  have hw := wMem_ge_two hs
  have key := psi_setMem hnd hf fun m => { m with status := .done, outcome := o }
  rw [show wMem ({ m with status := .done, outcome := o } : Mem) = 0 from rfl] at key
  rw [finishMem_live o hf hs]
  split
  · dsimp only; omega
  · refine Nat.le_trans (Nat.add_le_add_right (psi_release _) 1) ?_
    simp only [G.psi, G.queued, G.setMem, List.length_append, List.length_cons,
      List.length_nil] at key ⊢
    omega

theorem psi_finishMem (g : G) (i : Nat) (o : Outcome) (hnd : (g.mem.map (·.id)).Nodup) :
    (g.finishMem i o).1.psi ≤ g.psi := by
  cases hf : g.find i with
  | none => rw [finishMem_none o hf]; exact Nat.le_refl _
  | some m =>
    by_cases hs : m.status = .done
    · rw [finishMem_done o hf hs]; exact Nat.le_refl _
    · exact Nat.le_of_succ_le (psi_finishMem_live hnd o hf hs)

theorem psi_addChildren (g : G) (cs : List Child) :
    (g.addChildren cs).1.psi ≤ g.psi + 3 * cs.length := by
  induction cs generalizing g with
  | nil => exact Nat.le_refl _
  | cons c cs ih =>
    unfold G.addChildren
    cases h : g.add c.id c.daemon [] with
    | none => exact Nat.le_add_right _ _
    | some g' =>
      obtain ⟨_, _, rfl⟩ := add_some h
      refine Nat.le_trans (ih _) ?_
      simp only [G.psi, wSum_append, wSum, wMem, List.length_nil, List.length_cons]
      omega

/-- a cancellation delivered to an unfinished member lowers the potential: a running member
gives up `1 + 3 * children` of its weight, of which the children it spawns take `3` each -/
theorem psi_deliverCancel_live {g : G} (hinv : TInv g.core) {i : Nat} {m : Mem}
    (hf : g.find i = some m) (hs : m.status ≠ .done) : (g.deliverCancel i).1.psi + 1 ≤ g.psi := by
  cases hst : m.status with
  | done => exact absurd hst hs
  | canc => rw [deliverCancel_canc hf hst]; exact psi_finishMem_live hinv.nodup _ hf hs
  | run =>
    have key := psi_setMem hinv.nodup hf fun m => { m with status := .canc }
    rw [show wMem m = 3 + 3 * m.children.length by simp [wMem, hst],
      show wMem ({ m with status := .canc } : Mem) = 2 from rfl] at key
    have hp := psi_addChildren (g.setMem i fun m => { m with status := .canc }) m.children
    have h2 := mstep_addChildren (g.setMem i fun m => { m with status := .canc }) m.children
    rcases h : (g.setMem i fun m => { m with status := .canc }).addChildren m.children with
      ⟨g2, _ | ⟨c, cs⟩⟩ <;> rw [h] at hp h2
    · rw [deliverCancel_run hf hst h]; simp only [] at hp ⊢; omega
    · rw [deliverCancel_refused hf hst h]
      have := psi_finishMem g2 i .exc (((MStep.canc hf hst).trans h2).tinv hinv).nodup
      simp only [] at hp ⊢; omega

theorem psi_deliverCancel (g : G) (i : Nat) (hinv : TInv g.core) :
    (g.deliverCancel i).1.psi ≤ g.psi := by
  cases hf : g.find i with
  | none => rw [deliverCancel_none hf]; exact Nat.le_refl _
  | some m =>
    by_cases hs : m.status = .done
    · rw [deliverCancel_done hf hs]; exact Nat.le_refl _
    · exact Nat.le_of_succ_le (psi_deliverCancel_live hinv hf hs)

theorem psi_deliverCancels (g : G) (l : List Nat) (hinv : TInv g.core) :
    (g.deliverCancels l).1.psi ≤ g.psi := by
  induction l generalizing g with
  | nil => exact Nat.le_refl _
  | cons i is ih =>
    rw [deliverCancels_cons]
    exact Nat.le_trans (ih _ ((mstep_deliverCancel g i).tinv hinv)) (psi_deliverCancel g i hinv)

theorem psi_deliverCancels_live {g : G} (hinv : TInv g.core) {i : Nat} {m : Mem} (is : List Nat)
    (hf : g.find i = some m) (hs : m.status ≠ .done) :
    (g.deliverCancels (i :: is)).1.psi + 1 ≤ g.psi := by
  rw [deliverCancels_cons]
  exact Nat.le_trans
    (Nat.add_le_add_right (psi_deliverCancels _ is ((mstep_deliverCancel g i).tinv hinv)) 1)
    (psi_deliverCancel_live hinv hf hs)

def G.mu (g : G) : Nat :=
  match g.joiner with
  | none => 0
  | some j =>
    if j.blocked then 0 else
    match j.phase with
    | .exited => 0
    | .cancelrem => 2 * g.psi + 5 + (if j.snapshot.isNone then 1 else 0)
    | .next => 2 * g.psi + 3 + (if j.hasPermit then 0 else 1)
    | .fin => 2 * g.psi + 1 + (if j.snapshot.isSome then 1 else 0)

theorem rem_unfinished {g : G} (hinv : TInv g.core) {x : Nat} (hx : x ∈ g.rem) :
    ∃ m, g.find x = some m ∧ m.status ≠ .done := by
  obtain ⟨hin, hnd⟩ := mem_rem.1 hx
  have hex : ∃ m ∈ g.mem, m.id = x := by
    rcases hin with h | h
    · obtain ⟨m, hm, h1, _⟩ := hinv.pend x h; exact ⟨m, hm, h1⟩
    · obtain ⟨m, hm, h1, _⟩ := hinv.daem x h; exact ⟨m, hm, h1⟩
  obtain ⟨m, hm, rfl⟩ := hex
  have hf := find_of_mem hinv.nodup hm
  exact ⟨m, hf, fun hd => by rw [(isDone_of_find hf).2 hd] at hnd; cases hnd⟩

theorem psi_setJ (g : G) (j : Joiner) : (setJ g j).psi = g.psi := rfl

/-- **every step of the joiner's algorithm lowers the measure** -/
theorem mu_jstep {g : G} {perm : List Nat} {j : Joiner} {g' : G} {o : List Obs}
    (hj : g.joiner = some j) (hb : j.blocked = false) (hinv : TInv g.core)
    (h : JStep g perm j g' o) : NoOOF o ∧ g'.mu + 1 ≤ g.mu := by
  obtain ⟨ph, sn, ex, bl, hpm, ab⟩ := j
  simp only [] at hb; subst hb
  cases h with
  | crSweep hp hs =>
    simp only [] at hp hs; subst hp; subst hs
    refine ⟨(mstep_deliverCancels g _).noOOF, ?_⟩
    have := psi_deliverCancels g (orderBy perm g.pending) hinv
    simp only [G.mu, hj, setJ, G.psi] at this ⊢
    simp
    omega
  | crDone snap hp hs _ =>
    simp only [] at hp hs; subst hp; subst hs
    refine ⟨noOOF_nil, ?_⟩
    simp only [G.mu, hj, setJ, G.psi]
    cases hpm <;> simp
  | pop hp hperm =>
    simp only [] at hp hperm; subst hp; subst hperm
    unfold G.joinerPop
    cases hd : g.doneq with
    | nil =>
      refine ⟨noOOF_nil, ?_⟩
      simp only [G.mu, hj, setJ, G.psi, hd]
      cases sn <;> simp
    | cons t rest =>
      refine ⟨noOOF_nil, ?_⟩
      simp only [G.mu, hj, setJ, G.psi, hd, G.popT, List.length_cons]
      cases g.stopAfter t rest <;> cases sn <;> simp <;> omega
  | nowait hp hperm _ =>
    simp only [] at hp hperm; subst hp; subst hperm
    refine ⟨noOOF_nil, ?_⟩
    simp only [G.mu, hj, setJ, G.psi]
    cases sn <;> simp
  | nothingLeft hp hperm _ _ _ =>
    simp only [] at hp hperm; subst hp; subst hperm
    refine ⟨noOOF_nil, ?_⟩
    simp only [G.mu, hj, setJ, G.psi]
    cases sn <;> simp
  | park hp hperm _ _ _ =>
    simp only [] at hp hperm; subst hp; subst hperm
    refine ⟨noOOF_nil, ?_⟩
    simp [G.mu, hj, setJ]
  | acquire hp hperm _ _ _ _ =>
    simp only [] at hp hperm; subst hp; subst hperm
    refine ⟨noOOF_nil, ?_⟩
    simp [G.mu, hj, setJ, G.psi]
  | finExit hp hs _ =>
    simp only [] at hp hs; subst hp; subst hs
    refine ⟨by simp [NoOOF], ?_⟩
    simp [G.mu, hj, setJ]
  | finSweep hp hs hrem =>
    simp only [] at hp hs; subst hp; subst hs
    refine ⟨(mstep_deliverCancels g _).noOOF, ?_⟩
    -- the first member cancelled is unfinished, so the potential drops
    cases hob : orderBy perm g.rem with
    | nil =>
      cases hr : g.rem with
      | nil => exact absurd hr hrem
      | cons r rs =>
        have : r ∈ orderBy perm g.rem := (orderBy_mem _ _ r).2 (by rw [hr]; simp)
        rw [hob] at this; cases this
    | cons x xs =>
      obtain ⟨m, hf, hnd⟩ := rem_unfinished hinv
        ((orderBy_mem perm g.rem x).1 (by rw [hob]; simp))
      have hstrict := psi_deliverCancels_live hinv xs hf hnd
      simp only [G.mu, hj, setJ, G.psi] at hstrict ⊢
      simp
      omega
  | finClear snap hp hs _ =>
    simp only [] at hp hs; subst hp; subst hs
    refine ⟨noOOF_nil, ?_⟩
    simp [G.mu, hj, setJ, G.psi]

/-- the joiner's algorithm reaches quiescence within `mu + 1` steps -/
theorem runJoiner_terminates (perm : List Nat) : ∀ (fuel : Nat) (g : G), g.fixed = true →
    TInv g.core → g.mu < fuel →
    NoOOF (g.runJoiner perm fuel).2 ∧ (g.runJoiner perm fuel).1.Quiescent
  | 0, g, _, _, h => by omega
  | fuel + 1, g, hfix, hinv, h => by
    unfold G.runJoiner
    cases hs : g.joinerStep perm with
    | none => exact ⟨noOOF_nil, (joinerStep_none_iff g perm hfix).1 hs⟩
    | some r =>
      obtain ⟨g1, o1⟩ := r
      obtain ⟨j, hj, hb, hstep⟩ := joinerStep_inv hfix hs
      have hm := mu_jstep hj hb hinv hstep
      obtain ⟨ht1, _, hfix1, _⟩ := core_jstep hstep hinv
      have ih := runJoiner_terminates perm fuel g1 (hfix1.trans hfix) ht1 (by omega)
      exact ⟨noOOF_append hm.1 ih.1, ih.2⟩

theorem runJoiner_noOOF (perm : List Nat) (fuel : Nat) (g : G) (hfix : g.fixed = true)
    (hinv : TInv g.core) (h : g.mu < fuel) : NoOOF (g.runJoiner perm fuel).2 :=
  (runJoiner_terminates perm fuel g hfix hinv h).1

theorem doneq_le_mem (g : G) (hl : LInv g) : g.doneq.length ≤ g.mem.length := by
  have hnd : g.doneq.Nodup := by
    have := hl.nodup
    rw [← hl.queue] at this
    exact (List.nodup_append.1 this).2.1
  have hsub : ∀ x ∈ g.doneq, x ∈ g.mem.map (·.id) := by
    intro x hx
    have hd := hl.logDone x (by rw [← hl.queue]; simp [hx])
    cases hf : g.find x with
    | none => simp [G.statusOf, hf] at hd
    | some m => exact List.mem_map.2 ⟨m, find_mem hf⟩
  simpa using hnd.length_le_of_subset fun x hx => hsub x hx

theorem mu_lt_fuel (g : G) (hl : LInv g) : g.mu < g.fuel := by
  have h1 := wSum_le g.mem
  have h2 := doneq_le_mem g hl
  have hmu : g.mu ≤ 2 * g.psi + 6 := by
    unfold G.mu
    cases g.joiner with
    | none => simp
    | some j =>
      simp only []
      split
      · simp
      · split
        · simp
        · split <;> simp
        · split <;> simp
        · split <;> simp
  simp only [G.psi] at hmu
  simp only [G.fuel]
  omega

end Aiorpcx.C09
