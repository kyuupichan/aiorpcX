import Aiorpcx.C09.JStep
/-! Shape of the joiner record in reachable states (holds with or without `next_done` callers):
in the `next_done` loop no snapshot is kept; a snapshot only names members of the group; only a
joiner in the loop of a waiting policy is ever parked. -/
namespace Aiorpcx.C09

structure JInv (g : G) : Prop where
  nextSnap : ∀ j, g.joiner = some j → j.phase = .next → j.snapshot = none
  snapTracked : ∀ j snap, g.joiner = some j → j.snapshot = some snap →
    ∀ i ∈ snap, ∃ m ∈ g.mem, m.id = i
  blockedNext : ∀ j, g.joiner = some j → j.blocked = true → j.phase = .next ∧ g.wait ≠ .nowait

theorem exists_of_memLe {ms ms' : List Mem} (hm : MemLe ms ms') {i : Nat}
    (h : ∃ m ∈ ms, m.id = i) : ∃ m ∈ ms', m.id = i := by
  obtain ⟨m, hmm, hid⟩ := h
  obtain ⟨m', hm', e, _, _⟩ := hm m hmm
  exact ⟨m', hm', e.trans hid⟩

theorem jinv_of_frame {g g' : G} (h : JInv g) (hr : Frame g g') (hm : MemLe g.mem g'.mem) :
    JInv g' := by
  refine ⟨?_, ?_, ?_⟩
  · intro j' hj'
    obtain ⟨j, hj, e1, e2, _⟩ := hr.joiner_of hj'
    rw [e1, e2]; exact h.nextSnap j hj
  · intro j' snap hj' hs i hi
    obtain ⟨j, hj, _, e2, _⟩ := hr.joiner_of hj'
    exact exists_of_memLe hm (h.snapTracked j snap hj (e2 ▸ hs) i hi)
  · intro j' hj' hb
    obtain ⟨j, hj, _, _, _, e⟩ := hr.joiner_of hj'
    cases e hb
    rw [hr.wait]; exact h.blockedNext _ hj hb

theorem jinv_setJ (g : G) (j : Joiner) (h1 : j.phase = .next → j.snapshot = none)
    (h2 : ∀ snap, j.snapshot = some snap → ∀ i ∈ snap, ∃ m ∈ g.mem, m.id = i)
    (h3 : j.blocked = true → j.phase = .next ∧ g.wait ≠ .nowait) : JInv (setJ g j) := by
  refine ⟨?_, ?_, ?_⟩
  · intro j' hj'; cases Option.some.inj hj'; exact h1
  · intro j' snap hj'; cases Option.some.inj hj'; exact h2 snap
  · intro j' hj'; cases Option.some.inj hj'; exact h3

theorem jinv_jstep {g : G} {perm : List Nat} {j : Joiner} {g' : G} {o : List Obs}
    (hj : g.joiner = some j) (hb : j.blocked = false) (h : JInv g) (ht : TInv g.core)
    (hs : JStep g perm j g' o) : JInv g' := by
  have nb : ∀ {j' : Joiner} {P : Prop}, j'.blocked = j.blocked → j'.blocked = true → P :=
    fun e hb' => by rw [e, hb] at hb'; cases hb'
  have sweep : ∀ l, (∀ i ∈ l, i ∈ g.pending ∨ i ∈ g.daemons) →
      ∀ i ∈ l, ∃ m ∈ (g.deliverCancels l).1.mem, m.id = i := by
    intro l hl i hi
    apply exists_of_memLe ((mstep_deliverCancels g l).memLe ht)
    rcases hl i hi with hp | hd
    · obtain ⟨m, hm, e, _⟩ := ht.pend i hp; exact ⟨m, hm, e⟩
    · obtain ⟨m, hm, e, _⟩ := ht.daem i hd; exact ⟨m, hm, e⟩
  have inLoop : ∀ {g0 : G} {j' : Joiner}, j.phase = .next → j'.snapshot = j.snapshot →
      (j'.blocked = true → j'.phase = .next ∧ g0.wait ≠ .nowait) → JInv (setJ g0 j') :=
    fun hp e h3 =>
      have hsn := e.trans (h.nextSnap j hj hp)
      jinv_setJ _ _ (fun _ => hsn) (fun s hs => by rw [hsn] at hs; cases hs) h3
  cases hs with
  | crSweep hp _ =>
    refine jinv_setJ _ _ (fun hp' => by rw [hp] at hp'; cases hp') ?_ (nb rfl)
    intro snap hsnap
    cases Option.some.inj hsnap
    exact sweep _ fun i hi => .inl ((orderBy_mem _ _ i).1 hi)
  | finSweep hp _ _ =>
    refine jinv_setJ _ _ (fun hp' => by rw [hp] at hp'; cases hp') ?_ (nb rfl)
    intro snap hsnap
    cases Option.some.inj hsnap
    exact sweep _ fun i hi => (mem_rem.1 ((orderBy_mem _ _ i).1 hi)).1
  | crDone _ _ _ _ => exact jinv_setJ _ _ (fun _ => rfl) nofun (nb rfl)
  | finClear _ hp _ _ => exact jinv_setJ _ _ (fun _ => rfl) nofun (nb rfl)
  | pop hp _ =>
    obtain ⟨g0, ph, _, e⟩ := joinerPop_joiner g j
    rw [e]; exact inLoop hp rfl (nb rfl)
  | nowait hp _ _ => exact inLoop hp rfl (nb rfl)
  | nothingLeft hp _ _ _ _ => exact inLoop hp rfl (nb rfl)
  | park hp _ hw _ _ => exact inLoop hp rfl fun _ => ⟨hp, hw⟩
  | acquire hp _ _ _ _ _ => exact inLoop hp rfl (nb rfl)
  | finExit _ hsn _ =>
    exact jinv_setJ _ _ nofun (fun s hs => by rw [hsn] at hs; cases hs) (nb rfl)

theorem jinv_astep {g : G} {a : Action} {g' : G} {o : List Obs} (hs : AStep g a g' o)
    (h : JInv g) (ht : TInv g.core) : JInv g' := by
  rcases hs.frame with hf | hj
  · exact jinv_of_frame h hf (core_astep hs ht).2.1
  cases hj with
  | enter _ _ _ => exact jinv_setJ _ _ (fun _ => rfl) nofun nofun
  | cancelLoop hj hp _ =>
    have hsn := h.nextSnap _ hj hp
    exact jinv_setJ _ _ nofun (fun s hs => by rw [hsn] at hs; cases hs) nofun
  | cancelPermit hj hp _ =>
    have hsn := h.nextSnap _ hj hp
    exact jinv_setJ _ _ nofun (fun s hs => by rw [hsn] at hs; cases hs) nofun
  | cancelAwait hj hp =>
    refine jinv_setJ _ _ nofun (fun s hs => h.snapTracked _ s hj hs) fun hb => ?_
    have := (h.blockedNext _ hj hb).1
    rcases hp with hp | hp <;> rw [hp] at this <;> cases this

theorem jinv_init (p : Policy) : JInv { wait := p } :=
  ⟨fun _ h => (nomatch h), fun _ _ h => (nomatch h), fun _ h => (nomatch h)⟩

end Aiorpcx.C09
