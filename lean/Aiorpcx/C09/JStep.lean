import Aiorpcx.C09.Steps
/-! One step of the joiner's algorithm (`G.joinerStep`, repaired `join()`) as an inductive relation
with one constructor per branch, plus the inversion lemma `joinerStep_inv` and the
characterisation of quiescence `joinerStep_none_iff`; likewise `AStep` for the environment's
action `G.apply`.  Every invariant is shown kept by the cases of `JStep` and `AStep`;
`runJoiner_preserves` and `runAll_keeps` carry it along a reaction and a history. -/
namespace Aiorpcx.C09

/-- what the repaired clean-up looks at: the members of `_pending | daemons` that are not done -/
def G.rem (g : G) : List Nat :=
  g.unfinished (g.pending ++ g.daemons.filter (fun i => !g.pending.contains i))

inductive JStep (g : G) (perm : List Nat) (j : Joiner) : G → List Obs → Prop where
  /-- `cancel_remaining()`: cancel `_pending`, start waiting for it -/
  | crSweep : j.phase = .cancelrem → j.snapshot = none →
      JStep g perm j
        (setJ (g.deliverCancels (orderBy perm g.pending)).1
          { j with snapshot := some (orderBy perm g.pending) })
        (g.deliverCancels (orderBy perm g.pending)).2
  /-- everything `cancel_remaining()` cancelled has finished: on to `join()` -/
  | crDone (snap : List Nat) : j.phase = .cancelrem → j.snapshot = some snap →
      (g.unfinished snap).isEmpty = true →
      JStep g perm j (setJ g { j with phase := .next, snapshot := none }) []
  /-- holds a permit: pop the done queue, run the body of the `join()` loop -/
  | pop : j.phase = .next → j.hasPermit = true →
      JStep g perm j (g.joinerPop j).1 (g.joinerPop j).2
  | nowait : j.phase = .next → j.hasPermit = false → g.wait = .nowait →
      JStep g perm j (setJ g { j with phase := .fin }) []
  /-- `next_done()` returns None: nothing queued, nothing pending -/
  | nothingLeft : j.phase = .next → j.hasPermit = false → g.wait ≠ .nowait →
      g.doneq = [] → g.pending = [] →
      JStep g perm j (setJ g { j with phase := .fin }) []
  | park : j.phase = .next → j.hasPermit = false → g.wait ≠ .nowait →
      ¬ (g.doneq = [] ∧ g.pending = []) → (g.sem = 0 ∨ g.waiters ≠ []) →
      JStep g perm j
        (setJ { g with waiters := g.waiters ++ [.joiner] } { j with blocked := true }) []
  | acquire : j.phase = .next → j.hasPermit = false → g.wait ≠ .nowait →
      ¬ (g.doneq = [] ∧ g.pending = []) → g.sem ≠ 0 → g.waiters = [] →
      JStep g perm j (setJ { g with sem := g.sem - 1 } { j with hasPermit := true }) []
  /-- clean-up: nobody unfinished is left: `joined = True`, join returns / re-raises -/
  | finExit : j.phase = .fin → j.snapshot = none → g.rem = [] →
      JStep g perm j (setJ { g with joined := true } { j with phase := .exited })
        [Obs.joinExit j.exc]
  /-- clean-up: cancel every unfinished member, start waiting for them -/
  | finSweep : j.phase = .fin → j.snapshot = none → g.rem ≠ [] →
      JStep g perm j
        (setJ (g.deliverCancels (orderBy perm g.rem)).1
          { j with snapshot := some (orderBy perm g.rem) })
        (g.deliverCancels (orderBy perm g.rem)).2
  /-- clean-up: everything the last sweep cancelled has finished: look again -/
  | finClear (snap : List Nat) : j.phase = .fin → j.snapshot = some snap →
      (g.unfinished snap).isEmpty = true →
      JStep g perm j (setJ g { j with snapshot := none }) []

theorem joinerPop_nil {g : G} (j : Joiner) (hd : g.doneq = []) :
    g.joinerPop j = (setJ g { j with phase := .fin, hasPermit := false }, []) := by
  unfold G.joinerPop; rw [hd]

theorem joinerPop_cons {g : G} (j : Joiner) {t : Nat} {rest : List Nat} (hd : g.doneq = t :: rest) :
    g.joinerPop j = (setJ (g.popT t rest)
      { j with phase := if g.stopAfter t rest then .fin else .next, hasPermit := false }, []) := by
  unfold G.joinerPop; rw [hd]

/-- whatever it finds, the pop leaves the joiner in the loop or sends it to the clean-up, and
uses up the permit -/
theorem joinerPop_joiner (g : G) (j : Joiner) : ∃ g0 ph, (ph = .next ∨ ph = .fin) ∧
    (g.joinerPop j).1 = setJ g0 { j with phase := ph, hasPermit := false } := by
  unfold G.joinerPop
  cases g.doneq with
  | nil => exact ⟨_, _, .inr rfl, rfl⟩
  | cons t rest => exact ⟨_, if g.stopAfter t rest then .fin else .next, by split <;> simp, rfl⟩

theorem pair_of_some {x : G × List Obs} {g' : G} {o : List Obs} (h : some x = some (g', o)) :
    x.1 = g' ∧ x.2 = o := by
  cases h; exact ⟨rfl, rfl⟩

/-- inversion of `joinerStep` (repaired `join()`): branch by branch -/
theorem joinerStep_inv {g : G} {perm : List Nat} {g' : G} {o : List Obs} (hfix : g.fixed = true)
    (h : g.joinerStep perm = some (g', o)) :
    ∃ j, g.joiner = some j ∧ j.blocked = false ∧ JStep g perm j g' o := by
  revert h
  fun_cases G.joinerStep g perm <;> intro h <;>
    first | (cases h; done) | obtain ⟨rfl, rfl⟩ := pair_of_some h
  · rename_i j hj hb hp hs _ g3 o3 hd
    rw [← show _ = g3 from congrArg Prod.fst hd, ← show _ = o3 from congrArg Prod.snd hd]
    exact ⟨j, hj, Bool.eq_false_iff.2 hb, .crSweep hp hs⟩
  · rename_i j hj hb hp snap hs he
    exact ⟨j, hj, Bool.eq_false_iff.2 hb, .crDone snap hp hs he⟩
  · rename_i j hj hb hp hperm
    exact ⟨j, hj, Bool.eq_false_iff.2 hb, .pop hp hperm⟩
  · rename_i j hj hb hp hperm hw
    exact ⟨j, hj, Bool.eq_false_iff.2 hb, .nowait hp (Bool.eq_false_iff.2 hperm) (beq_iff_eq.1 hw)⟩
  · rename_i j hj hb hp hperm hw he
    rw [Bool.and_eq_true, List.isEmpty_iff, List.isEmpty_iff] at he
    exact ⟨j, hj, Bool.eq_false_iff.2 hb,
      .nothingLeft hp (Bool.eq_false_iff.2 hperm) (fun e => hw (beq_iff_eq.2 e)) he.1 he.2⟩
  · rename_i j hj hb hp hperm hw he hs
    rw [Bool.and_eq_true, List.isEmpty_iff, List.isEmpty_iff] at he
    exact ⟨j, hj, Bool.eq_false_iff.2 hb,
      .park hp (Bool.eq_false_iff.2 hperm) (fun e => hw (beq_iff_eq.2 e)) he (by
        simpa [List.isEmpty_iff] using hs)⟩
  · rename_i j hj hb hp hperm hw he hs
    rw [Bool.and_eq_true, List.isEmpty_iff, List.isEmpty_iff] at he
    have hs' : g.sem ≠ 0 ∧ g.waiters = [] := by simpa [List.isEmpty_iff] using hs
    exact ⟨j, hj, Bool.eq_false_iff.2 hb,
      .acquire hp (Bool.eq_false_iff.2 hperm) (fun e => hw (beq_iff_eq.2 e)) he hs'.1 hs'.2⟩
  · rename_i j hj hb hp hs _ _ he
    exact ⟨j, hj, Bool.eq_false_iff.2 hb, .finExit hp hs (List.isEmpty_iff.1 he)⟩
  · rename_i j hj hb hp hs _ _ he _ g3 o3 hd
    rw [← show _ = g3 from congrArg Prod.fst hd, ← show _ = o3 from congrArg Prod.snd hd]
    exact ⟨j, hj, Bool.eq_false_iff.2 hb, .finSweep hp hs fun e => he (List.isEmpty_iff.2 e)⟩
  · rename_i hnf _ _; exact absurd hfix hnf
  · rename_i hnf _ _ _ _ _ _; exact absurd hfix hnf
  · rename_i j hj hb hp snap hs he _
    exact ⟨j, hj, Bool.eq_false_iff.2 hb, .finClear snap hp hs he⟩
  · rename_i hnf; exact absurd hfix hnf

/-- **quiescence**: the joiner's algorithm cannot take a step exactly when there is no joiner, or
it is parked on the semaphore, or it has exited, or it is awaiting a snapshot of cancelled
members of which one is not done (the answer does not depend on `perm`) -/
def G.Quiescent (g : G) : Prop :=
  match g.joiner with
  | none => True
  | some j =>
    j.blocked = true ∨ j.phase = .exited ∨
      ((j.phase = .cancelrem ∨ j.phase = .fin) ∧
        ∃ snap, j.snapshot = some snap ∧ (g.unfinished snap).isEmpty = false)

theorem joinerStep_none_iff (g : G) (perm : List Nat) (hfix : g.fixed = true) :
    g.joinerStep perm = none ↔ g.Quiescent := by
  unfold G.Quiescent
  -- in every branch its own conditions decide both sides
  fun_cases G.joinerStep g perm <;> simp_all

/-- induction along the joiner's run: a property kept by every `JStep` holds when the run stops,
and every observation made on the way is one a step can make (or `outOfFuel`) -/
theorem runJoiner_preserves {perm : List Nat} {P : G → Prop} {q : Obs → Prop}
    (hfix : ∀ g, P g → g.fixed = true) (hq : q .outOfFuel)
    (hstep : ∀ {g j g' o}, P g → g.joiner = some j → j.blocked = false → JStep g perm j g' o →
      P g' ∧ ∀ x ∈ o, q x) :
    ∀ (fuel : Nat) (g : G), P g →
      P (g.runJoiner perm fuel).1 ∧ ∀ x ∈ (g.runJoiner perm fuel).2, q x
  | 0, g, h => ⟨h, by simp [G.runJoiner, hq]⟩
  | fuel + 1, g, h => by
    unfold G.runJoiner
    cases hs : g.joinerStep perm with
    | none => exact ⟨h, by simp⟩
    | some r =>
      obtain ⟨g1, o1⟩ := r
      obtain ⟨j, hj, hb, hs'⟩ := joinerStep_inv (hfix g h) hs
      obtain ⟨h1, hq1⟩ := hstep h hj hb hs'
      obtain ⟨h2, hq2⟩ := runJoiner_preserves hfix hq hstep fuel g1 h1
      exact ⟨h2, fun x hx => (List.mem_append.1 hx).elim (hq1 x) (hq2 x)⟩

theorem runJoiner_keeps {perm : List Nat} {P : G → Prop} (hfix : ∀ g, P g → g.fixed = true)
    (hstep : ∀ {g j g' o}, P g → g.joiner = some j → j.blocked = false → JStep g perm j g' o →
      P g') (fuel : Nat) (g : G) (h : P g) : P (g.runJoiner perm fuel).1 :=
  (runJoiner_preserves (q := fun _ => True) hfix trivial
    (fun h hj hb hs => ⟨hstep h hj hb hs, fun _ _ => trivial⟩) fuel g h).1

/-- what the environment can do to the joiner: it enters `join()` / `__aexit__`, or is cancelled -/
inductive JAct (g : G) : G → List Obs → Prop where
  | enter (ph : Phase) : g.joiner = none → (ph = .next ∨ ph = .cancelrem) →
      JAct g (setJ g (newJoiner ph)) []
  /-- the joiner is cancelled inside `next_done()`: the `finally:` clause runs -/
  | cancelLoop {j : Joiner} : g.joiner = some j → j.phase = .next → j.hasPermit = false →
      JAct g
        (setJ { g with waiters := g.waiters.filter (· != .joiner) }
          { j with phase := .fin, exc := true, blocked := false, hasPermit := false }) []
  /-- ... and a permit it had already been handed goes back -/
  | cancelPermit {j : Joiner} : g.joiner = some j → j.phase = .next → j.hasPermit = true →
      JAct g
        (setJ (G.release { g with waiters := g.waiters.filter (· != .joiner) }).1
          { j with phase := .fin, exc := true, blocked := false, hasPermit := false })
        (G.release { g with waiters := g.waiters.filter (· != .joiner) }).2
  /-- the joiner is cancelled while awaiting the members it cancelled (F11) -/
  | cancelAwait {j : Joiner} : g.joiner = some j → (j.phase = .fin ∨ j.phase = .cancelrem) →
      JAct g (setJ g { j with phase := .exited, abandoned := true, exc := true })
        [Obs.joinExit true]

/-- `G.apply` as a relation: what an action of the environment can do to the group -/
inductive AStep (g : G) : Action → G → List Obs → Prop where
  /-- a spawn, a member finishing or being cancelled, another task's `cancel_remaining()` -/
  | member {a : Action} {g' : G} {o : List Obs} : MStep g g' o → AStep g a g' o
  | invalid (a : Action) : AStep g a g [Obs.invalid]
  | joiner {a : Action} {g' : G} {o : List Obs} : JAct g g' o → AStep g a g' o
  | nextDoneNone (k : Nat) (p : List Nat) : g.doneq = [] → g.pending = [] →
      AStep g (.nextDone k p) g [Obs.nextDone k none]
  | nextDonePark (k : Nat) (p : List Nat) : ¬ (g.doneq = [] ∧ g.pending = []) →
      (g.sem = 0 ∨ g.waiters ≠ []) →
      AStep g (.nextDone k p) { g with waiters := g.waiters ++ [.consumer k] }
        [Obs.nextDoneBlocked k]
  | nextDoneServe (k : Nat) (p : List Nat) : ¬ (g.doneq = [] ∧ g.pending = []) → g.sem ≠ 0 →
      g.waiters = [] →
      AStep g (.nextDone k p) (G.wake { g with sem := g.sem - 1 } (.consumer k)).1
        (G.wake { g with sem := g.sem - 1 } (.consumer k)).2

theorem apply_astep (g : G) (a : Action) : AStep g a (g.apply a).1 (g.apply a).2 := by
  fun_cases G.apply g a
  · exact .member (.refused g _)
  · exact .member (.add ‹_›)
  · exact .member (mstep_finishMem g _ _)
  · exact .invalid _
  · exact .member (mstep_deliverCancel g _)
  · exact .invalid _
  · exact .member (mstep_finishMem g _ _)
  · exact .invalid _
  · exact .joiner (.enter _ (Option.isNone_iff_eq_none.1 ‹_›) (.inl rfl))
  · exact .invalid _
  · rename_i raised _ _
    exact .joiner (.enter _ (Option.isNone_iff_eq_none.1 ‹_›) (by cases raised <;> simp))
  · exact .invalid _
  · exact .invalid _
  · exact .invalid _
  · rename_i p j hj hp _ g3 o3 hd
    rw [← show _ = g3 from congrArg Prod.fst hd, ← show _ = o3 from congrArg Prod.snd hd]
    cases hperm : j.hasPermit
    · exact .joiner (.cancelLoop hj hp hperm)
    · exact .joiner (.cancelPermit hj hp hperm)
  · exact .joiner (.cancelAwait ‹_› (.inl ‹_›))
  · exact .joiner (.cancelAwait ‹_› (.inr ‹_›))
  · rename_i k p h
    rw [Bool.and_eq_true, List.isEmpty_iff, List.isEmpty_iff] at h
    exact .nextDoneNone k p h.1 h.2
  · rename_i k p h hs
    rw [Bool.and_eq_true, List.isEmpty_iff, List.isEmpty_iff] at h
    exact .nextDonePark k p h (by simpa [List.isEmpty_iff] using hs)
  · rename_i k p h hs
    rw [Bool.and_eq_true, List.isEmpty_iff, List.isEmpty_iff] at h
    have hs' : g.sem ≠ 0 ∧ g.waiters = [] := by simpa [List.isEmpty_iff] using hs
    exact .nextDoneServe k p h hs'.1 hs'.2
  · exact .member (mstep_deliverCancels g _)

/-- an action that is not about the joiner leaves its record alone -/
theorem AStep.frame {g : G} {a : Action} {g' : G} {o : List Obs} (h : AStep g a g' o) :
    Frame g g' ∨ JAct g g' o := by
  cases h with
  | member m => exact .inl m.frame
  | invalid _ => exact .inl (.refl g)
  | joiner hj => exact .inr hj
  | nextDoneNone _ _ _ _ => exact .inl (.refl g)
  | nextDonePark _ _ _ _ => exact .inl ⟨rfl, rfl, rfl, rfl, rfl, .inl rfl⟩
  | nextDoneServe k _ _ _ _ =>
    exact .inl (Frame.wake (g := g) (g0 := { g with sem := g.sem - 1 })
      ⟨rfl, rfl, rfl, rfl, rfl, .inl rfl⟩ _)

theorem react_fst (g : G) (a : Action) :
    (react g a).1 = ((g.apply a).1.runJoiner a.perm (g.apply a).1.fuel).1 := by
  unfold react; rfl

theorem react_snd (g : G) (a : Action) :
    (react g a).2 = (g.apply a).2 ++ ((g.apply a).1.runJoiner a.perm (g.apply a).1.fuel).2 := by
  unfold react; rfl

theorem runAll_keeps {P : G → Prop} (h : ∀ g a, P g → P (react g a).1) :
    ∀ (as : List Action) (g : G), P g → P (runAll g as).1
  | [], _, hg => hg
  | a :: as, g, hg => runAll_keeps h as _ (h g a hg)

theorem isDone_of_find {g : G} {x : Nat} {m : Mem} (hf : g.find x = some m) :
    g.isDone x = true ↔ m.status = .done := by
  simp [G.isDone, G.statusOf, hf]

theorem mem_rem {g : G} {x : Nat} :
    x ∈ g.rem ↔ (x ∈ g.pending ∨ x ∈ g.daemons) ∧ g.isDone x = false := by
  simp only [G.rem, G.unfinished, List.mem_filter, List.mem_append, List.contains_eq_mem,
    Bool.not_eq_true', decide_eq_false_iff_not]
  by_cases hp : x ∈ g.pending <;> simp [hp]

theorem mem_rem_of_unfinished {g : G} (hinv : CInv g.core) {m : Mem} (hm : m ∈ g.mem)
    (hnd : m.status ≠ .done) : m.id ∈ g.rem :=
  mem_rem.2 ⟨hinv.covered m hm hnd, by
    rw [Bool.eq_false_iff]; exact fun hd => hnd ((isDone_of_find (find_of_mem hinv.nodup hm)).1 hd)⟩

theorem allDone_of_rem_empty {g : G} (hinv : CInv g.core) (h : g.rem = []) : AllDone g.mem := by
  intro m hm
  apply Classical.byContradiction
  intro hnd
  have := mem_rem_of_unfinished hinv hm hnd
  rw [h] at this; cases this

theorem core_jstep {g : G} {perm : List Nat} {j : Joiner} {g' : G} {o : List Obs}
    (hs : JStep g perm j g' o) (ht : TInv g.core) :
    TInv g'.core ∧ MemLe g.core.mem g'.core.mem ∧ g'.core.fixed = g.core.fixed ∧
      (CInv g.core → CInv g'.core) := by
  have same : TInv g.core ∧ MemLe g.core.mem g.core.mem ∧ g.core.fixed = g.core.fixed ∧
      (CInv g.core → CInv g.core) := ⟨ht, .refl _, rfl, id⟩
  have sweep : ∀ l, TInv (g.deliverCancels l).1.core ∧ MemLe g.mem (g.deliverCancels l).1.mem ∧
      (g.deliverCancels l).1.fixed = g.fixed ∧ (CInv g.core → CInv (g.deliverCancels l).1.core) :=
    fun l =>
      have m := mstep_deliverCancels g l
      ⟨m.tinv ht, m.memLe ht, m.frame.fixed, m.cinv⟩
  cases hs with
  | crSweep _ _ => exact sweep _
  | finSweep _ _ _ => exact sweep _
  | pop _ _ => rw [core_joinerPop]; exact same
  | finExit _ _ hrem =>
    exact ⟨⟨ht.nodup, ht.pend, ht.daem⟩, .refl _, rfl, fun hc =>
      ⟨hc.nodup, hc.covered, fun _ => allDone_of_rem_empty (g := g) hc hrem⟩⟩
  | crDone _ _ _ _ => exact same
  | nowait _ _ _ => exact same
  | nothingLeft _ _ _ _ _ => exact same
  | park _ _ _ _ _ => exact same
  | acquire _ _ _ _ _ _ => exact same
  | finClear _ _ _ _ => exact same

theorem core_astep {g : G} {a : Action} {g' : G} {o : List Obs} (h : AStep g a g' o)
    (ht : TInv g.core) :
    TInv g'.core ∧ MemLe g.core.mem g'.core.mem ∧ g'.core.fixed = g.core.fixed ∧
      (CInv g.core → CInv g'.core) := by
  have same : TInv g.core ∧ MemLe g.core.mem g.core.mem ∧ g.core.fixed = g.core.fixed ∧
      (CInv g.core → CInv g.core) := ⟨ht, .refl _, rfl, id⟩
  cases h with
  | member m => exact ⟨m.tinv ht, m.memLe ht, m.frame.fixed, m.cinv⟩
  | nextDoneServe k p _ _ _ => rw [core_wake]; exact same
  | invalid _ => exact same
  | nextDoneNone _ _ _ _ => exact same
  | nextDonePark _ _ _ _ => exact same
  | joiner hj =>
    cases hj with
    | cancelPermit _ _ _ => rw [core_setJ, core_release]; exact same
    | enter _ _ _ => exact same
    | cancelLoop _ _ _ => exact same
    | cancelAwait _ _ => exact same

end Aiorpcx.C09
