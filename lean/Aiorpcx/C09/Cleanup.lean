import Aiorpcx.C09.JInv
import Aiorpcx.C09.Fuel
/-! "On stopping, all members still running are cancelled": in the reaction in which the joiner
enters the clean-up of `join()`, every member present receives a cancellation (nobody is left
in status `run`).  Holds with or without competing `next_done` callers. -/
namespace Aiorpcx.C09

/-- member `i` exists and is not (any longer) plainly running: it has received a cancellation
or has finished -/
def NoRun (g : G) (i : Nat) : Prop := ∃ m ∈ g.mem, m.id = i ∧ m.status ≠ .run

theorem noRun_of_memLe {g g' : G} {i : Nat} (h : NoRun g i) (hm : MemLe g.mem g'.mem) :
    NoRun g' i := by
  obtain ⟨m, hmm, hid, hs⟩ := h
  obtain ⟨m', hm', e, _, r⟩ := hm m hmm
  refine ⟨m', hm', e.trans hid, fun hrun => ?_⟩
  rw [hrun] at r
  cases hst : m.status with
  | run => exact hs hst
  | canc => rw [hst] at r; exact absurd r (by decide)
  | done => rw [hst] at r; exact absurd r (by decide)

theorem deliverCancel_noRun (g : G) (i : Nat) (ht : TInv g.core) (hex : ∃ m ∈ g.mem, m.id = i) :
    NoRun (g.deliverCancel i).1 i := by
  obtain ⟨m0, hm0, rfl⟩ := hex
  have hf := find_of_mem ht.nodup hm0
  cases hs : m0.status with
  | done => rw [deliverCancel_done hf hs]; exact ⟨m0, hm0, rfl, by rw [hs]; nofun⟩
  | canc =>
    exact noRun_of_memLe ⟨m0, hm0, rfl, by rw [hs]; nofun⟩ ((mstep_deliverCancel g _).memLe ht)
  | run =>
    -- marked `canc` first; what follows only moves members on
    have h1 : MStep g _ _ := .canc hf hs
    have hn1 : NoRun (g.setMem m0.id fun m => { m with status := .canc }) m0.id :=
      ⟨_, List.mem_map_of_mem hm0, by simp⟩
    have h2 := mstep_addChildren (g.setMem m0.id fun m => { m with status := .canc }) m0.children
    rcases h : (g.setMem m0.id fun m => { m with status := .canc }).addChildren m0.children with
      ⟨g2, _ | ⟨c, cs⟩⟩ <;> rw [h] at h2
    · rw [deliverCancel_run hf hs h]
      exact noRun_of_memLe hn1 (h2.memLe (h1.tinv ht))
    · rw [deliverCancel_refused hf hs h]
      exact noRun_of_memLe hn1
        ((h2.trans (mstep_finishMem g2 _ .exc)).memLe (h1.tinv ht))

theorem deliverCancels_noRun (g : G) (l : List Nat) (ht : TInv g.core) :
    ∀ i ∈ l, (∃ m ∈ g.mem, m.id = i) → NoRun (g.deliverCancels l).1 i := by
  induction l generalizing g with
  | nil => exact nofun
  | cons x xs ih =>
    intro i hi hex
    rw [deliverCancels_cons]
    have m1 := mstep_deliverCancel g x
    by_cases hix : i = x
    · subst hix
      exact noRun_of_memLe (deliverCancel_noRun g i ht hex)
        ((mstep_deliverCancels _ xs).memLe (m1.tinv ht))
    · exact ih _ (m1.tinv ht) i ((List.mem_cons.1 hi).resolve_left hix)
        (exists_of_memLe (m1.memLe ht) hex)

theorem finSweep_noRun (g : G) (perm : List Nat) (hc : CInv g.core) (ht : TInv g.core) :
    ∀ m ∈ g.mem, NoRun (g.deliverCancels (orderBy perm g.rem)).1 m.id := by
  intro m hm
  by_cases hd : m.status = .done
  · exact noRun_of_memLe ⟨m, hm, rfl, by rw [hd]; nofun⟩ ((mstep_deliverCancels g _).memLe ht)
  · exact deliverCancels_noRun g _ ht m.id
      ((orderBy_mem perm _ _).2 (mem_rem_of_unfinished hc hm hd)) ⟨m, hm, rfl⟩

/-- where the joiner may be when the run starts: in `cancel_remaining()`, in the `next_done`
loop, just arrived in the clean-up - or gone by the abandoned exit of F11 -/
def PreFin (j : Joiner) : Prop :=
  j.phase = .next ∨ j.phase = .cancelrem ∨ (j.phase = .fin ∧ j.snapshot = none) ∨
    (j.phase = .exited ∧ j.abandoned = true)

/-- along the joiner's run: until the first clean-up sweep the joiner is where `PreFin` says;
from then on none of the members `ms` present at the start is plainly running -/
def Swept (ms : List Mem) (g : G) : Prop :=
  (∀ j, g.joiner = some j → PreFin j) ∨ ∀ m ∈ ms, NoRun g m.id

theorem swept_jstep {ms : List Mem} {g : G} {perm : List Nat} {j : Joiner} {g' : G} {o : List Obs}
    (hc : CInv g.core) (ht : TInv g.core) (hji : JInv g) (hle : MemLe ms g.mem)
    (h : Swept ms g) (hj : g.joiner = some j) (hs : JStep g perm j g' o) : Swept ms g' := by
  have hle1 := (core_jstep hs ht).2.1
  rcases h with hpre | hdone
  · have at' : ∀ {g0 : G} {j' : Joiner}, PreFin j' → Swept ms (setJ g0 j') := fun h =>
      .inl fun j1 hj1 => by cases Option.some.inj hj1; exact h
    have here : ∀ m ∈ ms, ∃ m1 ∈ g.mem, m1.id = m.id := fun m hm =>
      have ⟨m1, hm1, e, _⟩ := hle m hm
      ⟨m1, hm1, e⟩
    cases hs with
    | crSweep hp _ => exact at' (.inr (.inl hp))
    | crDone _ _ _ _ => exact at' (.inl rfl)
    | pop hp _ =>
      obtain ⟨g0, ph, hph, e⟩ := joinerPop_joiner g j
      rw [e]
      rcases hph with rfl | rfl
      · exact at' (.inl rfl)
      · exact at' (.inr (.inr (.inl ⟨rfl, hji.nextSnap j hj hp⟩)))
    | nowait hp _ _ => exact at' (.inr (.inr (.inl ⟨rfl, hji.nextSnap j hj hp⟩)))
    | nothingLeft hp _ _ _ _ => exact at' (.inr (.inr (.inl ⟨rfl, hji.nextSnap j hj hp⟩)))
    | park hp _ _ _ _ => exact at' (.inl hp)
    | acquire hp _ _ _ _ _ => exact at' (.inl hp)
    | finExit _ _ hrem =>
      refine .inr fun m hm => ?_
      obtain ⟨m1, hm1, e⟩ := here m hm
      exact ⟨m1, hm1, e, by rw [allDone_of_rem_empty hc hrem m1 hm1]; nofun⟩
    | finSweep _ _ _ =>
      refine .inr fun m hm => ?_
      obtain ⟨m1, hm1, e⟩ := here m hm
      exact e ▸ finSweep_noRun g perm hc ht m1 hm1
    | finClear _ hp hsn _ =>
      rcases hpre j hj with h | h | h | h
      · rw [hp] at h; cases h
      · rw [hp] at h; cases h
      · rw [hsn] at h; cases h.2
      · rw [hp] at h; cases h.1
  · exact .inr fun m hm => noRun_of_memLe (hdone m hm) hle1

/-- a run that starts before the first sweep and ends in the clean-up or by the regular exit has
swept every member that was there at the start -/
theorem cleanup_run (perm : List Nat) (fuel : Nat) (g : G) (hfix : g.fixed = true)
    (hc : CInv g.core) (ht : TInv g.core) (hji : JInv g) (hmu : g.mu < fuel)
    (hpre : ∀ j, g.joiner = some j → PreFin j) (j' : Joiner)
    (hj' : (g.runJoiner perm fuel).1.joiner = some j')
    (hph : j'.phase = .fin ∨ j'.phase = .exited) (hab : j'.abandoned = false) :
    ∀ m ∈ g.mem, NoRun (g.runJoiner perm fuel).1 m.id := by
  have hq := (runJoiner_terminates perm fuel g hfix ht hmu).2
  obtain ⟨_, _, _, hji', _, hsw⟩ := runJoiner_keeps (perm := perm)
    (P := fun g' => g'.fixed = true ∧ CInv g'.core ∧ TInv g'.core ∧ JInv g' ∧
      MemLe g.mem g'.mem ∧ Swept g.mem g')
    (fun _ h => h.1)
    (fun ⟨h1, h2, h3, h4, h5, h6⟩ hj hb hs =>
      have ⟨k1, k2, k3, k4⟩ := core_jstep hs h3
      ⟨k3.trans h1, k4 h2, k1, jinv_jstep hj hb h4 h3 hs, h5.trans k2,
        swept_jstep h2 h3 h4 h5 h6 hj hs⟩)
    fuel g ⟨hfix, hc, ht, hji, .refl _, .inl hpre⟩
  rcases hsw with hpre' | hdone
  · -- still before the first sweep, yet at rest in `fin` / `exited`: impossible
    exfalso
    simp only [G.Quiescent, hj'] at hq
    rcases hpre' j' hj' with h | h | h | h
    · rcases hph with h' | h' <;> rw [h] at h' <;> cases h'
    · rcases hph with h' | h' <;> rw [h] at h' <;> cases h'
    · rcases hq with hb | hx | ⟨_, snap, hsn, _⟩
      · have := (hji'.blockedNext j' hj' hb).1; rw [h.1] at this; cases this
      · rw [h.1] at hx; cases hx
      · rw [h.2] at hsn; cases hsn
    · rw [h.2] at hab; cases hab
  · exact hdone

theorem astep_preFin {g : G} {a : Action} {g' : G} {o : List Obs} (hs : AStep g a g' o)
    (h : JInv g) (hpre : ∀ j, g.joiner = some j → j.phase = .next ∨ j.phase = .cancelrem) :
    ∀ j1, g'.joiner = some j1 → PreFin j1 := by
  intro j1 hj1
  rcases hs.frame with hf | hj
  · obtain ⟨j, hj, e, _⟩ := hf.joiner_of hj1
    rw [PreFin, e]
    exact (hpre j hj).elim .inl fun h => .inr (.inl h)
  cases hj with
  | enter _ _ hph => cases Option.some.inj hj1; exact hph.elim .inl fun h => .inr (.inl h)
  | @cancelLoop j hj hp _ =>
    cases Option.some.inj hj1; exact .inr (.inr (.inl ⟨rfl, h.nextSnap j hj hp⟩))
  | @cancelPermit j hj hp _ =>
    cases Option.some.inj hj1; exact .inr (.inr (.inl ⟨rfl, h.nextSnap j hj hp⟩))
  | cancelAwait hj hp => cases Option.some.inj hj1; exact .inr (.inr (.inr ⟨rfl, rfl⟩))

end Aiorpcx.C09
