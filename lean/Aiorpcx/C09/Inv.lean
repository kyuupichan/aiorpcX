import Aiorpcx.C09.Model
/-! Invariants of the TaskGroup model that C09 needs.  `CInv`: every unfinished member is tracked
in `pending ∪ daemons`, ids are unique, `joined` implies every member finished.  `TInv`
(book-keeping, used by the progress proofs): every id in `pending` is an unfinished non-daemon
member, every id in `daemons` is a daemon member.  `MemLe`: members are never removed, keep
their id and daemon flag, and their status only moves `run → canc → done`. -/
namespace Aiorpcx.C09

/-- the part of the state the C09 invariant talks about -/
structure Core where
  mem : List Mem
  pending : List Nat
  daemons : List Nat
  joined : Bool
  fixed : Bool

def G.core (g : G) : Core := ⟨g.mem, g.pending, g.daemons, g.joined, g.fixed⟩

def AllDone (ms : List Mem) : Prop := ∀ m ∈ ms, m.status = .done

structure CInv (c : Core) : Prop where
  nodup : (c.mem.map (·.id)).Nodup
  covered : ∀ m ∈ c.mem, m.status ≠ .done → m.id ∈ c.pending ∨ m.id ∈ c.daemons
  joinedDone : c.joined = true → AllDone c.mem

structure TInv (c : Core) : Prop where
  nodup : (c.mem.map (·.id)).Nodup
  pend : ∀ i ∈ c.pending, ∃ m ∈ c.mem, m.id = i ∧ m.daemon = false ∧ m.status ≠ .done
  daem : ∀ i ∈ c.daemons, ∃ m ∈ c.mem, m.id = i ∧ m.daemon = true

def rank : Status → Nat
  | .run => 2 | .canc => 1 | .done => 0

def MemLe (ms ms' : List Mem) : Prop :=
  ∀ m ∈ ms, ∃ m' ∈ ms', m'.id = m.id ∧ m'.daemon = m.daemon ∧ rank m'.status ≤ rank m.status

theorem MemLe.refl (ms : List Mem) : MemLe ms ms := fun m hm => ⟨m, hm, rfl, rfl, Nat.le_refl _⟩

theorem MemLe.trans {a b c : List Mem} (h1 : MemLe a b) (h2 : MemLe b c) : MemLe a c := by
  intro m hm
  obtain ⟨m1, hm1, e1, d1, r1⟩ := h1 m hm
  obtain ⟨m2, hm2, e2, d2, r2⟩ := h2 m1 hm1
  exact ⟨m2, hm2, by rw [e2, e1], by rw [d2, d1], Nat.le_trans r2 r1⟩

theorem map_ids_update (ms : List Mem) (i : Nat) (f : Mem → Mem) (hf : ∀ m, (f m).id = m.id) :
    (ms.map (fun m => if m.id == i then f m else m)).map (·.id) = ms.map (·.id) := by
  induction ms with
  | nil => rfl
  | cons m ms ih =>
    simp only [List.map_cons, ih]
    congr 1
    split <;> simp [hf]

theorem eq_of_nodup_map_ids : ∀ (ms : List Mem), (ms.map (·.id)).Nodup →
    ∀ x ∈ ms, ∀ y ∈ ms, x.id = y.id → x = y
  | [], _, x, hx, _, _, _ => by simp at hx
  | m :: ms, hnd, x, hx, y, hy, hxy => by
    simp only [List.map_cons, List.nodup_cons, List.mem_map, not_exists, not_and] at hnd
    simp only [List.mem_cons] at hx hy
    rcases hx with rfl | hx <;> rcases hy with rfl | hy
    · rfl
    · exact absurd hxy.symm (hnd.1 y hy)
    · exact absurd hxy (hnd.1 x hx)
    · exact eq_of_nodup_map_ids ms hnd.2 x hx y hy hxy

end Aiorpcx.C09
