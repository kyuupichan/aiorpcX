import Aiorpcx.C09.JInv
/-! Semaphore accounting in histories without a competing `next_done()` caller: the only task
that ever waits on the group's semaphore is the joiner, so

* the waiter list is `[joiner]` exactly while the joiner is parked, else empty;
* permits banked in the semaphore + the permit held by the joiner = length of the done queue;
* a parked joiner has no permit, the semaphore is at 0 (so the done queue is empty) and some
  member is still pending;
* (`s = true`, no `next_done()` caller at all) everything ever popped was popped by the join loop.

All of it except the last point also holds when other tasks do call `next_done()` but are always
served at once (`s = false`, `NoParking`): the starvation of F12 needs a caller that had to
wait. -/
namespace Aiorpcx.C09

def Action.isNextDone : Action → Bool
  | .nextDone .. => true
  | _ => false

/-- would a `next_done()` caller have to wait on the semaphore in this state? (then the action
reports `Obs.nextDoneBlocked`) -/
def G.consumerWouldPark (g : G) : Bool :=
  !(g.doneq.isEmpty && g.pending.isEmpty) && (g.sem == 0 || !g.waiters.isEmpty)

theorem parks_iff_blocked_obs (g : G) (k : Nat) (p : List Nat) :
    Obs.nextDoneBlocked k ∈ (g.apply (.nextDone k p)).2 ↔ g.consumerWouldPark = true := by
  unfold G.apply G.consumerWouldPark
  cases h1 : (g.doneq.isEmpty && g.pending.isEmpty)
  · cases h2 : (g.sem == 0 || !g.waiters.isEmpty)
    · simp only [Bool.false_eq_true, ↓reduceIte, Bool.not_false, Bool.and_false, iff_false]
      unfold G.wake
      cases g.doneq <;> simp
    · simp
  · simp

def hpNat (g : G) : Nat :=
  match g.joiner with
  | some j => if j.hasPermit then 1 else 0
  | none => 0

def isBlocked (g : G) : Bool :=
  match g.joiner with
  | some j => j.blocked
  | none => false

structure NInv (s : Bool) (g : G) : Prop where
  waiters : g.waiters = if isBlocked g then [Waiter.joiner] else []
  sem : g.sem + hpNat g = g.doneq.length
  blocked : ∀ j, g.joiner = some j → j.blocked = true →
    j.hasPermit = false ∧ g.sem = 0 ∧ g.pending ≠ []
  popped : s = true → g.popped = g.joinPopped

/-- the state in which `Semaphore.release()` is called: a new entry was just queued -/
structure RelPre (s : Bool) (g : G) : Prop where
  waiters : g.waiters = if isBlocked g then [Waiter.joiner] else []
  sem : g.sem + hpNat g + 1 = g.doneq.length
  blocked : ∀ j, g.joiner = some j → j.blocked = true → j.hasPermit = false ∧ g.sem = 0
  popped : s = true → g.popped = g.joinPopped

variable {s : Bool}

theorem NInv.not_waiting {g : G} (h : NInv s g) (hb : isBlocked g = false) :
    Waiter.joiner ∉ g.waiters := by
  rw [h.waiters, hb]; exact List.not_mem_nil

theorem isBlocked_of {g : G} {j : Joiner} (hj : g.joiner = some j) : isBlocked g = j.blocked := by
  rw [isBlocked, hj]

theorem hpNat_of {g : G} {j : Joiner} (hj : g.joiner = some j) :
    hpNat g = if j.hasPermit then 1 else 0 := by
  rw [hpNat, hj]

/-- a permit is held, so the queue is not empty -/
theorem permit_cons {g : G} {j : Joiner} (hsem : g.sem + hpNat g = g.doneq.length)
    (hj : g.joiner = some j) (hperm : j.hasPermit = true) :
    ∃ t rest, g.doneq = t :: rest ∧ g.sem = rest.length := by
  rw [hpNat_of hj, hperm] at hsem
  cases hd : g.doneq with
  | nil => rw [hd] at hsem; cases hsem
  | cons t rest => rw [hd] at hsem; exact ⟨t, rest, rfl, Nat.succ.inj hsem⟩

/-- `Semaphore.release()` wakes the parked joiner: it held no permit and now holds the new one -/
theorem wake_joiner {g : G} (ws : List Waiter) (hb : isBlocked g = true)
    (hbhp : ∀ j, g.joiner = some j → j.blocked = true → j.hasPermit = false)
    (hsem : g.sem + hpNat g + 1 = g.doneq.length) :
    isBlocked (G.wake { g with waiters := ws } .joiner).1 = false ∧
      g.sem + hpNat (G.wake { g with waiters := ws } .joiner).1 = g.doneq.length := by
  cases hj : g.joiner with
  | none => rw [isBlocked, hj] at hb; cases hb
  | some j =>
    rw [hpNat_of hj, hbhp j hj (by rw [← isBlocked_of hj]; exact hb)] at hsem
    exact ⟨rfl, hsem⟩

/-- the permit goes to the parked joiner, or is banked -/
theorem ninv_release (g : G) (h : RelPre s g) : NInv s g.release.1 := by
  cases hb : isBlocked g with
  | false =>
    rw [release_nil (by rw [h.waiters, hb]; rfl)]
    refine ⟨h.waiters, ?_, ?_, h.popped⟩
    · have := h.sem
      show g.sem + 1 + hpNat g = g.doneq.length
      omega
    · intro j hj hbj
      rw [isBlocked_of (g := g) hj, hbj] at hb; cases hb
  | true =>
    rw [release_cons (w := .joiner) (ws := []) (by rw [h.waiters, hb]; rfl)]
    obtain ⟨hb', hsem⟩ := wake_joiner [] hb (fun j hj hbj => (h.blocked j hj hbj).1) h.sem
    refine ⟨by rw [hb']; rfl, hsem, fun j hj hbj => ?_, h.popped⟩
    rw [isBlocked_of hj, hbj] at hb'; cases hb'

theorem ninv_frame {g g' : G} (h : NInv s g) (hw : g'.waiters = g.waiters) (hs : g'.sem = g.sem)
    (hd : g'.doneq = g.doneq) (hj : g'.joiner = g.joiner) (hp : g.pending ≠ [] → g'.pending ≠ [])
    (hpo : g'.popped = g.popped) (hjp : g'.joinPopped = g.joinPopped) : NInv s g' := by
  refine ⟨?_, ?_, ?_, fun hs => by rw [hpo, hjp, h.popped hs]⟩
  · rw [hw, h.waiters]; unfold isBlocked; rw [hj]
  · rw [hs, hd, ← h.sem]; unfold hpNat; rw [hj]
  · intro j hj' hb
    rw [hj] at hj'
    obtain ⟨a, b, c⟩ := h.blocked j hj' hb
    exact ⟨a, by rw [hs]; exact b, hp c⟩

theorem MStep.ninv {g g' : G} {o : List Obs} (hs : MStep g g' o) (h : NInv s g) : NInv s g' := by
  induction hs with
  | refl g => exact h
  | refused g c => exact h
  | trans _ _ ih1 ih2 => exact ih2 (ih1 h)
  | @add g g' i d ch ha =>
    obtain ⟨_, _, rfl⟩ := add_some ha
    refine ninv_frame h rfl rfl rfl rfl (fun hne => ?_) rfl rfl
    cases d
    · cases hp : g.pending with
      | nil => exact absurd hp hne
      | cons x xs =>
        intro he
        have : x ∈ addUnique (x :: xs) i := (mem_addUnique_iff _ _ _).2 (.inl (by simp))
        rw [show addUnique (x :: xs) i = [] from he] at this; cases this
    · exact hne
  | canc _ _ => exact ninv_frame h rfl rfl rfl rfl id rfl rfl
  | @fin g i m o hf hs =>
    rw [finishMem_live o hf hs]
    split
    · exact ninv_frame h rfl rfl rfl rfl id rfl rfl
    · refine ninv_release _ ⟨h.waiters, ?_, fun j hj hb => ?_, h.popped⟩
      · show g.sem + hpNat g + 1 = (g.doneq ++ [i]).length
        rw [List.length_append, ← h.sem]; rfl
      · obtain ⟨a, b, _⟩ := h.blocked j hj hb
        exact ⟨a, b⟩

theorem ninv_unparked {g : G} {j : Joiner} (hj : g.joiner = some j) (hb : j.blocked = false) :
    NInv s g ↔ g.waiters = [] ∧ g.sem + (if j.hasPermit then 1 else 0) = g.doneq.length ∧
      (s = true → g.popped = g.joinPopped) := by
  constructor
  · intro h
    have hw := h.waiters
    have hsem := h.sem
    rw [isBlocked_of hj, hb] at hw
    rw [hpNat_of hj] at hsem
    exact ⟨hw, hsem, h.popped⟩
  · rintro ⟨hw, hsem, hp⟩
    refine ⟨by rw [isBlocked_of hj, hb]; exact hw, by rw [hpNat_of hj]; exact hsem,
      fun j' hj' hb' => ?_, hp⟩
    cases Option.some.inj (hj.symm.trans hj')
    rw [hb] at hb'; cases hb'

theorem ninv_setJ_iff (g : G) {j : Joiner} (hb : j.blocked = false) :
    NInv s (setJ g j) ↔ g.waiters = [] ∧ g.sem + (if j.hasPermit then 1 else 0) = g.doneq.length ∧
      (s = true → g.popped = g.joinPopped) :=
  ninv_unparked rfl hb

theorem ninv_setJ {g : G} {j : Joiner} (h : NInv s g) (hj : g.joiner = some j)
    (hb : j.blocked = false) (j' : Joiner) (hb' : j'.blocked = false)
    (hp' : j'.hasPermit = j.hasPermit) : NInv s (setJ g j') :=
  (ninv_setJ_iff g hb').2 (hp' ▸ (ninv_unparked hj hb).1 h)

theorem ninv_jstep {g : G} {perm : List Nat} {j : Joiner} {g' : G} {o : List Obs}
    (hj : g.joiner = some j) (hb : j.blocked = false) (h : NInv s g)
    (hs : JStep g perm j g' o) : NInv s g' := by
  obtain ⟨hw, hsem, hpop⟩ := (ninv_unparked hj hb).1 h
  have hnw : Waiter.joiner ∉ g.waiters := by rw [hw]; exact List.not_mem_nil
  have sweep : ∀ (l : List Nat) (j' : Joiner), j'.blocked = false → j'.hasPermit = j.hasPermit →
      NInv s (setJ (g.deliverCancels l).1 j') := fun l j' h1 h2 =>
    have m := mstep_deliverCancels g l
    ninv_setJ (m.ninv h) ((m.joiner_kept hnw).1.trans hj) hb j' h1 h2
  cases hs with
  | crSweep _ _ => exact sweep _ _ hb rfl
  | finSweep _ _ _ => exact sweep _ _ hb rfl
  | crDone _ _ _ _ => exact ninv_setJ h hj hb _ hb rfl
  | nowait _ _ _ => exact ninv_setJ h hj hb _ hb rfl
  | nothingLeft _ _ _ _ _ => exact ninv_setJ h hj hb _ hb rfl
  | finClear _ _ _ _ => exact ninv_setJ h hj hb _ hb rfl
  | finExit _ _ _ => exact (ninv_setJ_iff _ (by exact hb)).2 ⟨hw, hsem, hpop⟩
  | pop hp hperm =>
    obtain ⟨t, rest, hd, hlen⟩ := permit_cons h.sem hj hperm
    rw [joinerPop_cons j hd]
    refine (ninv_setJ_iff (g.popT t rest) (by exact hb)).2 ⟨hw, hlen, fun hs => ?_⟩
    show g.popped ++ [t] = g.joinPopped ++ [t]
    rw [hpop hs]
  | park hp hperm hwt hne hsw =>
    rw [hperm] at hsem
    have hs0 : g.sem = 0 := hsw.elim id fun h0 => absurd hw h0
    have hdq : g.doneq = [] := List.eq_nil_of_length_eq_zero (by rw [← hsem, hs0]; rfl)
    refine ⟨?_, ?_, fun j' hj' _ => ?_, hpop⟩
    · rw [isBlocked_of (j := { j with blocked := true }) rfl]
      show g.waiters ++ [Waiter.joiner] = [Waiter.joiner]
      rw [hw]; rfl
    · rw [hpNat_of (j := { j with blocked := true }) rfl]
      show g.sem + (if j.hasPermit then 1 else 0) = g.doneq.length
      rw [hperm]; exact hsem
    · cases Option.some.inj hj'
      exact ⟨hperm, hs0, fun hpe => hne ⟨hdq, hpe⟩⟩
  | acquire hp hperm _ _ hs0 hw0 =>
    rw [hperm] at hsem
    refine (ninv_setJ_iff _ (by exact hb)).2 ⟨hw, ?_, hpop⟩
    show g.sem - 1 + 1 = g.doneq.length
    have : g.sem + 0 = g.doneq.length := hsem
    omega

theorem ninv_newJoiner {g : G} (h : NInv s g) (hjn : g.joiner = none) (ph : Phase) :
    NInv s (setJ g (newJoiner ph)) := by
  have hw := h.waiters
  have hsem := h.sem
  rw [isBlocked, hjn] at hw
  rw [hpNat, hjn] at hsem
  exact (ninv_setJ_iff g rfl).2 ⟨hw, hsem, h.popped⟩

theorem ninv_astep {g : G} {a : Action} {g' : G} {o : List Obs} (hs : AStep g a g' o)
    (hnc : a.isNextDone = false ∨ (s = false ∧ g.consumerWouldPark = false)) (h : NInv s g) :
    NInv s g' := by
  have hfil : g.waiters.filter (· != Waiter.joiner) = [] := by
    rw [h.waiters]; cases isBlocked g <;> rfl
  cases hs with
  | member m => exact m.ninv h
  | invalid _ => exact h
  | joiner hj =>
    cases hj with
    | enter _ hjn _ => exact ninv_newJoiner h hjn _
    | @cancelLoop j hj hp hperm =>
      have hsem := h.sem
      rw [hpNat_of hj, hperm] at hsem
      exact (ninv_setJ_iff _ rfl).2 ⟨hfil, hsem, h.popped⟩
    | @cancelPermit j hj hp hperm =>
      -- nobody else waits: the permit is banked
      have hsem := h.sem
      rw [hpNat_of hj, hperm] at hsem
      rw [release_nil (g := { g with waiters := g.waiters.filter (· != .joiner) }) hfil]
      exact (ninv_setJ_iff _ rfl).2 ⟨hfil, hsem, h.popped⟩
    | @cancelAwait j hj hp =>
      have hw := h.waiters
      have hsem := h.sem
      simp only [isBlocked, hj] at hw
      simp only [hpNat, hj] at hsem
      refine ⟨hw, hsem, ?_, h.popped⟩
      intro j' hj' hbb
      cases Option.some.inj hj'
      exact h.blocked j hj hbb
  | nextDoneNone _ _ _ _ => exact h
  | nextDonePark k _ hne hsw =>
    exfalso
    rcases hnc with hnc | ⟨_, hpark⟩
    · cases hnc
    · have : g.consumerWouldPark = true := by
        simp only [G.consumerWouldPark, Bool.and_eq_true, Bool.not_eq_true', Bool.and_eq_false_iff,
          List.isEmpty_eq_false_iff, Bool.or_eq_true, beq_iff_eq]
        refine ⟨?_, hsw⟩
        by_cases hd : g.doneq = []
        · exact .inr fun hp => hne ⟨hd, hp⟩
        · exact .inl hd
      rw [hpark] at this; cases this
  | nextDoneServe k _ _ hs0 hw0 =>
    rcases hnc with hnc | ⟨hsf, _⟩
    · cases hnc
    · have hsem := h.sem
      unfold G.wake
      cases hd : g.doneq with
      | nil => rw [hd] at hsem; simp at hsem; exact absurd hsem.1 hs0
      | cons t rest =>
        rw [hd] at hsem
        refine ⟨h.waiters, ?_, fun j hj hb => absurd (h.blocked j hj hb).2.1 hs0, ?_⟩
        · simp only [hpNat, List.length_cons] at hsem ⊢; omega
        · intro hs'; rw [hsf] at hs'; cases hs'

theorem ninv_init (p : Policy) : NInv s { wait := p } :=
  ⟨rfl, rfl, fun _ h => (nomatch h), fun _ => rfl⟩

/-- along the history, no `next_done()` caller ever has to wait: each one is served (or told
"nothing left") at once -/
def NoParking (g : G) : List Action → Prop
  | [] => True
  | a :: as => (a.isNextDone = true → g.consumerWouldPark = false) ∧ NoParking (react g a).1 as

theorem noParking_of_noNextDone (g : G) (as : List Action)
    (h : ∀ a ∈ as, a.isNextDone = false) : NoParking g as := by
  induction as generalizing g with
  | nil => trivial
  | cons a as ih =>
    refine ⟨fun ht => ?_, ih _ (fun b hb => h b (by simp [hb]))⟩
    rw [h a (by simp)] at ht; cases ht

theorem noParking_append (g : G) (as : List Action) (a : Action) :
    NoParking g (as ++ [a]) ↔ NoParking g as ∧
      (a.isNextDone = true → (runAll g as).1.consumerWouldPark = false) := by
  induction as generalizing g with
  | nil => simp [NoParking, runAll]
  | cons b bs ih => simp only [List.cons_append, NoParking, runAll, ih, and_assoc]

end Aiorpcx.C09
