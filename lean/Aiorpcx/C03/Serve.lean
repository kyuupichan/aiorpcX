import Aiorpcx.C03.Model
/-!
# C03 — what `serve` computes, in closed form

`live` = the completions that are actually served (up to and including the first that closes the
connection, stopping before the first whose exception escapes); `cutOff` = the rest.
`foldl_spec` gives the whole final state of the fold in terms of them.
-/
namespace Aiorpcx.C03

def stepOf (cfg : Cfg) (it : Item) : Step := throttled .repaired cfg it.outcome it.kind
def closes (cfg : Cfg) (it : Item) : Bool := (stepOf cfg it).close
def escapes (cfg : Cfg) (it : Item) : Bool := (stepOf cfg it).escapes

/-- the completions that are served -/
def live (cfg : Cfg) : List Item → List Item
  | [] => []
  | it :: rest =>
    if escapes cfg it then [] else if closes cfg it then [it] else it :: live cfg rest

/-- the completions that are not: everything after a close, everything from an escape on -/
def cutOff (cfg : Cfg) : List Item → List Item
  | [] => []
  | it :: rest =>
    if escapes cfg it then it :: rest else if closes cfg it then rest else cutOff cfg rest

/-- message processing ends with an exception -/
def dies (cfg : Cfg) : List Item → Bool
  | [] => false
  | it :: rest => if escapes cfg it then true else if closes cfg it then false else dies cfg rest

/-- the reply of one served item, as a list (empty for a notification) -/
def expectedReply (cfg : Cfg) (it : Item) : List (Nat × Reply) := replyList (stepOf cfg it) it

/-- the three ways a completion meets the fold: its exception escapes, it closes, or neither -/
theorem cons_escapes {cfg : Cfg} {it : Item} (rest : List Item) (h : escapes cfg it = true) :
    live cfg (it :: rest) = [] ∧ cutOff cfg (it :: rest) = it :: rest ∧
    dies cfg (it :: rest) = true := by
  simp only [live, cutOff, dies, h, if_true, and_self]

theorem cons_closes {cfg : Cfg} {it : Item} (rest : List Item) (he : escapes cfg it = false)
    (h : closes cfg it = true) :
    live cfg (it :: rest) = [it] ∧ cutOff cfg (it :: rest) = rest ∧
    dies cfg (it :: rest) = false := by
  simp only [live, cutOff, dies, he, h, if_true, Bool.false_eq_true, if_false, and_self]

theorem cons_clean {cfg : Cfg} {it : Item} (rest : List Item) (he : escapes cfg it = false)
    (h : closes cfg it = false) :
    live cfg (it :: rest) = it :: live cfg rest ∧ cutOff cfg (it :: rest) = cutOff cfg rest ∧
    dies cfg (it :: rest) = dies cfg rest := by
  simp only [live, cutOff, dies, he, h, Bool.false_eq_true, if_false, and_self]

/-- once message processing is dead or the connection closed, completions are only lost -/
theorem foldl_cut (v : Variant) (cfg : Cfg) (items : List Item) :
    ∀ s : Served, (s.alive = false ∨ s.closed = true) →
      items.foldl (serveOne v cfg) s = { s with lost := s.lost ++ items.map (·.id) } := by
  induction items with
  | nil => intro s _; simp
  | cons it rest ih =>
    intro s h
    have h1 : serveOne v cfg s it = { s with lost := s.lost ++ [it.id] } := by
      rcases h with h | h <;> simp [serveOne, h]
    rw [List.foldl_cons, h1, ih { s with lost := s.lost ++ [it.id] } h, List.map_cons,
      List.append_assoc]
    rfl

theorem serveOne_live (cfg : Cfg) (s : Served) (it : Item) (ha : s.alive = true)
    (hc : s.closed = false) :
    serveOne .repaired cfg s it =
      if escapes cfg it then { s with alive := false, closed := true, lost := s.lost ++ [it.id] }
      else record s it (stepOf cfg it) := by
  rw [serveOne, ha, hc]
  rfl

theorem foldl_spec (cfg : Cfg) (items : List Item) :
    ∀ s : Served, s.alive = true → s.closed = false →
      items.foldl (serveOne .repaired cfg) s =
        { alive := !dies cfg items,
          closed := (live cfg items).any (closes cfg) || dies cfg items,
          replies := s.replies ++
            ((live cfg items).filter fun it => !it.batch).flatMap (expectedReply cfg),
          batchParts := s.batchParts ++
            ((live cfg items).filter fun it => it.batch).flatMap (expectedReply cfg),
          errors := s.errors + ((live cfg items).map fun it => (stepOf cfg it).errors).sum,
          cost := s.cost + ((live cfg items).map fun it => (stepOf cfg it).cost).sum,
          hooks := s.hooks + ((live cfg items).filter fun it => (stepOf cfg it).hook).length,
          lost := s.lost ++ (cutOff cfg items).map (·.id) } := by
  induction items with
  | nil =>
    intro s ha hc
    cases s
    simp only at ha hc
    subst ha hc
    simp [live, cutOff, dies]
  | cons it rest ih =>
    intro s ha hc
    rw [List.foldl_cons, serveOne_live cfg s it ha hc]
    cases he : escapes cfg it with
    | true =>
      obtain ⟨h1, h2, h3⟩ := cons_escapes rest he
      rw [if_pos rfl, foldl_cut _ _ _ _ (.inl rfl), h1, h2, h3]
      simp
    | false =>
      rw [if_neg Bool.false_ne_true]
      cases hcl : closes cfg it with
      | true =>
        -- `it` is recorded, then the rest is cut
        obtain ⟨h1, h2, h3⟩ := cons_closes rest he hcl
        have hcl' : (stepOf cfg it).close = true := hcl
        rw [foldl_cut _ _ _ _ (.inr (show (record s it (stepOf cfg it)).closed = true from hcl)),
          h1, h2, h3]
        cases hb : it.batch <;>
          simp [record, hb, expectedReply, ha, hcl, hcl', ← List.countP_eq_length_filter,
            List.countP_cons]
      | false =>
        -- `it` is recorded, and the fold goes on from the recorded state
        obtain ⟨h1, h2, h3⟩ := cons_clean rest he hcl
        have hcl' : (stepOf cfg it).close = false := hcl
        rw [ih (record s it (stepOf cfg it)) ha hcl', h1, h2, h3]
        cases hb : it.batch <;>
          simp [record, hb, expectedReply, hcl, hcl', ← List.countP_eq_length_filter,
            List.countP_cons, Nat.add_assoc, Nat.add_comm]

theorem live_append_cutOff (cfg : Cfg) (items : List Item) :
    live cfg items ++ cutOff cfg items = items := by
  induction items with
  | nil => rfl
  | cons it rest ih =>
    cases he : escapes cfg it with
    | true =>
      obtain ⟨h1, h2, _⟩ := cons_escapes rest he
      rw [h1, h2]
      rfl
    | false =>
      cases hcl : closes cfg it with
      | true =>
        obtain ⟨h1, h2, _⟩ := cons_closes rest he hcl
        rw [h1, h2]
        rfl
      | false =>
        obtain ⟨h1, h2, _⟩ := cons_clean rest he hcl
        rw [h1, h2, List.cons_append, ih]

theorem clean_prefix (cfg : Cfg) (pre post : List Item)
    (hpre : ∀ it ∈ pre, closes cfg it = false ∧ escapes cfg it = false) :
    live cfg (pre ++ post) = pre ++ live cfg post ∧ cutOff cfg (pre ++ post) = cutOff cfg post ∧
    dies cfg (pre ++ post) = dies cfg post := by
  induction pre with
  | nil => exact ⟨rfl, rfl, rfl⟩
  | cons it pre ih =>
    obtain ⟨hc, he⟩ := hpre it List.mem_cons_self
    obtain ⟨h1, h2, h3⟩ := cons_clean (pre ++ post) he hc
    obtain ⟨i1, i2, i3⟩ := ih fun x hx => hpre x (List.mem_cons_of_mem _ hx)
    rw [List.cons_append, h1, h2, h3, i1, i2, i3]
    exact ⟨rfl, rfl, rfl⟩

theorem live_all (cfg : Cfg) (items : List Item)
    (h : ∀ it ∈ items, closes cfg it = false ∧ escapes cfg it = false) :
    live cfg items = items ∧ cutOff cfg items = [] ∧ dies cfg items = false := by
  have := clean_prefix cfg items [] h
  rwa [List.append_nil, show live cfg [] = [] from rfl, List.append_nil] at this

theorem live_through_close (cfg : Cfg) (pre : List Item) (d : Item) (rest : List Item)
    (hpre : ∀ it ∈ pre, closes cfg it = false ∧ escapes cfg it = false)
    (hd : closes cfg d = true) (hde : escapes cfg d = false) :
    live cfg (pre ++ d :: rest) = pre ++ [d] ∧ cutOff cfg (pre ++ d :: rest) = rest ∧
    dies cfg (pre ++ d :: rest) = false := by
  obtain ⟨h1, h2, h3⟩ := cons_closes rest hde hd
  have := clean_prefix cfg pre (d :: rest) hpre
  rwa [h1, h2, h3] at this

end Aiorpcx.C03
