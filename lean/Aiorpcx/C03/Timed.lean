import Aiorpcx.C03.Serve
namespace Aiorpcx.C03

/-- id, kind and batch membership of an item: what no schedule changes -/
def shape (it : Item) : Nat × Kind × Bool := (it.id, it.kind, it.batch)

@[simp] theorem shape_overrun (it : Item) : shape (overrun it) = shape it := rfl

/-- how a completion relates to the arrival it came from: the handler's own outcome strictly
before the deadline, or an overrun exactly at the deadline -/
def Completes (tm : Timing) (ev : Nat × Item) (ti : TItem) : Prop :=
  (ev.2 = ti.item ∧ ev.1 < ti.arr + tm.deadline) ∨
  (ev.2 = overrun ti.item ∧ ev.1 = ti.arr + tm.deadline)

theorem arrive_completes (tm : Timing) (free : List Nat) (ti : TItem) :
    Completes tm (arrive tm free ti).2 ti := by
  unfold arrive Completes
  cases free with
  | nil => simp
  | cons f rest =>
    by_cases h1 : ti.arr + tm.deadline ≤ max f ti.arr
    · simp [h1]
    · by_cases h2 : ti.item.outcome = .excessiveCost
      · simp only [h1, h2, if_false, if_true]
        left
        exact ⟨trivial, by omega⟩
      · by_cases h3 : ti.item.outcome = .overruns ∨
            ti.arr + tm.deadline ≤ max f ti.arr + tm.throttle + ti.dur
        · simp [h1, h2, h3]
        · have h4 : ¬ ti.arr + tm.deadline ≤ max f ti.arr + tm.throttle + ti.dur :=
            fun h => h3 (Or.inr h)
          simp only [h1, h2, h3, if_false]
          left
          exact ⟨trivial, by omega⟩

theorem completions_length (tm : Timing) (tis : List TItem) :
    ∀ free, (completions tm free tis).length = tis.length := by
  induction tis with
  | nil => intro _; rfl
  | cons ti rest ih => intro free; simp [completions, ih]

theorem completions_pointwise (tm : Timing) (tis : List TItem) :
    ∀ free, ∀ p ∈ (completions tm free tis).zip tis, Completes tm p.1 p.2 := by
  induction tis with
  | nil => intro _ p hp; simp [completions] at hp
  | cons ti rest ih =>
    intro free p hp
    simp only [completions, List.zip_cons_cons, List.mem_cons] at hp
    rcases hp with rfl | hp
    · exact arrive_completes tm free ti
    · exact ih _ p hp

theorem completions_of_mem (tm : Timing) (tis : List TItem) :
    ∀ free, ∀ ev ∈ completions tm free tis, ∃ ti ∈ tis, Completes tm ev ti := by
  induction tis with
  | nil => intro _ ev h; simp [completions] at h
  | cons ti rest ih =>
    intro free ev h
    simp only [completions, List.mem_cons] at h
    rcases h with rfl | h
    · exact ⟨ti, by simp, arrive_completes tm free ti⟩
    · obtain ⟨t, ht, hc⟩ := ih _ ev h
      exact ⟨t, by simp [ht], hc⟩

theorem mem_completions (tm : Timing) (tis : List TItem) :
    ∀ free, ∀ ti ∈ tis, ∃ ev ∈ completions tm free tis, Completes tm ev ti := by
  induction tis with
  | nil => intro _ ti h; simp at h
  | cons t rest ih =>
    intro free ti h
    rcases List.mem_cons.mp h with rfl | h
    · exact ⟨_, by simp [completions], arrive_completes tm free _⟩
    · obtain ⟨ev, hev, hc⟩ := ih (arrive tm free t).1 ti h
      exact ⟨ev, by simp [completions, hev], hc⟩

theorem insertEv_perm (e : Nat × Item) (l : List (Nat × Item)) :
    (insertEv e l).Perm (e :: l) := by
  induction l with
  | nil => exact .refl _
  | cons x xs ih =>
    unfold insertEv
    by_cases h : e.1 ≤ x.1
    · simp [h]
    · simp only [h, if_false]
      exact (List.Perm.cons x ih).trans (List.Perm.swap e x xs)

theorem sortEv_perm (l : List (Nat × Item)) : (sortEv l).Perm l := by
  induction l with
  | nil => exact .refl _
  | cons e es ih =>
    exact (insertEv_perm e (sortEv es)).trans (List.Perm.cons e ih)

theorem insertEv_sorted (e : Nat × Item) (l : List (Nat × Item))
    (h : l.Pairwise fun a b => a.1 ≤ b.1) : (insertEv e l).Pairwise fun a b => a.1 ≤ b.1 := by
  induction l with
  | nil => simp [insertEv]
  | cons x xs ih =>
    unfold insertEv
    have hx := List.pairwise_cons.mp h
    by_cases hle : e.1 ≤ x.1
    · simp only [hle, if_true]
      refine List.pairwise_cons.mpr ⟨?_, h⟩
      intro y hy
      rcases List.mem_cons.mp hy with rfl | hy
      · exact hle
      · exact Nat.le_trans hle (hx.1 y hy)
    · simp only [hle, if_false]
      refine List.pairwise_cons.mpr ⟨?_, ih hx.2⟩
      intro y hy
      have := (insertEv_perm e xs).mem_iff.mp hy
      rcases List.mem_cons.mp this with rfl | hy
      · omega
      · exact hx.1 y hy

theorem sortEv_sorted (l : List (Nat × Item)) : (sortEv l).Pairwise fun a b => a.1 ≤ b.1 := by
  induction l with
  | nil => simp [sortEv]
  | cons e es ih => exact insertEv_sorted e _ ih

theorem completions_shape (tm : Timing) (tis : List TItem) :
    ∀ free, (completions tm free tis).map (fun ev => shape ev.2) = tis.map fun ti => shape ti.item := by
  induction tis with
  | nil => intro _; rfl
  | cons ti rest ih =>
    intro free
    simp only [completions, List.map_cons, ih]
    rcases arrive_completes tm free ti with h | h <;> simp [h.1]

end Aiorpcx.C03
