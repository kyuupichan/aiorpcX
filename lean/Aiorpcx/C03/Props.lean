import Aiorpcx.C03.Model
import Aiorpcx.C03.Serve
import Aiorpcx.C03.Timed
import Aiorpcx.Facts.C03
/-!
# C03 — any handler outcome yields one well-formed reply; the session survives

The decision logic is stated outright (`reply_table`), tied to the running code by the
behavioural table (`facts_ladder_table`), lifted to any number of concurrent items in any
completion order (`serve_spec`, `session_survives`, `disconnect_cuts_rest`), and to the K-slot
schedule with the processing timeout (`schedule_complete`, `timed_session_survives`).
`Variant.repaired` is the current tree.
-/
namespace Aiorpcx.C03

/-- the configuration read from the source on this run -/
def factsCfg : Cfg :=
  { internalError := Facts.C03.internalError, serverBusy := Facts.C03.serverBusy,
    excessiveUsage := Facts.C03.excessiveUsage, baseCost := Facts.C03.baseCost }

def kindOf (request : Bool) : Kind := if request then .request else .notification

/-- **Tie to the running code.**  The codes are the ones the property names, and on every row of
the behavioural table - one real serving session per row, given one request or notification
whose handler behaves as each outcome class (values, the three kinds of unencodable values, a
returned RPCError object, RPCError, ProtocolError, five other exception classes, an overrun in
the handler / while queued for a slot / in the throttle sleep, the three ReplyAndDisconnect
payloads, a refusal by the limiter, and the behaviours outside the quantifier) - the decision
model predicts exactly what was observed: the reply, the rise of the error count and of the
cost, the close, the hook, and whether the session stopped serving. -/
theorem facts_ladder_table :
    Facts.C03.internalError = -32603 ∧ Facts.C03.serverBusy = -102 ∧
    Facts.C03.excessiveUsage = -101 ∧
    (∀ row ∈ Facts.C03.table,
      obsOf (throttled .repaired factsCfg row.2.1 (kindOf row.1)) = row.2.2) ∧
    40 ≤ Facts.C03.table.length :=
  ⟨by decide +kernel, by decide +kernel, by decide +kernel, by decide +kernel, by decide +kernel⟩

/-- the requests of one schedule probe: request `i` runs for its duration and returns a value,
or never ends by itself -/
def probeItems : Nat → List (Nat × Bool × Nat) → List TItem
  | _, [] => []
  | i, (d, never, arr) :: rest =>
    ⟨⟨i, .request, false, if never then .overruns else .returns (.value i)⟩, d, arr⟩ ::
      probeItems (i + 1) rest

/-- **Tie of the schedule to the running code.**  On every row of the observed schedule table -
real sessions with 1, 2 and 3 slots, with and without a throttle sleep, given 3 to 5 requests at
once or one after the other - `schedule` predicts the instant at which every request completed
(its handler reached its outcome, or the processing timeout answered for it), in the observed
order. -/
theorem facts_schedule_table :
    (∀ row ∈ Facts.C03.scheduleTable,
      (schedule { slots := row.1, deadline := Facts.C03.probeDeadline, throttle := row.2.1 }
          (probeItems 0 row.2.2.1)).map (fun ev => (ev.2.id, ev.1)) = row.2.2.2) ∧
    20 ≤ Facts.C03.scheduleTable.length :=
  ⟨by decide +kernel, by decide +kernel⟩

/-- the behaviours the property quantifies over, plus the limiter's refusal (not a handler
behaviour, but one the ladder serves).  Outside: `raise ReplyAndDisconnect()` with no argument
and the BaseException behaviours (`raisesTaskTimeout`, `raisesBase`). -/
def inScope : Outcome → Bool
  | .raisesTaskTimeout => false
  | .raisesBase => false
  | .replyAndDisconnectNoArg => false
  | _ => true

/-- the reply the property text prescribes -/
def textReply (cfg : Cfg) : Outcome → Reply
  | .returns (.value v) => .result v
  | .returns (.unencodable _) => .error cfg.internalError msgEncoding
  | .returns (.error c m _) => .error c m
  | .raisesRpcError c m _ => .error c m
  | .raisesProtocolError c m => .error c m
  | .raisesOther => .error cfg.internalError msgInternal
  | .raisesExcessive => .error cfg.internalError msgInternal      -- an Exception like any other
  | .overruns => .error cfg.serverBusy msgBusy
  | .replyAndDisconnect (.value v) => .result v
  | .replyAndDisconnect (.unencodable _) => .error cfg.internalError msgEncoding
  | .replyAndDisconnect (.error c m _) => .error c m
  | .excessiveCost => .error cfg.excessiveUsage msgExcessive
  | _ => .error cfg.internalError msgInternal

/-- **The reply table.**  For a request, whatever the handler did (within the property's
quantifier, the handler raising the limiter's own exception class apart), exactly one reply is
produced and it is: the value; the handler's own code and message (RPCError, ProtocolError, a
returned RPCError object); -32603 for any other exception and for a value that cannot be
encoded; -102 for an overrun of the processing timeout; the carried value/error for
ReplyAndDisconnect; -101 for a refusal by the limiter.  Nothing escapes. -/
theorem reply_table (cfg : Cfg) (o : Outcome) (hs : inScope o = true) (hx : o ≠ .raisesExcessive) :
    (throttled .repaired cfg o .request).escapes = false ∧
    (throttled .repaired cfg o .request).reply = some (textReply cfg o) := by
  cases o with
  | returns p => cases p <;> exact ⟨rfl, rfl⟩
  | replyAndDisconnect p => cases p <;> exact ⟨rfl, rfl⟩
  | raisesExcessive => exact absurd rfl hx
  | raisesTaskTimeout => cases hs
  | raisesBase => cases hs
  | replyAndDisconnectNoArg => cases hs
  | _ => exact ⟨rfl, rfl⟩

example : inScope .raisesOther = true ∧ Outcome.raisesOther ≠ .raisesExcessive := by decide

/-- the full-strength statement: every behaviour within the quantifier - `raise
ExcessiveSessionCostError()` in a handler is "an arbitrary Exception" - gets the text's reply
and does not close the connection unless it is a ReplyAndDisconnect / a limiter refusal -/
def reply_table_full : Prop :=
  ∀ (cfg : Cfg) (o : Outcome), inScope o = true →
    (throttled .repaired cfg o .request).escapes = false ∧
    (throttled .repaired cfg o .request).reply = some (textReply cfg o)

/-- the code violates it: a handler that itself raises ExcessiveSessionCostError is answered
-101 'excessive resource usage' (and the session is disconnected) by the clause meant for the
limiter (known finding `c03:handler-raised-excessive-cost-error`) -/
theorem reply_table_full_fails : ¬ reply_table_full := by
  intro h
  exact absurd (h {} .raisesExcessive rfl).2 (by decide)

/-- what the code does with that behaviour -/
theorem raises_excessive_as_limiter (cfg : Cfg) (k : Kind) :
    throttled .repaired cfg .raisesExcessive k = throttled .repaired cfg .excessiveCost k := by
  cases k <;> rfl

/-- the behaviours outside the quantifier: a TaskTimeout raised by the handler is answered like
an overrun; `ReplyAndDisconnect()` and any other BaseException leave `_throttled_request` -
then message processing is dead, the connection is aborted (F34), and whatever completes later
is lost -/
theorem outside_quantifier (v : Variant) (cfg : Cfg) (k : Kind) :
    throttled v cfg .raisesTaskTimeout k = throttled v cfg .overruns k ∧
    (throttled v cfg .raisesBase k).escapes = true ∧
    (throttled v cfg .replyAndDisconnectNoArg k).escapes = true ∧
    (∀ (s : Served) (it : Item), s.alive = true → s.closed = false →
      (throttled v cfg it.outcome it.kind).escapes = true →
      serveOne v cfg s it = { s with alive := false, closed := true, lost := s.lost ++ [it.id] }) := by
  refine ⟨by cases k <;> rfl, by cases k <;> rfl, by cases k <;> rfl, fun s it ha hc he => ?_⟩
  simp [serveOne, ha, hc, he]

/-- a notification is never answered, whatever its handler did, and within the quantifier
nothing escapes either -/
theorem notification_silent (v : Variant) (cfg : Cfg) (o : Outcome) :
    (throttled v cfg o .notification).reply = none ∧
    (inScope o = true → (throttled v cfg o .notification).escapes = false) := by
  cases o with
  | raisesBase => exact ⟨rfl, nofun⟩
  | replyAndDisconnectNoArg => exact ⟨rfl, nofun⟩
  | _ => exact ⟨rfl, fun _ => rfl⟩

/-- whether an item counts as failed: everything except a plain (or carried) encodable value -
for a notification an unencodable return value goes unnoticed, since nothing is encoded -/
def failedItem (k : Kind) : Outcome → Bool
  | .returns (.value _) => false
  | .replyAndDisconnect (.value _) => false
  | .returns (.unencodable _) => k == .request
  | .replyAndDisconnect (.unencodable _) => k == .request
  | _ => true

/-- **Error accounting**: each failed request raises the error count by exactly one and the
cost by the base error cost plus the error's own cost; a successful one by nothing. -/
theorem errors_cost_accounting (cfg : Cfg) (o : Outcome) (k : Kind) (hs : inScope o = true) :
    (throttled .repaired cfg o k).errors = (if failedItem k o then 1 else 0) ∧
    (throttled .repaired cfg o k).cost =
      (if failedItem k o then cfg.baseCost + (match o with
          | .raisesRpcError _ _ c => c
          | .returns (.error _ _ c) => c
          | .replyAndDisconnect (.error _ _ c) => c
          | _ => 0) else 0) := by
  cases k <;> cases o with
  | returns p => cases p <;> exact ⟨rfl, rfl⟩
  | replyAndDisconnect p => cases p <;> exact ⟨rfl, rfl⟩
  | raisesTaskTimeout => cases hs
  | raisesBase => cases hs
  | replyAndDisconnectNoArg => cases hs
  | _ => exact ⟨rfl, rfl⟩

example : inScope (.raisesRpcError 5 1 10) = true := rfl

/-- the connection is closed exactly for ReplyAndDisconnect and for the limiter's exception
class, and the disconnect hook runs exactly for the latter -/
theorem close_and_hook (cfg : Cfg) (o : Outcome) (k : Kind) :
    (throttled .repaired cfg o k).close =
      (match o with | .replyAndDisconnect _ => true | .excessiveCost => true
                    | .raisesExcessive => true | _ => false) ∧
    (throttled .repaired cfg o k).hook =
      (match o with | .excessiveCost => true | .raisesExcessive => true | _ => false) := by
  cases k <;> cases o with
  | returns p => cases p <;> exact ⟨rfl, rfl⟩
  | replyAndDisconnect p => cases p <;> exact ⟨rfl, rfl⟩
  | _ => exact ⟨rfl, rfl⟩

/-- within the quantifier no exception leaves `_throttled_request` -/
theorem never_escapes (cfg : Cfg) (o : Outcome) (k : Kind) (hs : inScope o = true) :
    (throttled .repaired cfg o k).escapes = false := by
  cases k <;> cases o with
  | returns p => cases p <;> rfl
  | replyAndDisconnect p => cases p <;> rfl
  | raisesTaskTimeout => cases hs
  | raisesBase => cases hs
  | replyAndDisconnectNoArg => cases hs
  | _ => rfl

example : inScope .overruns = true := rfl

/-- a request always gets a reply unless an exception leaves the function -/
theorem request_replied (cfg : Cfg) (o : Outcome)
    (h : (throttled .repaired cfg o .request).escapes = false) :
    (throttled .repaired cfg o .request).reply.isSome = true := by
  cases o with
  | returns p => cases p <;> rfl
  | replyAndDisconnect p => cases p <;> rfl
  | raisesBase => cases h
  | replyAndDisconnectNoArg => cases h
  | _ => rfl

/-- **What `serve` computes.**  For every list of completions (any items, any outcomes, any
order): exactly the completions in `live` (up to and including the first reply-and-disconnect,
stopping before an escaping exception) are answered and counted, the rest is cut off. -/
theorem serve_spec (cfg : Cfg) (items : List Item) :
    serve .repaired cfg items =
      { alive := !dies cfg items,
        closed := (live cfg items).any (closes cfg) || dies cfg items,
        replies := ((live cfg items).filter fun it => !it.batch).flatMap (expectedReply cfg),
        batchParts := ((live cfg items).filter fun it => it.batch).flatMap (expectedReply cfg),
        errors := ((live cfg items).map fun it => (stepOf cfg it).errors).sum,
        cost := ((live cfg items).map fun it => (stepOf cfg it).cost).sum,
        hooks := ((live cfg items).filter fun it => (stepOf cfg it).hook).length,
        lost := (cutOff cfg items).map (·.id) } := by
  have := foldl_spec cfg items {} rfl rfl
  simpa [serve] using this

/-- an item the property speaks about that does not disconnect -/
def clean (cfg : Cfg) (it : Item) : Prop := inScope it.outcome = true ∧ closes cfg it = false

instance (cfg : Cfg) (it : Item) : Decidable (clean cfg it) :=
  inferInstanceAs (Decidable (_ ∧ _))

theorem inScope_not_escapes {cfg : Cfg} {it : Item} (h : inScope it.outcome = true) :
    escapes cfg it = false := never_escapes cfg it.outcome it.kind h

theorem clean_served {cfg : Cfg} {it : Item} (h : clean cfg it) :
    closes cfg it = false ∧ escapes cfg it = false := ⟨h.2, inScope_not_escapes h.1⟩

theorem clean_ne_excessive {cfg : Cfg} {it : Item} (h : clean cfg it) :
    it.outcome ≠ .raisesExcessive := by
  intro he
  have := h.2
  rw [closes, stepOf, (close_and_hook cfg it.outcome it.kind).1, he] at this
  exact absurd this (by decide)

/-- the reply of an item within the quantifier: one for a request - the table's - none for a
notification -/
theorem expectedReply_eq (cfg : Cfg) (it : Item) (hs : inScope it.outcome = true)
    (hx : it.outcome ≠ .raisesExcessive) :
    expectedReply cfg it =
      (match it.kind with
       | .request => [(it.id, textReply cfg it.outcome)]
       | .notification => []) := by
  unfold expectedReply replyList stepOf
  cases hk : it.kind with
  | request => simp [(reply_table cfg it.outcome hs hx).2]
  | notification => simp [(notification_silent .repaired cfg it.outcome).1]

/-- the replies of clean items, picked by any `p`: one per request among them, the table's -/
theorem flatMap_expected (cfg : Cfg) (p : Item → Bool) (l : List Item)
    (h : ∀ it ∈ l, clean cfg it) :
    (l.filter p).flatMap (expectedReply cfg) =
      (l.filter fun it => p it && it.kind == .request).map
        fun it => (it.id, textReply cfg it.outcome) := by
  induction l with
  | nil => rfl
  | cons it rest ih =>
    have h0 := h it List.mem_cons_self
    have ih' := ih fun x hx => h x (List.mem_cons_of_mem _ hx)
    rw [List.filter_cons, List.filter_cons]
    cases hp : p it with
    | false => simpa using ih'
    | true =>
      rw [if_pos rfl, List.flatMap_cons, expectedReply_eq cfg it h0.1 (clean_ne_excessive h0), ih']
      cases hk : it.kind <;> simp

theorem errors_sum (cfg : Cfg) (l : List Item) (h : ∀ it ∈ l, inScope it.outcome = true) :
    (l.map fun it => (stepOf cfg it).errors).sum =
      (l.filter fun it => failedItem it.kind it.outcome).length := by
  induction l with
  | nil => rfl
  | cons it rest ih =>
    have := ih fun x hx => h x (by simp [hx])
    simp only [List.map_cons, List.sum_cons, List.filter_cons]
    rw [this]
    simp only [stepOf, (errors_cost_accounting cfg it.outcome it.kind (h it (by simp))).1]
    split <;> simp <;> omega

/-- **The session survives, and every request is answered exactly once.**  For every finite
set of in-flight requests, notifications and batch members with any assignment of handler
behaviours from the property's list, completing in *any* order, none of them a
reply-and-disconnect: message processing is still alive afterwards, the connection open, no
item is lost; the responses written to single requests are exactly one per request - the one
`reply_table` prescribes, in completion order - and none for a notification; the parts of the
batch response are exactly one per request member; the error count is the number of failed
items. -/
theorem session_survives (cfg : Cfg) (items : List Item) (h : ∀ it ∈ items, clean cfg it) :
    (serve .repaired cfg items).alive = true ∧ (serve .repaired cfg items).closed = false ∧
    (serve .repaired cfg items).lost = [] ∧
    (serve .repaired cfg items).replies =
      (items.filter fun it => !it.batch && it.kind == .request).map
        (fun it => (it.id, textReply cfg it.outcome)) ∧
    (serve .repaired cfg items).batchParts =
      (items.filter fun it => it.batch && it.kind == .request).map
        (fun it => (it.id, textReply cfg it.outcome)) ∧
    (serve .repaired cfg items).errors =
      (items.filter fun it => failedItem it.kind it.outcome).length := by
  obtain ⟨hl, hc, hd⟩ := live_all cfg items fun it hit => clean_served (h it hit)
  have hclosed : items.any (closes cfg) = false :=
    List.any_eq_false.2 fun it hit => by rw [(h it hit).2]; exact Bool.false_ne_true
  rw [serve_spec, hl, hc, hd]
  exact ⟨rfl, by rw [hclosed]; rfl, rfl, flatMap_expected cfg _ items h,
    flatMap_expected cfg _ items h, errors_sum cfg items fun it hit => (h it hit).1⟩

/-- non-vacuity: three concurrent requests (a value, an RPCError, an exception) and a failing
notification, completing out of arrival order -/
example :
    let items : List Item := [⟨2, .request, false, .raisesOther⟩, ⟨0, .request, false, .returns (.value 7)⟩,
      ⟨3, .notification, false, .raisesRpcError 5 1 0⟩, ⟨1, .request, false, .raisesRpcError 9 2 40⟩]
    (∀ it ∈ items, clean {} it) ∧
    (serve .repaired {} items).replies =
      [(2, .error (-32603) msgInternal), (0, .result 7), (1, .error 9 2)] ∧
    (serve .repaired {} items).errors = 3 := by decide +kernel

/-- **The batch response**: with the same hypotheses, a batch that has request members is
answered by exactly one response, made of one part per request member. -/
theorem batch_answered_once (cfg : Cfg) (items : List Item) (h : ∀ it ∈ items, clean cfg it)
    (hb : 0 < batchCount items) :
    batchResponse items (serve .repaired cfg items) =
      some ((items.filter fun it => it.batch && it.kind == .request).map
        (fun it => (it.id, textReply cfg it.outcome))) := by
  rw [batchResponse, (session_survives cfg items h).2.2.2.2.1, List.length_map, if_pos ⟨hb, rfl⟩]

/-- **A reply-and-disconnect cuts the rest.**  If the items completing before `d` neither
disconnect nor escape and `d` closes the connection (ReplyAndDisconnect, a refusal by the
limiter), then serving `pre ++ d :: rest` is serving `pre ++ [d]` - `d` itself is still answered
and counted - and every item of `rest` is lost: never answered, never counted. -/
theorem disconnect_cuts_rest (cfg : Cfg) (pre : List Item) (d : Item) (rest : List Item)
    (hpre : ∀ it ∈ pre, clean cfg it) (hd : closes cfg d = true) (hds : inScope d.outcome = true) :
    serve .repaired cfg (pre ++ d :: rest) =
      { serve .repaired cfg (pre ++ [d]) with lost := rest.map (·.id) } ∧
    (serve .repaired cfg (pre ++ [d])).closed = true ∧
    (serve .repaired cfg (pre ++ [d])).alive = true ∧
    (serve .repaired cfg (pre ++ [d])).replies =
      ((pre ++ [d]).filter fun it => !it.batch).flatMap (expectedReply cfg) ∧
    (serve .repaired cfg (pre ++ [d])).errors =
      ((pre ++ [d]).filter fun it => failedItem it.kind it.outcome).length := by
  have hp : ∀ it ∈ pre, closes cfg it = false ∧ escapes cfg it = false :=
    fun it hit => clean_served (hpre it hit)
  have hde := inScope_not_escapes (cfg := cfg) hds
  obtain ⟨l1, c1, d1⟩ := live_through_close cfg pre d rest hp hd hde
  obtain ⟨l2, c2, d2⟩ := live_through_close cfg pre d [] hp hd hde
  have hsc : ∀ it ∈ pre ++ [d], inScope it.outcome = true := by
    intro it hit
    rcases List.mem_append.mp hit with h | h
    · exact (hpre it h).1
    · simp at h; subst h; exact hds
  refine ⟨?_, ?_, ?_, ?_, ?_⟩
  · rw [serve_spec, serve_spec, l1, c1, d1, l2, c2, d2]
  · rw [serve_spec, l2]; simp [hd]
  · rw [serve_spec, d2]; rfl
  · rw [serve_spec, l2]
  · rw [serve_spec, l2]; exact errors_sum cfg _ hsc

/-- non-vacuity: R0 replies and disconnects, R1 completes afterwards and is never answered -/
example :
    serve .repaired {} [⟨0, .request, false, .replyAndDisconnect (.value 5)⟩,
                        ⟨1, .request, false, .returns (.value 6)⟩] =
      { closed := true, replies := [(0, .result 5)], lost := [1] } := by decide +kernel

/-- **Answered unless cut** (`session_survives` with its side condition): a request is answered
with the table's reply whenever no item that completed strictly before it disconnected -
whatever completes after it, including disconnects and behaviours outside the quantifier. -/
theorem answered_unless_cut (cfg : Cfg) (pre : List Item) (it : Item) (post : List Item)
    (hpre : ∀ x ∈ pre, clean cfg x) (hs : inScope it.outcome = true)
    (hx : it.outcome ≠ .raisesExcessive) (hreq : it.kind = .request) (hb : it.batch = false) :
    (it.id, textReply cfg it.outcome) ∈ (serve .repaired cfg (pre ++ it :: post)).replies := by
  have hp : ∀ x ∈ pre, closes cfg x = false ∧ escapes cfg x = false :=
    fun x hx => clean_served (hpre x hx)
  have hlive : it ∈ live cfg (pre ++ it :: post) := by
    rw [(clean_prefix cfg pre _ hp).1]
    apply List.mem_append_right
    have he := inScope_not_escapes (cfg := cfg) hs
    by_cases hc : closes cfg it = true <;> simp [live, he, hc]
  rw [serve_spec]
  simp only [List.mem_flatMap]
  refine ⟨it, List.mem_filter.mpr ⟨hlive, by simp [hb]⟩, ?_⟩
  rw [expectedReply_eq cfg it hs hx, hreq]
  simp

example : inScope (Outcome.returns (.value 1)) = true ∧
    Outcome.returns (.value 1) ≠ .raisesExcessive := by decide

/-- completion order does not matter for *which* replies are sent: any permutation of the
completion order (no disconnecting item among them) yields a permutation of the same replies -/
theorem replies_order_independent (cfg : Cfg) (a b : List Item) (h : a.Perm b)
    (ha : ∀ it ∈ a, clean cfg it) :
    (serve .repaired cfg a).replies.Perm (serve .repaired cfg b).replies := by
  have hb : ∀ it ∈ b, clean cfg it := fun it hit => ha it (h.mem_iff.mpr hit)
  rw [(session_survives cfg a ha).2.2.2.1, (session_survives cfg b hb).2.2.2.1]
  exact (h.filter _).map _

/-- **The schedule is complete and respects the deadline**: the completion order is a
rearrangement, ascending in time, of one completion per arrival; every completion is the
handler's own outcome strictly before the processing timeout (counted from the arrival), or an
overrun exactly at it - whether the time went on the handler, on the throttle sleep or on waiting
for a slot. -/
theorem schedule_complete (tm : Timing) (tis : List TItem) :
    (schedule tm tis).Perm (completions tm (List.replicate tm.slots 0) tis) ∧
    (schedule tm tis).Pairwise (fun a b => a.1 ≤ b.1) ∧
    (completions tm (List.replicate tm.slots 0) tis).length = tis.length ∧
    (∀ p ∈ (completions tm (List.replicate tm.slots 0) tis).zip tis, Completes tm p.1 p.2) ∧
    (∀ ev ∈ schedule tm tis, ∃ ti ∈ tis, Completes tm ev ti) := by
  refine ⟨sortEv_perm _, sortEv_sorted _, completions_length _ _ _, completions_pointwise _ _ _, ?_⟩
  intro ev hev
  exact completions_of_mem tm tis _ ev ((sortEv_perm _).mem_iff.mp hev)

theorem clean_overrun {cfg : Cfg} (it : Item) : clean cfg (overrun it) := by
  constructor
  · rfl
  · cases hk : it.kind <;> simp [closes, stepOf, overrun, throttled, ladder, hk]

/-- every completion of a schedule of clean items is clean: an overrun closes nothing -/
theorem schedule_clean (cfg : Cfg) (tm : Timing) (tis : List TItem)
    (h : ∀ ti ∈ tis, clean cfg ti.item) : ∀ it ∈ (schedule tm tis).map (·.2), clean cfg it := by
  intro it hit
  obtain ⟨ev, hev, rfl⟩ := List.mem_map.mp hit
  obtain ⟨ti, hti, hc | hc⟩ := (schedule_complete tm tis).2.2.2.2 ev hev
  · rw [hc.1]; exact h ti hti
  · rw [hc.1]; exact clean_overrun _

/-- **Timed lifting.**  Requests arrive at any instants; `slots` handlers run at once, each after
the throttle sleep; none of the behaviours is a reply-and-disconnect.  Then whatever the
durations: message processing survives, nothing is lost, the single requests get exactly one
response each, and each request is answered with the table's reply if its handler finished
before the processing timeout and with 'server busy' if it did not. -/
theorem timed_session_survives (cfg : Cfg) (tm : Timing) (tis : List TItem)
    (h : ∀ ti ∈ tis, clean cfg ti.item) :
    (runTimed .repaired cfg tm tis).alive = true ∧ (runTimed .repaired cfg tm tis).closed = false ∧
    (runTimed .repaired cfg tm tis).lost = [] ∧
    (runTimed .repaired cfg tm tis).replies.length =
      (tis.filter fun ti => !ti.item.batch && ti.item.kind == .request).length ∧
    (∀ ti ∈ tis, ti.item.kind = .request → ti.item.batch = false →
      ((∃ t, t < ti.arr + tm.deadline ∧ (t, ti.item) ∈ schedule tm tis) ∧
        (ti.item.id, textReply cfg ti.item.outcome) ∈ (runTimed .repaired cfg tm tis).replies) ∨
      ((ti.arr + tm.deadline, overrun ti.item) ∈ schedule tm tis ∧
        (ti.item.id, Reply.error cfg.serverBusy msgBusy) ∈ (runTimed .repaired cfg tm tis).replies)) := by
  have hperm := sortEv_perm (completions tm (List.replicate tm.slots 0) tis)
  obtain ⟨h1, h2, h3, h4, _, _⟩ := session_survives cfg _ (schedule_clean cfg tm tis h)
  refine ⟨h1, h2, h3, ?_, ?_⟩
  · -- the single requests are counted through the shapes, which no schedule changes
    have hshape := (hperm.map fun ev => shape ev.2).countP_eq fun s => !s.2.2 && s.2.1 == .request
    rw [completions_shape, List.countP_map, List.countP_map, List.countP_eq_length_filter,
      List.countP_eq_length_filter] at hshape
    rw [runTimed, h4, List.length_map, List.filter_map, List.length_map]
    exact hshape
  · intro ti hti hreq hb
    obtain ⟨ev, hev, hc⟩ := mem_completions tm tis (List.replicate tm.slots 0) ti hti
    have hev' : ev ∈ schedule tm tis := hperm.mem_iff.mpr hev
    have hmem : (ev.2.id, textReply cfg ev.2.outcome) ∈
        (runTimed .repaired cfg tm tis).replies := by
      rw [runTimed, h4]
      refine List.mem_map.mpr ⟨ev.2, List.mem_filter.mpr ⟨List.mem_map_of_mem hev', ?_⟩, rfl⟩
      rcases hc with hc | hc <;> rw [hc.1] <;> simp [hreq, hb, overrun]
    rcases hc with hc | hc
    · rw [hc.1] at hmem
      exact .inl ⟨⟨ev.1, hc.2, hc.1 ▸ hev'⟩, hmem⟩
    · rw [hc.1] at hmem
      exact .inr ⟨by rw [← hc.1, ← hc.2]; exact hev', hmem⟩

/-- **Timed, with disconnects.**  In the schedule, a request whose completion (its own outcome
before the deadline, or the overrun at it) comes strictly before every reply-and-disconnect and
every behaviour outside the quantifier is answered with the table's reply - whatever happens
later. -/
theorem timed_answered_unless_cut (cfg : Cfg) (tm : Timing) (tis : List TItem) (ev : Nat × Item)
    (hev : ev ∈ schedule tm tis)
    (hcut : ∀ e ∈ schedule tm tis, ¬ clean cfg e.2 → ev.1 < e.1 ∨ e = ev)
    (hs : inScope ev.2.outcome = true) (hx : ev.2.outcome ≠ .raisesExcessive)
    (hreq : ev.2.kind = .request) (hb : ev.2.batch = false) :
    (ev.2.id, textReply cfg ev.2.outcome) ∈ (runTimed .repaired cfg tm tis).replies := by
  obtain ⟨pre, post, he, hn⟩ := List.eq_append_cons_of_mem hev
  have hsorted := (schedule_complete tm tis).2.1
  rw [he] at hsorted
  have hle := (List.pairwise_append.mp hsorted).2.2
  have hpre : ∀ x ∈ pre.map (·.2), clean cfg x := by
    intro x hx'
    obtain ⟨e, hepre, rfl⟩ := List.mem_map.mp hx'
    have hle' : e.1 ≤ ev.1 := hle e hepre ev List.mem_cons_self
    by_cases hc : clean cfg e.2
    · exact hc
    · rcases hcut e (he ▸ List.mem_append_left _ hepre) hc with h | h
      · omega
      · exact absurd (h ▸ hepre) hn
  rw [runTimed, he, List.map_append, List.map_cons]
  exact answered_unless_cut cfg _ ev.2 _ hpre hs hx hreq hb

/-- non-vacuity: two slots; request 1 replies and disconnects at 9 s; request 0 (7 s) completed
before and is answered, request 2 (would complete at 11 s) is cut off -/
example :
    let tis : List TItem := [⟨⟨0, .request, false, .returns (.value 1)⟩, 7, 0⟩,
      ⟨⟨1, .request, false, .replyAndDisconnect (.value 2)⟩, 9, 0⟩, ⟨⟨2, .request, false, .returns (.value 3)⟩, 4, 0⟩]
    (schedule { slots := 2 } tis).map (fun ev => (ev.1, ev.2.id)) = [(7, 0), (9, 1), (11, 2)] ∧
    (runTimed .repaired {} { slots := 2 } tis).replies = [(0, .result 1), (1, .result 2)] ∧
    (runTimed .repaired {} { slots := 2 } tis).lost = [2] := by decide +kernel

/-- the error count of a timed run without disconnects: the requests and notifications that
failed or overran -/
theorem timed_errors (cfg : Cfg) (tm : Timing) (tis : List TItem)
    (h : ∀ ti ∈ tis, clean cfg ti.item) :
    (runTimed .repaired cfg tm tis).errors =
      (((schedule tm tis).map (·.2)).filter fun it => failedItem it.kind it.outcome).length := by
  exact (session_survives cfg _ (schedule_clean cfg tm tis h)).2.2.2.2.2

/-- non-vacuity: one slot, three requests - the first finishes (7 s), the second would need
until 33 s and overruns in its handler, the third is still queued when its timeout expires -/
example :
    let tis : List TItem := [⟨⟨0, .request, false, .returns (.value 1)⟩, 7, 0⟩,
      ⟨⟨1, .request, false, .raisesRpcError 5 1 0⟩, 26, 0⟩, ⟨⟨2, .request, false, .returns (.value 3)⟩, 1, 0⟩]
    (∀ ti ∈ tis, clean {} ti.item) ∧
    (schedule { slots := 1 } tis).map (fun ev => (ev.1, ev.2.id)) = [(7, 0), (30, 1), (30, 2)] ∧
    (runTimed .repaired {} { slots := 1 } tis).replies =
      [(0, .result 1), (1, .error (-102) msgBusy), (2, .error (-102) msgBusy)] := by decide +kernel

theorem wireOne_base (v : Variant) (cfg : Cfg) (total drain : Nat) (w : Wire) (ev : Nat × Item) :
    (wireOne v cfg total drain w ev).base = serveOne v cfg w.base ev.2 := by
  obtain ⟨t, it⟩ := ev
  -- every branch of `wireOne` is an update of `w` with this `base`
  cases h : w.lostAt <;> simp only [wireOne, h, apply_ite Wire.base, ite_self]

/-- **The wire layer adds, it does not change**: whatever the drain delay of the peer, what is
handed to the transport, counted and lost is exactly `serve`'s state - so every theorem about
`serve` speaks about the slow-peer runs too. -/
theorem wire_base (v : Variant) (cfg : Cfg) (drain : Nat) (evs : List (Nat × Item)) :
    (serveWire v cfg drain evs).base = serve v cfg (evs.map (·.2)) := by
  have : ∀ (total : Nat) (l : List (Nat × Item)) (w : Wire),
      (l.foldl (wireOne v cfg total drain) w).base = (l.map (·.2)).foldl (serveOne v cfg) w.base := by
    intro total l
    induction l with
    | nil => intro w; rfl
    | cons ev rest ih =>
      intro w
      rw [List.foldl_cons, List.map_cons, List.foldl_cons, ih, wireOne_base]
  exact this _ evs {}

theorem wireOne_not_aborted (v : Variant) (cfg : Cfg) (total drain : Nat) (w : Wire)
    (ev : Nat × Item) (hw : w.abortedAt = none)
    (he : (throttled v cfg ev.2.outcome ev.2.kind).escapes = false) :
    (wireOne v cfg total drain w ev).abortedAt = none := by
  obtain ⟨t, it⟩ := ev
  -- the branches that set `abortedAt` are those of an escaping exception
  cases h : w.lostAt <;>
    simp only [wireOne, h, hw, show (throttled v cfg it.outcome it.kind).escapes = false from he,
      apply_ite Wire.abortedAt, ite_self, Bool.and_false, Bool.false_eq_true, if_false]

/-- **No abort within the quantifier.**  If no completion lets an exception escape - in
particular if every behaviour is one the property lists (`never_escapes`) - the connection is
never aborted and everything handed to the transport reaches the peer, however slowly it
reads: the delivered replies are `serve`'s replies, the delivered batch response its batch
response. -/
theorem wire_never_aborted (v : Variant) (cfg : Cfg) (drain : Nat) (evs : List (Nat × Item))
    (h : ∀ ev ∈ evs, (throttled v cfg ev.2.outcome ev.2.kind).escapes = false) :
    (serveWire v cfg drain evs).abortedAt = none ∧
    deliveredReplies drain (serveWire v cfg drain evs) = (serve v cfg (evs.map (·.2))).replies ∧
    deliveredBatch drain (evs.map (·.2)) (serveWire v cfg drain evs) =
      batchResponse (evs.map (·.2)) (serve v cfg (evs.map (·.2))) := by
  have hab : ∀ (total : Nat) (l : List (Nat × Item)) (w : Wire), w.abortedAt = none →
      (∀ ev ∈ l, (throttled v cfg ev.2.outcome ev.2.kind).escapes = false) →
      (l.foldl (wireOne v cfg total drain) w).abortedAt = none := by
    intro total l
    induction l with
    | nil => intro w hw _; exact hw
    | cons ev rest ih =>
      intro w hw hl
      exact ih _ (wireOne_not_aborted v cfg total drain w ev hw (hl ev List.mem_cons_self))
        fun e he => hl e (List.mem_cons_of_mem _ he)
  have h0 : (serveWire v cfg drain evs).abortedAt = none := hab _ evs {} rfl h
  exact ⟨h0, by simp only [deliveredReplies, h0, wire_base],
    by simp only [deliveredBatch, h0, wire_base]⟩

/-- non-vacuity, and what an escape does with a slow peer (drain 5 s): requests 0, 1, 3 complete
at 4, 7, 8 s and are answered; the handler of request 4 raises CancelledError at 9 s - the
connection is aborted, and of the three replies only the one written at 4 s had left the send
buffer.  With a peer that reads at once all three got through. -/
example :
    let evs : List (Nat × Item) := [(4, ⟨0, .request, false, .raisesProtocolError (-32602) 2⟩),
      (7, ⟨1, .request, false, .raisesOther⟩), (8, ⟨3, .request, false, .returns (.value 904)⟩),
      (9, ⟨4, .request, false, .raisesBase⟩)]
    (serveWire .repaired {} 5 evs).abortedAt = some 9 ∧
    (serveWire .repaired {} 5 evs).base.closed = true ∧
    deliveredReplies 5 (serveWire .repaired {} 5 evs) = [(0, .error (-32602) 2)] ∧
    deliveredReplies 0 (serveWire .repaired {} 0 evs) =
      [(0, .error (-32602) 2), (1, .error (-32603) msgInternal), (3, .result 904)] := by decide +kernel

/-- a reply-and-disconnect at 6 s with a slow peer: the close waits for the buffer (until 11 s);
a handler that escapes at 8 s, inside that window, aborts the connection and the buffered reply
is discarded; at 12 s it would have been cancelled with the connection and nothing is lost -/
example :
    let evs (t : Nat) : List (Nat × Item) := [(6, ⟨0, .request, false, .replyAndDisconnect (.value 1)⟩),
      (t, ⟨1, .request, false, .raisesBase⟩)]
    deliveredReplies 5 (serveWire .repaired {} 5 (evs 8)) = [] ∧
    deliveredReplies 5 (serveWire .repaired {} 5 (evs 12)) = [(0, .result 1)] := by decide +kernel

/-- F9, `Variant.pinned` (`send_result` not guarded): a handler returning something `json.dumps`
cannot encode makes the ProtocolError escape `_throttled_request`: that request gets no reply,
message processing dies, and an unrelated request completing later (id 3) is never answered -/
theorem session_survives_fails_pinned :
    let s := serve .pinned {} [⟨1, .request, false, .returns (.value 7)⟩,
                               ⟨2, .request, false, .returns (.unencodable 0)⟩,
                               ⟨3, .request, false, .returns (.value 9)⟩]
    s.alive = false ∧ s.replies = [(1, .result 7)] ∧ s.lost = [2, 3] := by decide +kernel

/-- the same vector with `Variant.repaired` -/
example :
    let s := serve .repaired {} [⟨1, .request, false, .returns (.value 7)⟩,
                                 ⟨2, .request, false, .returns (.unencodable 0)⟩,
                                 ⟨3, .request, false, .returns (.value 9)⟩]
    s.alive = true ∧ s.replies = [(1, .result 7), (2, .error (-32603) msgEncoding), (3, .result 9)]
      ∧ s.errors = 1 := by decide +kernel

end Aiorpcx.C03
