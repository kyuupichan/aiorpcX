/-! C07 — model of `ByteQueue`, `BinaryFramer`, `BitcoinFramer` (aiorpcx/framing.py) and of the
    error policy of `MessageSession._process_messages_loop` (aiorpcx/session.py).
    No Mathlib imports: the driver links this.

    The double-SHA256 checksum is the *parameter* `cksum : Bytes → Bytes`; the only law the
    theorems use is `(cksum p).length = 4`. -/
namespace Aiorpcx.C07

abbrev Bytes := List UInt8

deriving instance DecidableEq for Except

/-- Python exceptions `BitcoinFramer.frame` can raise by itself -/
inductive PyExc where
  | valueError      -- `pad_command`: command longer than 12 bytes
  | structError     -- `pack_le_uint32(len(payload))` with `len(payload) ≥ 2^32`
  deriving Repr, DecidableEq

/-- the three exception classes `receive_message` raises -/
inductive FrameErr where
  | badMagic
  | oversized
  | badChecksum
  deriving Repr, DecidableEq

/-- one completed `receive_message()` call -/
inductive Out where
  | msg (cmd payload : Bytes)
  | err (e : FrameErr)
  deriving Repr, DecidableEq

/-- constructor arguments / class attribute of `BitcoinFramer`, and the one degree of freedom
    the property text leaves to `_receive_header` -/
structure Cfg where
  magic : Bytes
  maxPayload : Nat     -- `max_payload_size`
  maxBlock : Nat       -- `_max_block_size`
  /-- which error a header that is wrong in BOTH ways (wrong magic *and* over-limit length)
      raises: `false` = `BadMagicError` (magic tested first - the pinned code), `true` =
      `OversizedPayloadError`.  The text fixes no order; the value is a *fact* read from the
      behaviour of the real code on such a header (`Facts.C07.sizeFirst`), and every theorem is
      proved for both values. -/
  sizeFirst : Bool

/-- header layout, `Struct('<4s12sI4s')` -/
def magicW : Nat := 4
def cmdW : Nat := 12
def lenW : Nat := 4
def ckW : Nat := 4
def headerLen : Nat := 24
/-- `b'block'` -/
def blockCmd : Bytes := [98, 108, 111, 99, 107]

/-! ### little-endian integers (`Struct('<I')`) -/

def le32 (n : Nat) : Bytes :=
  [UInt8.ofNat (n % 256), UInt8.ofNat (n / 256 % 256),
   UInt8.ofNat (n / 65536 % 256), UInt8.ofNat (n / 16777216 % 256)]

/-- little-endian value of a byte string -/
def unle : Bytes → Nat
  | [] => 0
  | b :: bs => b.toNat + 256 * unle bs

/-- `pack_le_uint32`: `struct.error` outside `0 ≤ n < 2^32` -/
def packLe32 (n : Nat) : Except PyExc Bytes :=
  if n < 4294967296 then .ok (le32 n) else .error .structError

/-! ### `BitcoinFramer._build_header`, `BinaryFramer.frame` -/

/-- `pad_command`: `fill = 12 - len(command)`; `ValueError` if negative; `command + bytes(fill)` -/
def padCommand (cmd : Bytes) : Except PyExc Bytes :=
  if cmd.length > cmdW then .error .valueError
  else .ok (cmd ++ List.replicate (cmdW - cmd.length) 0)

/-- `_build_header`: the tuple elements are evaluated left to right, so a too-long command is
    reported before a too-long payload -/
def buildHeader (cfg : Cfg) (cksum : Bytes → Bytes) (cmd payload : Bytes) : Except PyExc Bytes :=
  match padCommand cmd with
  | .error e => .error e
  | .ok padded =>
    match packLe32 payload.length with
    | .error e => .error e
    | .ok l => .ok (cfg.magic ++ (padded ++ (l ++ cksum payload)))

/-- `BinaryFramer.frame((command, payload))` -/
def frame (cfg : Cfg) (cksum : Bytes → Bytes) (cmd payload : Bytes) : Except PyExc Bytes :=
  match buildHeader cfg cksum cmd payload with
  | .error e => .error e
  | .ok h => .ok (h ++ payload)

/-! ### `BitcoinFramer._receive_header` after the 24 bytes have been read -/

/-- `bytes.rstrip(b'\0')` -/
def rstripNul : Bytes → Bytes
  | [] => []
  | b :: bs =>
      let r := rstripNul bs
      if r.isEmpty && b == 0 then [] else b :: r

/-- the `raise OversizedPayloadError` condition -/
def oversized (cfg : Cfg) (cmd : Bytes) (n : Nat) : Bool :=
  if n > cfg.maxPayload then (cmd != blockCmd || n > cfg.maxBlock) else false

/-- the four fields of a header as `Struct('<4s12sI4s').unpack` returns them -/
def hMagic (h : Bytes) : Bytes := h.take magicW
def hCmd (h : Bytes) : Bytes := (h.drop magicW).take cmdW
def hLen (h : Bytes) : Nat := unle (((h.drop magicW).drop cmdW).take lenW)
def hCk (h : Bytes) : Bytes := ((((h.drop magicW).drop cmdW).drop lenW)).take ckW

/-- `_receive_header` on the 24 header bytes: magic test, strip, size test.  A header failing
    both tests raises the error of the test that comes first (`cfg.sizeFirst`). -/
def parseHeader (cfg : Cfg) (h : Bytes) : Except FrameErr (Bytes × Nat × Bytes) :=
  if hMagic h != cfg.magic && oversized cfg (rstripNul (hCmd h)) (hLen h) then
    .error (if cfg.sizeFirst then .oversized else .badMagic)
  else if hMagic h != cfg.magic then .error .badMagic
  else if oversized cfg (rstripNul (hCmd h)) (hLen h) then .error .oversized
  else .ok (rstripNul (hCmd h), hLen h, hCk h)

/-! ### `ByteQueue` -/

/-- `parts` / `parts_len` (kept separately, as the code does) -/
structure BQ where
  parts : List Bytes
  partsLen : Nat
  deriving Repr

def BQ.empty : BQ := ⟨[], 0⟩

/-- the `while self.parts_len < size: part = await self.queue.get(); …` loop; `cs` is the
    asyncio queue content.  `none`: the queue ran dry, the caller waits forever. -/
def BQ.fill (size : Nat) (q : BQ) : List Bytes → Option (BQ × List Bytes)
  | [] => if q.partsLen < size then none else some (q, [])
  | c :: cs =>
      if q.partsLen < size then BQ.fill size ⟨q.parts ++ [c], q.partsLen + c.length⟩ cs
      else some (q, c :: cs)

/-- `ByteQueue.receive(size)` -/
def BQ.receive (size : Nat) (q : BQ) (cs : List Bytes) : Option (Bytes × BQ × List Bytes) :=
  match BQ.fill size q cs with
  | none => none
  | some (q', cs') =>
      let whole := q'.parts.flatten
      some (whole.take size, ⟨[whole.drop size], q'.partsLen - size⟩, cs')

/-! ### `BinaryFramer.receive_message` and the reader loop -/

/-- one `receive_message()` call; `none` = never returns (not enough bytes will ever arrive) -/
def recvMessage (cfg : Cfg) (cksum : Bytes → Bytes) (q : BQ) (cs : List Bytes) :
    Option (Out × BQ × List Bytes) :=
  match BQ.receive headerLen q cs with
  | none => none
  | some (h, q1, cs1) =>
    match parseHeader cfg h with
    | .error e => some (.err e, q1, cs1)
    | .ok (cmd, n, ck) =>
      match BQ.receive n q1 cs1 with
      | none => none
      | some (p, q2, cs2) =>
        if cksum p != ck then some (.err .badChecksum, q2, cs2)
        else some (.msg cmd p, q2, cs2)

theorem BQ.fill_measure (size : Nat) : ∀ (cs : List Bytes) (q q' : BQ) (cs' : List Bytes),
    BQ.fill size q cs = some (q', cs') →
    q'.partsLen + cs'.flatten.length = q.partsLen + cs.flatten.length ∧ size ≤ q'.partsLen := by
  intro cs
  induction cs with
  | nil =>
    intro q q' cs' h
    rw [BQ.fill] at h
    by_cases hlt : q.partsLen < size
    · rw [if_pos hlt] at h
      cases h
    · rw [if_neg hlt] at h
      cases h
      exact ⟨rfl, Nat.le_of_not_lt hlt⟩
  | cons c cs ih =>
    intro q q' cs' h
    rw [BQ.fill] at h
    by_cases hlt : q.partsLen < size
    · rw [if_pos hlt] at h
      obtain ⟨e, le⟩ := ih _ q' cs' h
      exact ⟨by rw [e, List.flatten_cons, List.length_append]; exact Nat.add_assoc .., le⟩
    · rw [if_neg hlt] at h
      cases h
      exact ⟨rfl, Nat.le_of_not_lt hlt⟩

theorem BQ.receive_measure {size : Nat} {q q' : BQ} {cs cs' : List Bytes} {b : Bytes}
    (h : BQ.receive size q cs = some (b, q', cs')) :
    q'.partsLen + cs'.flatten.length + size = q.partsLen + cs.flatten.length := by
  rw [BQ.receive] at h
  split at h
  · cases h
  · rename_i q1 cs1 hf
    have := BQ.fill_measure size cs q q1 cs1 hf
    cases h
    dsimp only
    omega

theorem recvMessage_measure {cfg : Cfg} {cksum : Bytes → Bytes} {q q' : BQ} {cs cs' : List Bytes}
    {o : Out} (h : recvMessage cfg cksum q cs = some (o, q', cs')) :
    q'.partsLen + cs'.flatten.length < q.partsLen + cs.flatten.length := by
  rw [recvMessage] at h
  split at h
  · cases h
  · rename_i hd q1 cs1 h1
    have m1 := BQ.receive_measure h1
    rw [headerLen] at m1
    have lt : q1.partsLen + cs1.flatten.length < q.partsLen + cs.flatten.length :=
      m1 ▸ Nat.lt_add_of_pos_right (by decide)
    split at h
    · cases h
      exact lt
    · split at h
      · cases h
      · rename_i p q2 cs2 h2
        have le : q2.partsLen + cs2.flatten.length ≤ q1.partsLen + cs1.flatten.length :=
          Nat.le.intro (BQ.receive_measure h2)
        split at h <;> cases h <;> exact Nat.lt_of_le_of_lt le lt

set_option linter.unusedVariables false in
/-- the reader: successive `receive_message()` calls on a queue holding the chunks `cs`;
    the list ends where a call would wait for more data -/
def run (cfg : Cfg) (cksum : Bytes → Bytes) (q : BQ) (cs : List Bytes) : List Out :=
  match h : recvMessage cfg cksum q cs with
  | none => []
  | some (o, q', cs') => o :: run cfg cksum q' cs'
termination_by q.partsLen + cs.flatten.length
decreasing_by exact recvMessage_measure h

/-! ### stream-level specification: what a byte stream decodes to -/

/-- decode one message from the front of a stream: the outcome and the remaining stream -/
def step (cfg : Cfg) (cksum : Bytes → Bytes) (s : Bytes) : Option (Out × Bytes) :=
  if s.length < headerLen then none
  else
    match parseHeader cfg (s.take headerLen) with
    | .error e => some (.err e, s.drop headerLen)
    | .ok (cmd, n, ck) =>
      if (s.drop headerLen).length < n then none
      else
        some (if cksum ((s.drop headerLen).take n) != ck then .err .badChecksum
              else .msg cmd ((s.drop headerLen).take n),
              (s.drop headerLen).drop n)

theorem step_measure {cfg : Cfg} {cksum : Bytes → Bytes} {s s' : Bytes} {o : Out}
    (h : step cfg cksum s = some (o, s')) : s'.length < s.length := by
  rw [step] at h
  by_cases hl : s.length < headerLen
  · rw [if_pos hl] at h
    cases h
  · rw [if_neg hl] at h
    have lt : (s.drop headerLen).length < s.length :=
      List.length_drop ▸ Nat.sub_lt (Nat.lt_of_lt_of_le (by decide) (Nat.le_of_not_lt hl)) (by decide)
    cases hp : parseHeader cfg (s.take headerLen) with
    | error e =>
      rw [hp] at h
      cases h
      exact lt
    | ok v =>
      rw [hp] at h
      dsimp only at h
      by_cases hn : (s.drop headerLen).length < v.2.1
      · rw [if_pos hn] at h
        cases h
      · rw [if_neg hn] at h
        cases h
        exact Nat.lt_of_le_of_lt (List.length_drop ▸ Nat.sub_le ..) lt

set_option linter.unusedVariables false in
def decode (cfg : Cfg) (cksum : Bytes → Bytes) (s : Bytes) : List Out :=
  match h : step cfg cksum s with
  | none => []
  | some (o, s') => o :: decode cfg cksum s'
termination_by s.length
decreasing_by exact step_measure h

/-! ### `MessageSession._process_messages_loop`: what is done with each outcome -/

/-- one arm of the `try/except/else` ladder: how many `_bump_errors` calls, and whether
    `self.close` is spawned -/
structure Arm where
  bump : Nat
  close : Bool
  deriving Repr, DecidableEq

def policy : FrameErr → Arm
  | .badMagic => ⟨1, true⟩
  | .oversized => ⟨1, true⟩
  | .badChecksum => ⟨1, false⟩

/-- observable session state -/
structure Sess where
  errors : Nat
  closed : Bool
  delivered : List (Bytes × Bytes)
  deriving Repr, DecidableEq

def Sess.init : Sess := ⟨0, false, []⟩

/-- the loop over the outcomes of `recv_message()`.

    An arm that spawned `close` goes on with `await sleep(0.001)` and then **loops back to
    `recv_message()`**: the loop only ends when the transport has delivered `connection_lost`
    (the framer is failed and `recv_message()` raises `ConnectionLostError`).  Until then
    everything that is already buffered is processed as usual - messages are handled, errors are
    counted, `close` is spawned again.  `g` is the number of *further* magic/size errors the loop
    gets to process before the loss arrives: each such arm costs 1 ms of the loop's time, so
    `g = 0` is a transport that reports the loss at once (`call_soon`, what asyncio does when its
    write buffer is empty), `g = ⌊delay / 1 ms⌋` one that reports it after `delay`, and any
    `g ≥` the number of magic/size errors one that never does. -/
def sessRunG : Nat → List Out → Sess → Sess
  | _, [], s => s
  | g, .msg c p :: r, s => sessRunG g r { s with delivered := s.delivered ++ [(c, p)] }
  | g, .err e :: r, s =>
      let a := policy e
      let s' := { s with errors := s.errors + a.bump, closed := s.closed || a.close }
      if a.close then
        match g with
        | 0 => s'
        | g' + 1 => sessRunG g' r s'
      else sessRunG g r s'

/-- the loss is reported at once: nothing after the first magic/size error is looked at -/
def sessRun (outs : List Out) (s : Sess) : Sess := sessRunG 0 outs s

end Aiorpcx.C07
