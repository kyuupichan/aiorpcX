import Aiorpcx.C07.Refine
import Aiorpcx.Facts.C07
/-!
# C07 — property theorems for the Bitcoin framer and the `MessageSession` error policy

Model (`Model.lean`, mirrors `framing.py:119-267`, `session.py:282-314`):
* `run cfg cksum BQ.empty chunks` = the values / exceptions of successive
  `BitcoinFramer.receive_message()` calls when `chunks` arrive in that order
  (`ByteQueue` state `parts`/`parts_len` included);
* `decode cfg cksum stream` = the same on a byte stream (specification level);
* `frame` / `buildHeader` = `BinaryFramer.frame` / `BitcoinFramer._build_header`;
* `sessRun` = what `MessageSession._process_messages_loop` does with each outcome.

`cksum : Bytes → Bytes` (double SHA-256, first four bytes) is a parameter; the only law used is
`CkLaw cksum : ∀ p, (cksum p).length = 4`.  Collision resistance is **not** claimed: what is
proved is "never delivered unless the checksum matches".  Everything is quantified over all
configurations (magic, limits), all byte streams, all chunkings (empty chunks included).
-/
namespace Aiorpcx.C07

/-- the single law assumed of the checksum function -/
def CkLaw (cksum : Bytes → Bytes) : Prop := ∀ p, (cksum p).length = 4

/-- a checksum function for the non-vacuity examples: length mod 256, first byte, 7, 7 -/
def ck0 : Bytes → Bytes := fun p => [UInt8.ofNat p.length, p.headD 0, 7, 7]
theorem ck0_law : CkLaw ck0 := fun _ => rfl
/-- a configuration for the examples (magic test first, as in `_receive_header`) -/
def cfg0 : Cfg := ⟨[0xe3, 0xe1, 0xf3, 0xe8], 5, 9, false⟩
/-- the same with the size test first -/
def cfg1 : Cfg := ⟨[0xe3, 0xe1, 0xf3, 0xe8], 5, 9, true⟩

/-- the bytes `frame((cmd, payload))` puts on the wire when it does not raise -/
def wire (cfg : Cfg) (cksum : Bytes → Bytes) (m : Bytes × Bytes) : Bytes :=
  cfg.magic ++ (m.1 ++ List.replicate (12 - m.1.length) 0 ++ (le32 m.2.length ++ cksum m.2)) ++ m.2

/-- for a command of at most 12 bytes and a payload shorter than 2^32 the
    header is magic ++ command zero-padded to 12 ++ little-endian length ++ checksum, and the
    frame is header ++ payload -/
theorem header_layout (cfg : Cfg) (cksum : Bytes → Bytes) (cmd payload : Bytes)
    (hc : cmd.length ≤ 12) (hp : payload.length < 4294967296) :
    buildHeader cfg cksum cmd payload =
      .ok (cfg.magic ++ (cmd ++ List.replicate (12 - cmd.length) 0 ++
        (le32 payload.length ++ cksum payload))) ∧
    frame cfg cksum cmd payload = .ok (wire cfg cksum (cmd, payload)) := by
  have hb : buildHeader cfg cksum cmd payload =
      .ok (cfg.magic ++ (cmd ++ List.replicate (12 - cmd.length) 0 ++
        (le32 payload.length ++ cksum payload))) := by
    rw [buildHeader, padCommand, if_neg (show ¬ cmd.length > cmdW from Nat.not_lt.2 hc), packLe32,
      if_pos hp]
    rfl
  exact ⟨hb, by rw [frame, hb]; rfl⟩

/-- the header is 24 bytes and its four fields read back as what was put in
    (the length as a number: `unle ∘ le32 = id` below 2^32) -/
theorem header_fields (cfg : Cfg) (cksum : Bytes → Bytes) (hm : cfg.magic.length = 4)
    (hk : CkLaw cksum) (cmd payload : Bytes) (hc : cmd.length ≤ 12)
    (hp : payload.length < 4294967296) (h : Bytes)
    (hb : buildHeader cfg cksum cmd payload = .ok h) :
    h.length = 24 ∧ hMagic h = cfg.magic ∧
    hCmd h = cmd ++ List.replicate (12 - cmd.length) 0 ∧
    hLen h = payload.length ∧ hCk h = cksum payload := by
  rw [(header_layout cfg cksum cmd payload hc hp).1] at hb
  cases hb
  obtain ⟨f1, f2, f3, f4, f5⟩ := fields_of_parts cfg.magic _ (le32 payload.length)
    (cksum payload) hm (length_padded hc) rfl (hk payload)
  exact ⟨f5, f1, f2, by rw [f3, unle_le32 _ hp], f4⟩

/-- `frame` raises exactly for a command over 12 bytes (`ValueError`, tested first) or a payload
    of 2^32 bytes or more (`struct.error`) -/
theorem frame_errors (cfg : Cfg) (cksum : Bytes → Bytes) (cmd payload : Bytes) :
    (12 < cmd.length → frame cfg cksum cmd payload = .error .valueError) ∧
    (cmd.length ≤ 12 → 4294967296 ≤ payload.length →
      frame cfg cksum cmd payload = .error .structError) := by
  constructor
  · intro h
    rw [frame, buildHeader, padCommand, if_pos (show cmd.length > cmdW from h)]
  · intro h1 h2
    rw [frame, buildHeader, padCommand, if_neg (show ¬ cmd.length > cmdW from Nat.not_lt.2 h1),
      packLe32, if_neg (Nat.not_lt.2 h2)]

example : frame cfg0 ck0 [1, 2] [9] =
    .ok ([0xe3, 0xe1, 0xf3, 0xe8] ++ [1, 2, 0, 0, 0, 0, 0, 0, 0, 0, 0, 0] ++ [1, 0, 0, 0] ++
         [1, 9, 7, 7] ++ [9]) := by decide +kernel
example : frame cfg0 ck0 (List.replicate 13 65) [] = .error .valueError := by decide

theorem le32_inverse : (∀ n, n < 4294967296 → unle (le32 n) = n) ∧
    (∀ b : Bytes, b.length = 4 → le32 (unle b) = b) :=
  ⟨unle_le32, le32_unle⟩

/-- a header that `_receive_header` rejects: the error is raised, exactly the 24 header bytes
    are consumed, and decoding continues right behind them -/
theorem decode_rejected_header (cfg : Cfg) (cksum : Bytes → Bytes) (h rest : Bytes) (e : FrameErr)
    (hl : h.length = 24) (hp : parseHeader cfg h = .error e) :
    decode cfg cksum (h ++ rest) = .err e :: decode cfg cksum rest := by
  have := decode_item cfg cksum ⟨h, []⟩ ⟨hl, by rw [hp]⟩ rest
  rwa [Item.bytes, List.append_nil, Item.out_of_rejected (i := ⟨h, []⟩) hp] at this

/-- a header that is accepted, followed by the declared number of bytes: one outcome
    (delivered iff the checksum matches), exactly 24 + declared length bytes consumed -/
theorem decode_accepted_header (cfg : Cfg) (cksum : Bytes → Bytes) (h body rest c ck : Bytes)
    (n : Nat) (hl : h.length = 24) (hp : parseHeader cfg h = .ok (c, n, ck))
    (hb : body.length = n) :
    decode cfg cksum (h ++ (body ++ rest)) =
      (if cksum body = ck then Out.msg c body else Out.err .badChecksum) ::
        decode cfg cksum rest := by
  have := decode_item cfg cksum ⟨h, body⟩ ⟨hl, by rw [hp]; exact hb⟩ rest
  rwa [Item.bytes, List.append_assoc, Item.out_of_accepted (i := ⟨h, body⟩) hp] at this

/-- nothing is produced while the header or the declared payload is incomplete -/
theorem decode_incomplete (cfg : Cfg) (cksum : Bytes → Bytes) :
    (∀ s : Bytes, s.length < 24 → decode cfg cksum s = []) ∧
    (∀ (h tail c ck : Bytes) (n : Nat), h.length = 24 → parseHeader cfg h = .ok (c, n, ck) →
      tail.length < n → decode cfg cksum (h ++ tail) = []) := by
  constructor
  · intro s hs
    rw [decode_eq, step_eq_stepCut, stepCut, cut_eq, if_pos (show s.length < headerLen from hs)]
  · intro h tail c ck n hl hp ht
    rw [decode_eq, step_eq_stepCut, stepCut, cut_append (n := headerLen) hl]
    dsimp only
    rw [hp]
    dsimp only
    rw [cut_eq, if_pos ht]

/-- a header assembled from any four fields of the right widths, followed by the declared
    number of bytes -/
theorem decode_assembled (cfg : Cfg) (cksum : Bytes → Bytes) (hm : cfg.magic.length = 4)
    (c l k body rest : Bytes) (hc : c.length = 12) (hl : l.length = 4) (hk4 : k.length = 4)
    (hb : body.length = unle l) (hs : oversized cfg (rstripNul c) (unle l) = false) :
    decode cfg cksum (cfg.magic ++ (c ++ (l ++ k)) ++ (body ++ rest)) =
      (if cksum body = k then Out.msg (rstripNul c) body else Out.err .badChecksum) ::
        decode cfg cksum rest := by
  obtain ⟨f1, f2, f3, f4, f5⟩ := fields_of_parts cfg.magic c l k hm hc hl hk4
  have hp : parseHeader cfg (cfg.magic ++ (c ++ (l ++ k))) = .ok (rstripNul c, unle l, k) := by
    rw [parseHeader_ok_iff]
    exact ⟨f1, by rw [f2], f3.symm, f4.symm, hs⟩
  exact decode_accepted_header cfg cksum _ body rest _ _ _ f5 hp hb

/-- the header `frame` builds for a command and a payload length, with any four bytes `k` in the
    checksum field, followed by any `body` of that length: the command comes back stripped of
    trailing NULs -/
theorem decode_framed (cfg : Cfg) (cksum : Bytes → Bytes) (hm : cfg.magic.length = 4)
    (cmd k body rest : Bytes) (hc : cmd.length ≤ 12) (hk4 : k.length = 4)
    (hb : body.length < 4294967296) (hs : oversized cfg (rstripNul cmd) body.length = false) :
    decode cfg cksum (cfg.magic ++ (cmd ++ List.replicate (12 - cmd.length) 0 ++
        (le32 body.length ++ k)) ++ (body ++ rest)) =
      (if cksum body = k then Out.msg (rstripNul cmd) body else Out.err .badChecksum) ::
        decode cfg cksum rest := by
  have hu := unle_le32 _ hb
  have := decode_assembled cfg cksum hm _ (le32 body.length) k body rest (length_padded hc) rfl
    hk4 hu.symm
    (by rw [rstripNul_append_zeros, hu]; exact hs)
  rwa [rstripNul_append_zeros] at this

/-- a message the property quantifies over: command of at most 12 bytes that does not end in
    NUL, payload length representable in 32 bits and within the receiver's limit (or a `block`
    within the block limit) -/
structure Sendable (cfg : Cfg) (m : Bytes × Bytes) : Prop where
  cmdLen : m.1.length ≤ 12
  noNul : NoTrailNul m.1
  lenPack : m.2.length < 4294967296
  within : m.2.length ≤ cfg.maxPayload ∨ (m.1 = blockCmd ∧ m.2.length ≤ cfg.maxBlock)

/-- the exact acceptance condition of a declared length -/
theorem block_exception (cfg : Cfg) (cmd : Bytes) (n : Nat) :
    oversized cfg cmd n = false ↔ n ≤ cfg.maxPayload ∨ (cmd = blockCmd ∧ n ≤ cfg.maxBlock) := by
  rw [oversized]
  split
  · rename_i h1
    rw [Bool.or_eq_false_iff, bne_eq_false_iff_eq, decide_eq_false_iff_not, Nat.not_lt]
    exact ⟨.inr, fun h => h.resolve_left (Nat.not_le.2 h1)⟩
  · rename_i h1
    exact ⟨fun _ => .inl (Nat.le_of_not_lt h1), fun _ => rfl⟩

/-- boundary arithmetic around `max_payload_size` and `max_block_size`: the limit itself is
    accepted for every command; one more is rejected unless the command is exactly `block`;
    for `block` the block limit itself is accepted and one more is rejected -/
theorem size_boundaries (cfg : Cfg) (cmd : Bytes) :
    oversized cfg cmd cfg.maxPayload = false ∧
    (cmd ≠ blockCmd → oversized cfg cmd (cfg.maxPayload + 1) = true) ∧
    (cfg.maxPayload < cfg.maxBlock → oversized cfg blockCmd cfg.maxBlock = false ∧
      oversized cfg blockCmd (cfg.maxBlock + 1) = true) ∧
    (cfg.maxBlock ≤ cfg.maxPayload → oversized cfg blockCmd (cfg.maxPayload + 1) = true) := by
  have rejected {c : Bytes} {n : Nat}
      (h : ¬ (n ≤ cfg.maxPayload ∨ (c = blockCmd ∧ n ≤ cfg.maxBlock))) :
      oversized cfg c n = true := by
    rwa [← Bool.not_eq_false, block_exception]
  refine ⟨(block_exception cfg cmd _).2 (.inl (Nat.le_refl _)), fun hne => rejected ?_,
    fun hlt => ⟨(block_exception cfg _ _).2 (.inr ⟨rfl, Nat.le_refl _⟩), rejected ?_⟩,
    fun hle => rejected ?_⟩
  · rintro (a | ⟨a, _⟩)
    · omega
    · exact hne a
  · rintro (a | ⟨_, a⟩) <;> omega
  · rintro (a | ⟨_, a⟩) <;> omega

example : oversized cfg0 [1] 5 = false ∧ oversized cfg0 [1] 6 = true ∧
    oversized cfg0 blockCmd 9 = false ∧ oversized cfg0 blockCmd 10 = true ∧
    oversized cfg0 (blockCmd ++ [115]) 6 = true := by decide

/-- non-vacuity: two sendable messages (one a `block` above the ordinary limit) -/
example : Sendable cfg0 ([118], [1, 2, 3]) ∧ Sendable cfg0 (blockCmd, List.replicate 8 0) := by
  refine ⟨⟨by decide, by decide, by decide, by decide⟩, ⟨by decide, by decide, by decide, by decide⟩⟩

/-- the header of a sendable message with any four bytes `k` in the checksum field, followed by
    any `body` of the declared length: `body` is delivered under the command iff `k` is its
    checksum, otherwise one `BadChecksumError`; what follows is decoded next either way -/
theorem decode_sendable (cfg : Cfg) (cksum : Bytes → Bytes) (hm : cfg.magic.length = 4)
    (m : Bytes × Bytes) (hs : Sendable cfg m) (k body rest : Bytes) (hk4 : k.length = 4)
    (hb : body.length = m.2.length) :
    decode cfg cksum (cfg.magic ++ (m.1 ++ List.replicate (12 - m.1.length) 0 ++
        (le32 m.2.length ++ k)) ++ (body ++ rest)) =
      (if cksum body = k then Out.msg m.1 body else Out.err .badChecksum) ::
        decode cfg cksum rest := by
  have e : rstripNul m.1 = m.1 := rstripNul_of_noTrail _ hs.noNul
  have := decode_framed cfg cksum hm m.1 k body rest hs.cmdLen hk4 (hb ▸ hs.lenPack)
    (by rw [e, hb]; exact (block_exception cfg _ _).2 hs.within)
  rwa [e, hb] at this

/-! ### F17: a command ending in NUL cannot be expressed on the wire (known finding) -/

/-- the full-strength round trip the property text asks for ("any command of at most 12 bytes") -/
def frame_roundtrip_full : Prop :=
  ∀ (cfg : Cfg) (cksum : Bytes → Bytes), cfg.magic.length = 4 → CkLaw cksum →
    ∀ m : Bytes × Bytes, m.1.length ≤ 12 → m.2.length < 4294967296 →
      oversized cfg m.1 m.2.length = false →
      decode cfg cksum (wire cfg cksum m) = [.msg m.1 m.2]

/-- what does hold for every frameable command: it comes back stripped of trailing NULs -/
theorem frame_roundtrip_partial (cfg : Cfg) (cksum : Bytes → Bytes) (hm : cfg.magic.length = 4)
    (hk : CkLaw cksum) (m : Bytes × Bytes) (hc : m.1.length ≤ 12) (hp : m.2.length < 4294967296)
    (hs : oversized cfg (rstripNul m.1) m.2.length = false) :
    decode cfg cksum (wire cfg cksum m) = [.msg (rstripNul m.1) m.2] := by
  have := decode_framed cfg cksum hm m.1 (cksum m.2) m.2 [] hc (hk m.2) hp hs
  rwa [List.append_nil, if_pos rfl, (decode_incomplete cfg cksum).1 [] (by decide)] at this

/-- witness: `frame((b'ab\0', b''))` fed back yields command `b'ab'` -/
theorem trailing_nul_witness :
    decode cfg0 ck0 (wire cfg0 ck0 ([97, 98, 0], [])) = [.msg [97, 98] []] :=
  frame_roundtrip_partial cfg0 ck0 rfl ck0_law ([97, 98, 0], []) (by decide) (by decide) (by decide)

theorem frame_roundtrip_full_fails : ¬ frame_roundtrip_full := by
  intro h
  have h1 := h cfg0 ck0 rfl ck0_law ([97, 98, 0], []) (by decide) (by decide) (by decide)
  rw [trailing_nul_witness] at h1
  revert h1
  decide

/-- why no repair exists: a command and the same command with a NUL appended have the *same*
    wire bytes, so no receiver can tell them apart -/
theorem wire_not_injective (cfg : Cfg) (cksum : Bytes → Bytes) (cmd payload : Bytes)
    (h : cmd.length < 12) :
    wire cfg cksum (cmd ++ [0], payload) = wire cfg cksum (cmd, payload) := by
  have e : 12 - cmd.length = (12 - (cmd.length + 1)) + 1 := by omega
  unfold wire
  dsimp only
  rw [List.length_append, List.length_singleton, e, List.replicate_succ]
  simp only [List.append_assoc, List.cons_append, List.nil_append]

/-- whatever the byte stream (so: whatever was corrupted, anywhere), a
    delivered `(command, payload)` sits in the stream behind a 24-byte header carrying the
    right magic, this payload's length, **this payload's checksum**, and the command - and that
    header stands exactly where the decoder was after the earlier outcomes: what precedes it is
    the concatenation of the items (header + consumed bytes) of the outcomes before it, what
    follows the payload is decoded next. -/
theorem never_corrupt (cfg : Cfg) (cksum : Bytes → Bytes) (s c p : Bytes)
    (h : Out.msg c p ∈ decode cfg cksum s) :
    ∃ (items : List Item) (hd post : Bytes),
      s = (items.map Item.bytes).flatten ++ (hd ++ (p ++ post)) ∧
      (∀ i ∈ items, i.WF cfg) ∧
      decode cfg cksum s =
        items.map (Item.out cfg cksum) ++ Out.msg c p :: decode cfg cksum post ∧
      hd.length = 24 ∧
      hMagic hd = cfg.magic ∧ hCk hd = cksum p ∧ hLen hd = p.length ∧
      rstripNul (hCmd hd) = c ∧ oversized cfg c p.length = false := by
  obtain ⟨items, i, post, e, w, wi, ho, d⟩ := decode_mem cfg cksum s _ h
  obtain ⟨rfl, m⟩ := Item.out_eq_msg wi ho
  exact ⟨items, i.header, post, by rw [e, Item.bytes, List.append_assoc], w, d, wi.1, m⟩

/-- the same for the reader on chunks, without the command and size clauses -/
theorem never_corrupt_chunks (cfg : Cfg) (cksum : Bytes → Bytes) (chunks : List Bytes) (c p : Bytes)
    (h : Out.msg c p ∈ run cfg cksum BQ.empty chunks) :
    ∃ (items : List Item) (hd post : Bytes),
      chunks.flatten = (items.map Item.bytes).flatten ++ (hd ++ (p ++ post)) ∧
      (∀ i ∈ items, i.WF cfg) ∧
      run cfg cksum BQ.empty chunks =
        items.map (Item.out cfg cksum) ++ Out.msg c p :: decode cfg cksum post ∧
      hd.length = 24 ∧
      hMagic hd = cfg.magic ∧ hCk hd = cksum p ∧ hLen hd = p.length := by
  rw [run_concat] at h ⊢
  obtain ⟨items, hd, post, a, w, d, b, c1, d1, e1, _⟩ := never_corrupt cfg cksum _ c p h
  exact ⟨items, hd, post, a, w, d, b, c1, d1, e1⟩

/-- a message whose checksum does not match raises one
    `BadChecksumError`, consumes 24 + declared-length bytes exactly like a valid one, and what
    follows decodes exactly as it would behind a valid message -/
theorem checksum_error_local (cfg : Cfg) (cksum : Bytes → Bytes) (h body rest c ck : Bytes)
    (n : Nat) (hl : h.length = 24) (hp : parseHeader cfg h = .ok (c, n, ck))
    (hb : body.length = n) :
    (cksum body ≠ ck →
      decode cfg cksum (h ++ (body ++ rest)) = .err .badChecksum :: decode cfg cksum rest) ∧
    (cksum body = ck →
      decode cfg cksum (h ++ (body ++ rest)) = .msg c body :: decode cfg cksum rest) := by
  rw [decode_accepted_header cfg cksum h body rest c ck n hl hp hb]
  exact ⟨fun hc => by rw [if_neg hc], fun hc => by rw [if_pos hc]⟩

/-- corruption of the payload of a framed message (any number of flipped bits, same length):
    `BadChecksumError` for that message only — unless the checksums collide, in which case the
    corrupted payload is delivered under its own matching checksum — and the following frames
    are decoded unchanged -/
theorem payload_corruption_local (cfg : Cfg) (cksum : Bytes → Bytes) (hm : cfg.magic.length = 4)
    (hk : CkLaw cksum) (m : Bytes × Bytes) (hs : Sendable cfg m) (p' rest hdr : Bytes)
    (hb : buildHeader cfg cksum m.1 m.2 = .ok hdr) (hlen : p'.length = m.2.length) :
    decode cfg cksum (hdr ++ (p' ++ rest)) =
      (if cksum p' = cksum m.2 then Out.msg m.1 p' else Out.err .badChecksum) ::
        decode cfg cksum rest := by
  rw [(header_layout cfg cksum m.1 m.2 hs.cmdLen hs.lenPack).1] at hb
  cases hb
  exact decode_sendable cfg cksum hm m hs (cksum m.2) p' rest (hk m.2) hlen

/-- corruption of the checksum field of a framed message (any 4 bytes `k` in its place):
    delivered iff `k` is still the payload's checksum, otherwise one `BadChecksumError`; the
    following frames are decoded unchanged either way -/
theorem checksum_field_corruption_local (cfg : Cfg) (cksum : Bytes → Bytes)
    (hm : cfg.magic.length = 4) (m : Bytes × Bytes) (hs : Sendable cfg m) (k rest : Bytes)
    (hk4 : k.length = 4) :
    decode cfg cksum (cfg.magic ++ (m.1 ++ List.replicate (12 - m.1.length) 0 ++
        (le32 m.2.length ++ k)) ++ (m.2 ++ rest)) =
      (if cksum m.2 = k then Out.msg m.1 m.2 else Out.err .badChecksum) ::
        decode cfg cksum rest :=
  decode_sendable cfg cksum hm m hs k m.2 rest hk4 rfl

/-- what `never_corrupt` does **not** give: the checksum covers the payload only.  Whatever 12
    bytes stand in the command field, the payload is delivered under that (stripped) command -/
theorem command_field_unprotected (cfg : Cfg) (cksum : Bytes → Bytes) (hm : cfg.magic.length = 4)
    (hk : CkLaw cksum) (c p rest : Bytes) (hc : c.length = 12) (hp : p.length < 4294967296)
    (hs : oversized cfg (rstripNul c) p.length = false) :
    decode cfg cksum (cfg.magic ++ (c ++ (le32 p.length ++ cksum p)) ++ (p ++ rest)) =
      .msg (rstripNul c) p :: decode cfg cksum rest := by
  have hu := unle_le32 _ hp
  have := decode_assembled cfg cksum hm c (le32 p.length) (cksum p) p rest hc rfl (hk p)
    hu.symm (by rw [hu]; exact hs)
  rwa [if_pos rfl] at this

/-- a framer whose magic is not 4 bytes wide rejects every header (its own frames included):
    nothing is ever delivered -/
theorem bad_magic_width (cfg : Cfg) (hm : cfg.magic.length ≠ 4) (h : Bytes) (hl : h.length = 24) :
    parseHeader cfg h = .error .badMagic ∨ parseHeader cfg h = .error .oversized := by
  rcases header_trichotomy cfg h with ⟨e, _⟩ | ⟨e, _⟩ | ⟨_, e, _⟩
  · exact .inl e
  · exact .inr e
  · refine absurd ?_ hm
    rw [← e, hMagic, List.length_take, hl]
    rfl

/-- the header `frame` puts in front of the payload -/
def hdr (cfg : Cfg) (cksum : Bytes → Bytes) (m : Bytes × Bytes) : Bytes :=
  cfg.magic ++ (m.1 ++ List.replicate (12 - m.1.length) 0 ++ (le32 m.2.length ++ cksum m.2))

/-- a framed message whose payload was possibly replaced in transit by `p'` (same length) -/
def damagedWire (cfg : Cfg) (cksum : Bytes → Bytes) (x : (Bytes × Bytes) × Option Bytes) : Bytes :=
  hdr cfg cksum x.1 ++ x.2.getD x.1.2

/-- what the property promises for it -/
def damagedOut (cksum : Bytes → Bytes) (x : (Bytes × Bytes) × Option Bytes) : Out :=
  match x.2 with
  | none => .msg x.1.1 x.1.2
  | some p' => if cksum p' = cksum x.1.2 then .msg x.1.1 p' else .err .badChecksum

/-- **errors are isolated, for whole sequences**: any sequence of sendable messages, any subset
    of them with a damaged payload, any following bytes: each damaged message yields exactly one
    `BadChecksumError` (or is delivered with the damaged payload if the checksums collide) and
    every other message is delivered intact, in order -/
theorem damaged_sequence (cfg : Cfg) (cksum : Bytes → Bytes) (hm : cfg.magic.length = 4)
    (hk : CkLaw cksum) (xs : List ((Bytes × Bytes) × Option Bytes))
    (hs : ∀ x ∈ xs, Sendable cfg x.1 ∧ ∀ p' ∈ x.2, p'.length = x.1.2.length) (rest : Bytes) :
    decode cfg cksum ((xs.map (damagedWire cfg cksum)).flatten ++ rest) =
      xs.map (damagedOut cksum) ++ decode cfg cksum rest := by
  induction xs with
  | nil => rfl
  | cons x xs ih =>
    rw [List.forall_mem_cons] at hs
    obtain ⟨⟨s1, s2⟩, hs'⟩ := hs
    -- the undamaged case is the damaged one with the payload replaced by itself
    have hb : (x.2.getD x.1.2).length = x.1.2.length := by
      cases hx : x.2 with
      | none => rfl
      | some p' => exact s2 p' hx
    have ho : damagedOut cksum x =
        if cksum (x.2.getD x.1.2) = cksum x.1.2 then .msg x.1.1 (x.2.getD x.1.2)
        else .err .badChecksum := by
      rw [damagedOut]
      cases x.2 with
      | none => exact (if_pos rfl).symm
      | some p' => rfl
    rw [List.map_cons, List.flatten_cons, List.append_assoc, damagedWire, hdr, List.append_assoc,
      decode_sendable cfg cksum hm x.1 s1 _ _ _ (hk _) hb, ih hs', List.map_cons, ho]
    rfl

/-- non-vacuity: a damaged payload that is detected, and one whose checksum collides -/
example : (Sendable cfg0 ([118], [1, 2]) ∧ ∀ p' ∈ (some [3, 2] : Option Bytes), p'.length = 2) ∧
    damagedOut ck0 (([118], [1, 2]), some [3, 2]) = .err .badChecksum ∧
    damagedOut ck0 (([118], [1, 2]), some [1, 9]) = .msg [118] [1, 9] ∧
    damagedOut ck0 (([118], [1, 2]), none) = .msg [118] [1, 2] := by
  refine ⟨⟨⟨by decide, by decide, by decide, by decide⟩, by simp⟩, by decide, by decide, by decide⟩

/-- every sequence of sendable messages, framed, concatenated and cut into
    chunks in any way (empty chunks allowed), is received as exactly that sequence -/
theorem frame_roundtrip (cfg : Cfg) (cksum : Bytes → Bytes) (hm : cfg.magic.length = 4)
    (hk : CkLaw cksum) (msgs : List (Bytes × Bytes)) (hs : ∀ m ∈ msgs, Sendable cfg m)
    (chunks : List Bytes) (hc : chunks.flatten = (msgs.map (wire cfg cksum)).flatten) :
    (∀ m ∈ msgs, frame cfg cksum m.1 m.2 = .ok (wire cfg cksum m)) ∧
    run cfg cksum BQ.empty chunks = msgs.map (fun m => Out.msg m.1 m.2) := by
  refine ⟨fun m hmem =>
    (header_layout cfg cksum m.1 m.2 (hs m hmem).cmdLen (hs m hmem).lenPack).2, ?_⟩
  -- a sequence in which no payload is damaged
  have := damaged_sequence cfg cksum hm hk (msgs.map fun m => (m, none))
    (fun x hx => by obtain ⟨m, hmem, rfl⟩ := List.mem_map.1 hx; exact ⟨hs m hmem, nofun⟩) []
  rw [List.map_map, List.map_map, List.append_nil, (decode_incomplete cfg cksum).1 [] (by decide),
    List.append_nil] at this
  rw [run_concat, hc]
  exact this

/-- wrong magic or an over-limit length: one error of the
    corresponding class - for a header that is wrong in *both* ways either class, the text fixes
    no order (the model follows the order observed on the real code, `cfg.sizeFirst`) - nothing
    delivered for that header, exactly 24 bytes consumed.  Proved for both orders. -/
theorem magic_size_no_delivery (cfg : Cfg) (cksum : Bytes → Bytes) (h rest : Bytes)
    (hl : h.length = 24) :
    (hMagic h ≠ cfg.magic → oversized cfg (rstripNul (hCmd h)) (hLen h) = false →
      decode cfg cksum (h ++ rest) = .err .badMagic :: decode cfg cksum rest) ∧
    (hMagic h = cfg.magic → oversized cfg (rstripNul (hCmd h)) (hLen h) = true →
      decode cfg cksum (h ++ rest) = .err .oversized :: decode cfg cksum rest) ∧
    (hMagic h ≠ cfg.magic → oversized cfg (rstripNul (hCmd h)) (hLen h) = true →
      decode cfg cksum (h ++ rest) =
        .err (if cfg.sizeFirst then .oversized else .badMagic) :: decode cfg cksum rest) ∧
    (hMagic h ≠ cfg.magic ∨ oversized cfg (rstripNul (hCmd h)) (hLen h) = true →
      ∃ e, (e = .badMagic ∨ e = .oversized) ∧
        decode cfg cksum (h ++ rest) = .err e :: decode cfg cksum rest) := by
  have rejected := decode_rejected_header cfg cksum h rest
  refine ⟨fun hne ho => rejected _ hl (parseHeader_of_badMagic hne fun h => nomatch ho.symm.trans h),
    fun he ho => rejected _ hl (parseHeader_of_oversized ho fun hne => absurd he hne),
    fun hne ho => ?_, fun hor => ?_⟩
  · cases hs : cfg.sizeFirst with
    | false => exact rejected _ hl (parseHeader_of_badMagic hne fun _ => hs)
    | true => exact rejected _ hl (parseHeader_of_oversized ho fun _ => hs)
  · rcases header_trichotomy cfg h with ⟨e, _⟩ | ⟨e, _⟩ | ⟨_, hm, ho⟩
    · exact ⟨_, .inl rfl, rejected _ hl e⟩
    · exact ⟨_, .inr rfl, rejected _ hl e⟩
    · rcases hor with hne | ho'
      · exact absurd hm hne
      · rw [ho] at ho'; cases ho'

/-- non-vacuity of the "wrong in both ways" case, for both orders: magic `e3e1f3e9`, length 100 -/
example :
    parseHeader cfg0 ([0xe3, 0xe1, 0xf3, 0xe9] ++ List.replicate 12 0 ++ [100, 0, 0, 0] ++
      [0, 0, 0, 0]) = .error .badMagic ∧
    parseHeader cfg1 ([0xe3, 0xe1, 0xf3, 0xe9] ++ List.replicate 12 0 ++ [100, 0, 0, 0] ++
      [0, 0, 0, 0]) = .error .oversized := by decide +kernel

/-- non-vacuity: a bad-checksum frame between two good ones -/
example : decode cfg0 ck0
    (wire cfg0 ck0 ([118], [1]) ++
      ((cfg0.magic ++ ([120] ++ List.replicate 11 0 ++ (le32 2 ++ [0, 0, 0, 0]))) ++ ([5, 6] ++
        (wire cfg0 ck0 ([119], [2, 3]) ++ [])))) =
    [.msg [118] [1], .err .badChecksum, .msg [119] [2, 3]] :=
  decode_eq_of_decodesTo (by decide +kernel)

theorem chunking_independent (cfg : Cfg) (cksum : Bytes → Bytes) (cs cs' : List Bytes)
    (h : cs.flatten = cs'.flatten) :
    run cfg cksum BQ.empty cs = run cfg cksum BQ.empty cs' := by
  rw [run_concat, run_concat, h]

/-- incremental = batch: after any received prefix `a` the reader is left with an incomplete
    rest (a suffix of `a`: the bytes of the message it is waiting to complete), and whatever
    arrives later is decoded exactly as if that rest and the new bytes had arrived together.
    (The reader coroutine itself is a deterministic function of the FIFO chunk sequence; this is
    the statement that lets the reader run *while* chunks are still arriving.) -/
theorem decode_incremental (cfg : Cfg) (cksum : Bytes → Bytes) (a : Bytes) :
    ∃ pre rest, a = pre ++ rest ∧ step cfg cksum rest = none ∧ decode cfg cksum rest = [] ∧
      ∀ b, decode cfg cksum (a ++ b) = decode cfg cksum a ++ decode cfg cksum (rest ++ b) := by
  obtain ⟨items, rest, e1, e2, e3, e4⟩ := decode_spec cfg cksum a.length a rfl
  refine ⟨(items.map Item.bytes).flatten, rest, e1, e4, by rw [decode_eq, e4], ?_⟩
  intro b
  rw [e3]
  conv => lhs; rw [e1, List.append_assoc]
  exact decode_items cfg cksum items e2 (rest ++ b)

/-- more data never retracts or alters what has been produced (so the outputs observed while
    chunks are still arriving are a prefix of the final outputs) -/
theorem run_monotone (cfg : Cfg) (cksum : Bytes → Bytes) (cs more : List Bytes) :
    run cfg cksum BQ.empty cs <+: run cfg cksum BQ.empty (cs ++ more) := by
  obtain ⟨_, rest, _, _, _, h⟩ := decode_incremental cfg cksum cs.flatten
  rw [run_concat, run_concat, List.flatten_append, h]
  exact List.prefix_append _ _

example : ([[1, 2], [], [3]] : List Bytes).flatten = ([[1], [2, 3]] : List Bytes).flatten := by
  decide

/-- does this outcome make the session close the connection? -/
def fatal : Out → Bool
  | .err e => (policy e).close
  | .msg _ _ => false

def isErr : Out → Bool
  | .err _ => true
  | .msg _ _ => false

def msgOf : Out → Option (Bytes × Bytes)
  | .msg c p => some (c, p)
  | .err _ => none

/-- the outcomes the loop gets to see when the transport reports the loss after `g` further
    magic/size errors: everything up to and including the `(g+1)`-th magic/size error -/
def seen : Nat → List Out → List Out
  | _, [] => []
  | g, o :: r =>
      if fatal o then
        match g with
        | 0 => [o]
        | g' + 1 => o :: seen g' r
      else o :: seen g r

/-- ... when the loss is reported at once: up to and including the first magic/size error -/
def upToFatal (outs : List Out) : List Out := seen 0 outs

/-- the decision table: every framing error is counted exactly once; the connection is closed
    exactly for `BadMagicError` and `OversizedPayloadError` -/
theorem policy_table (e : FrameErr) :
    (policy e).bump = 1 ∧ ((policy e).close = true ↔ e = .badMagic ∨ e = .oversized) := by
  cases e <;> simp [policy]

/-- the loop from any session state `s` (the induction changes the state) -/
theorem sessRunG_spec (outs : List Out) : ∀ (g : Nat) (s : Sess),
    (sessRunG g outs s).errors = s.errors + ((seen g outs).filter isErr).length ∧
    (sessRunG g outs s).closed = (s.closed || outs.any fatal) ∧
    (sessRunG g outs s).delivered = s.delivered ++ (seen g outs).filterMap msgOf := by
  induction outs with
  | nil => exact fun g s => ⟨rfl, (Bool.or_false _).symm, (List.append_nil _).symm⟩
  | cons o r ih =>
    intro g s
    cases o with
    | msg c p =>
      obtain ⟨a, b, d⟩ := ih g { s with delivered := s.delivered ++ [(c, p)] }
      exact ⟨a, b, d.trans (List.append_assoc ..)⟩
    | err e =>
      -- the rest of the outcomes, from the state in which this error has been counted
      have ih' := fun g' =>
        ih g' { s with errors := s.errors + 1, closed := s.closed || (policy e).close }
      cases e with
      | badChecksum =>
        obtain ⟨a, b, d⟩ := ih' g
        refine ⟨a.trans ((Nat.add_assoc ..).trans ?_), b.trans (Bool.or_assoc ..), d⟩
        rw [Nat.add_comm 1]
        rfl
      | badMagic | oversized =>
        cases g with
        | zero => exact ⟨rfl, by simp [sessRunG, policy, fatal], (List.append_nil _).symm⟩
        | succ g' =>
          obtain ⟨a, b, d⟩ := ih' g'
          refine ⟨a.trans ((Nat.add_assoc ..).trans ?_), b.trans (Bool.or_assoc ..), d⟩
          rw [Nat.add_comm 1]
          rfl

/-- started fresh on any sequence of framer outcomes, whenever the transport
    reports the loss (`g`): the session's `errors` is the number of framing errors among the
    outcomes it got to see (each counted once) - all outcomes up to and including the `(g+1)`-th
    magic/size error -, it requested `close` iff there was a magic/size error, and
    `handle_message` saw exactly the messages among the outcomes it got to see, in order.  For
    `g = 0` (loss reported at once) that is: up to and including the first magic/size error. -/
theorem session_policy (g : Nat) (outs : List Out) :
    (sessRunG g outs Sess.init).errors = ((seen g outs).filter isErr).length ∧
    (sessRunG g outs Sess.init).closed = outs.any fatal ∧
    (sessRunG g outs Sess.init).delivered = (seen g outs).filterMap msgOf ∧
    (sessRun outs Sess.init).errors = ((upToFatal outs).filter isErr).length ∧
    (sessRun outs Sess.init).delivered = (upToFatal outs).filterMap msgOf := by
  have h := sessRunG_spec outs g Sess.init
  have h0 := sessRunG_spec outs 0 Sess.init
  simp only [Sess.init, Nat.zero_add, Bool.false_or, List.nil_append] at h h0
  exact ⟨h.1, h.2.1, h.2.2, h0.1, h0.2.2⟩

/-- what the session got to see is a prefix of what the framer produced ... -/
theorem session_seen_prefix : ∀ (g : Nat) (outs : List Out), seen g outs <+: outs
  | _, [] => by simp [seen]
  | g, o :: r => by
    unfold seen
    split
    · cases g with
      | zero => exact ⟨r, rfl⟩
      | succ g' =>
        obtain ⟨t, ht⟩ := session_seen_prefix g' r
        exact ⟨t, by simp [ht]⟩
    · obtain ⟨t, ht⟩ := session_seen_prefix g r
      exact ⟨t, by simp [ht]⟩

/-- ... and all of it when the loss is reported late enough -/
theorem seen_all : ∀ (g : Nat) (outs : List Out), (outs.filter fatal).length ≤ g →
    seen g outs = outs
  | _, [], _ => by simp [seen]
  | g, o :: r, h => by
    unfold seen
    by_cases hf : fatal o = true
    · simp only [List.filter_cons, hf, ↓reduceIte, List.length_cons] at h
      cases g with
      | zero => omega
      | succ g' => simp [hf, seen_all g' r (by omega)]
    · simp only [List.filter_cons, hf, Bool.false_eq_true, ↓reduceIte] at h
      simp [hf, seen_all g r h]

/-- a transport that reports the loss late (or never, before it is
    aborted) does not stop the session from counting: every framing error that is raised to it
    is counted, every delivered message is handled - the session keeps reading after a
    magic/size error until the loss is delivered -/
theorem session_loss_late (g : Nat) (outs : List Out) (h : (outs.filter fatal).length ≤ g) :
    (sessRunG g outs Sess.init).errors = (outs.filter isErr).length ∧
    (sessRunG g outs Sess.init).closed = outs.any fatal ∧
    (sessRunG g outs Sess.init).delivered = outs.filterMap msgOf := by
  obtain ⟨a, b, c, _⟩ := session_policy g outs
  rw [seen_all g outs h] at a c
  exact ⟨a, b, c⟩

/-- without a magic/size error nothing is cut off: all errors are counted, all messages are
    handled, the connection stays open -/
theorem session_no_fatal (g : Nat) (outs : List Out) (h : outs.any fatal = false) :
    (sessRunG g outs Sess.init).errors = (outs.filter isErr).length ∧
    (sessRunG g outs Sess.init).closed = false ∧
    (sessRunG g outs Sess.init).delivered = outs.filterMap msgOf := by
  have hf : (outs.filter fatal).length ≤ g := by
    have : outs.filter fatal = [] := by
      rw [List.filter_eq_nil_iff]
      intro o ho
      have := List.any_eq_false.1 h o ho
      simpa using this
    simp [this]
  obtain ⟨a, b, c⟩ := session_loss_late g outs hf
  exact ⟨a, by rw [b, h], c⟩

/-- end to end for the "mismatch raises for that message only" clause: a session fed (in any
    chunking) a sequence of sendable frames some of which have a damaged payload counts one
    error per mismatching frame, stays open, and handles every other message, in order -/
theorem session_damaged_sequence (cfg : Cfg) (cksum : Bytes → Bytes) (hm : cfg.magic.length = 4)
    (hk : CkLaw cksum) (xs : List ((Bytes × Bytes) × Option Bytes))
    (hs : ∀ x ∈ xs, Sendable cfg x.1 ∧ ∀ p' ∈ x.2, p'.length = x.1.2.length)
    (chunks : List Bytes) (hc : chunks.flatten = (xs.map (damagedWire cfg cksum)).flatten)
    (g : Nat) :
    let s := sessRunG g (run cfg cksum BQ.empty chunks) Sess.init
    s.errors = ((xs.map (damagedOut cksum)).filter isErr).length ∧ s.closed = false ∧
    s.delivered = (xs.map (damagedOut cksum)).filterMap msgOf := by
  have e : run cfg cksum BQ.empty chunks = xs.map (damagedOut cksum) := by
    rw [run_concat, hc]
    have := damaged_sequence cfg cksum hm hk xs hs []
    simp only [List.append_nil] at this
    rw [this, (decode_incomplete cfg cksum).1 [] (by decide), List.append_nil]
  have nf : (xs.map (damagedOut cksum)).any fatal = false := by
    rw [List.any_eq_false]
    intro o ho
    rw [List.mem_map] at ho
    obtain ⟨x, _, rfl⟩ := ho
    obtain ⟨m, d⟩ := x
    cases d with
    | none => simp [damagedOut, fatal]
    | some p' =>
      simp only [damagedOut]
      split <;> simp [fatal, policy]
  simp only
  rw [e]
  exact session_no_fatal g _ nf

/-- end to end: the session on a chunked byte stream depends only on the concatenation -/
theorem session_chunking_independent (cfg : Cfg) (cksum : Bytes → Bytes) (cs cs' : List Bytes)
    (h : cs.flatten = cs'.flatten) (g : Nat) :
    sessRunG g (run cfg cksum BQ.empty cs) Sess.init =
      sessRunG g (run cfg cksum BQ.empty cs') Sess.init := by
  rw [chunking_independent cfg cksum cs cs' h]

/-- non-vacuity: loss reported at once / after one more magic-size error / never -/
example : sessRun [.msg [1] [], .err .badChecksum, .msg [2] [], .err .oversized, .msg [3] [],
      .err .badMagic, .msg [4] [], .err .badMagic, .msg [5] []] Sess.init =
    ⟨2, true, [([1], []), ([2], [])]⟩ := by decide
example : sessRunG 1 [.msg [1] [], .err .badChecksum, .msg [2] [], .err .oversized, .msg [3] [],
      .err .badMagic, .msg [4] [], .err .badMagic, .msg [5] []] Sess.init =
    ⟨3, true, [([1], []), ([2], []), ([3], [])]⟩ := by decide
example : sessRunG 9 [.msg [1] [], .err .badChecksum, .msg [2] [], .err .oversized, .msg [3] [],
      .err .badMagic, .msg [4] [], .err .badMagic, .msg [5] []] Sess.init =
    ⟨4, true, [([1], []), ([2], []), ([3], []), ([4], []), ([5], [])]⟩ := by decide

/-! ## Facts: what the real classes did on grids (regenerated from /repo on every run by
    `tools/facts/c07.py`, which only RUNS the public API), reproduced by the model -/

/-- a checksum function given by a finite table (4 zero bytes outside it) -/
def tableCk (t : List (Bytes × Bytes)) (p : Bytes) : Bytes :=
  match t.find? (fun e => e.1 == p) with
  | some e => e.2
  | none => [0, 0, 0, 0]

theorem tableCk_law (t : List (Bytes × Bytes)) (h : ∀ e ∈ t, e.2.length = 4) :
    CkLaw (tableCk t) := by
  intro p
  unfold tableCk
  split
  · rename_i e he
    exact h e (List.mem_of_find?_eq_some he)
  · rfl

/-- the checksum function of the generated tables: the first four bytes of the double SHA-256
    (computed with hashlib) of every byte string that gets checksummed on the grids -/
noncomputable def factsCk : Bytes → Bytes := tableCk Facts.C07.ckTable

/-- it satisfies the one law the theorems assume, so they all apply to it -/
theorem facts_ck_law : CkLaw factsCk :=
  tableCk_law _ (by decide +kernel)

/-- decoding of an outcome in the generated tables -/
def outOfCode : Nat × Bytes × Bytes → Option Out
  | (0, c, p) => some (.msg c p)
  | (1, _, _) => some (.err .badMagic)
  | (2, _, _) => some (.err .oversized)
  | (3, _, _) => some (.err .badChecksum)
  | _ => none

/-- the configuration of a grid row: the grid's magic, the row's limits, and the order of the
    magic and size tests **as observed** on the real code (a header wrong in both ways was fed
    to `receive_message`) -/
def gridCfg (mp mb : Nat) : Cfg := ⟨Facts.C07.gridMagic, mp, mb, Facts.C07.sizeFirst⟩

/-- **the decision grid of the real `receive_message`**: on every stream of the grid (every raw
    command field variant - NUL in front, inside, at the end - × every declared length from 0
    to two past the larger limit × three limit configurations, good / bad checksum, truncated
    payload and header; every single-bit corruption of the magic alone and together with an
    over-limit length; each followed by a further message) the successive outcomes of the real
    framer - delivered command and payload included - are the model's `decode` -/
theorem facts_recv :
    ∀ r ∈ Facts.C07.recvGrid,
      (decode (gridCfg r.1 r.2.1) factsCk r.2.2.1).map some = r.2.2.2.map outOfCode := by
  have h : ∀ r ∈ Facts.C07.recvGrid,
      decodesTo (gridCfg r.1 r.2.1) factsCk r.2.2.1 (r.2.2.2.map outOfCode) = true := by
    decide +kernel
  exact fun r hr => decode_of_decodesTo _ _ _ _ (h r hr)

/-- result code of the model's `frame` as in the generated table -/
def frameCode : Except PyExc Bytes → Nat × Bytes
  | .ok b => (0, b)
  | .error .valueError => (1, [])
  | .error .structError => (2, [])

/-- **the table of the real `frame()`**: commands of 0..14 bytes (NUL in front / inside / at the
    end), four payload sizes, magics of 0, 3, 4 and 5 bytes, a long command directly before a
    short one on the same framer: bytes returned / `ValueError` are the model's -/
theorem facts_frame :
    ∀ r ∈ Facts.C07.frameTable,
      frameCode (frame ⟨r.1, 0, 0, false⟩ factsCk r.2.1 r.2.2.1) = (r.2.2.2.1, r.2.2.2.2) := by
  decide +kernel

/-- the length field at its boundaries (payloads whose `len()` claims 2^k - 1 / 2^k bytes):
    packed little-endian below 2^32, `struct.error` from 2^32 on - as `packLe32` -/
theorem facts_pack :
    ∀ r ∈ Facts.C07.packProbe,
      (match packLe32 r.1 with
       | .ok l => ((0 : Nat), l)
       | .error _ => (2, [])) = (r.2.1, (r.2.2.drop 16).take 4) := by
  decide +kernel

/-- **the table of the real `MessageSession`** on a fake transport: every sequence of at most
    three items of the kinds valid / bad checksum / bad magic / oversize (and four longer ones),
    followed by a valid message, with the transport reporting the loss at once (`g = gSoon`),
    2.5 ms after `close()` (`g = gLate`) or not at all (`g = gNever`) - `gSoon`, `gLate` being
    the number of further magic/size errors a probe session counted under that timing -:
    `errors`, "close requested" and the messages that reached `handle_message` are `sessRunG g`
    of the framer's outcomes.  (The `except` ladder is not read from the source: the handlers are
    run, with the exception objects the real framer raises.) -/
theorem facts_session :
    ∀ r ∈ Facts.C07.sessTable,
      (r.2.1.mapM outOfCode).map (fun outs => sessRunG r.1 outs Sess.init) =
        some ⟨r.2.2.1, r.2.2.2.1, r.2.2.2.2⟩ := by
  decide +kernel

/-- **large payloads on the real framer** (64 KiB - 1, 64 KiB, 64 KiB + 1 and 200 000 bytes; the
    chunk that completes the payload ends at the frame boundary - 1 / 0 / + 1; two more messages
    behind): what came out is what was sent - same commands, lengths and payload checksums, in
    order, nothing else.  The model side of these rows is not an evaluation but the general
    theorem `frame_roundtrip` (every chunking of sendable frames decodes to the messages sent);
    the rows only record lengths and checksums, the kernel does not see the payloads. -/
theorem facts_large :
    ∀ r ∈ Facts.C07.largeTable, r.2.2.2 = r.2.2.1 := by
  decide +kernel

/-- the defaults: 4-byte magic (so the general theorems apply to `BitcoinFramer()`), and
    `MessageSession.default_framer()` is a `BitcoinFramer` -/
theorem facts_defaults :
    Facts.C07.defaultMagic.length = magicW ∧ Facts.C07.defaultFramerIsBitcoin = true := by decide

/-- the configuration of `BitcoinFramer()` as read from the running code -/
def defaultCfg : Cfg :=
  ⟨Facts.C07.defaultMagic, Facts.C07.maxPayloadSize, Facts.C07.maxBlockSize, Facts.C07.sizeFirst⟩

/-- the round trip for `BitcoinFramer()` -/
theorem frame_roundtrip_defaults (cksum : Bytes → Bytes) (hk : CkLaw cksum)
    (msgs : List (Bytes × Bytes)) (hs : ∀ m ∈ msgs, Sendable defaultCfg m)
    (chunks : List Bytes) (hc : chunks.flatten = (msgs.map (wire defaultCfg cksum)).flatten) :
    run defaultCfg cksum BQ.empty chunks = msgs.map (fun m => Out.msg m.1 m.2) :=
  (frame_roundtrip _ cksum facts_defaults.1 hk msgs hs chunks hc).2

end Aiorpcx.C07
