import Aiorpcx.C07.Model
/-! C07 — lemmas about the header codec: little-endian integers, NUL padding/stripping, and
    the four fields of a 24-byte header. -/
namespace Aiorpcx.C07

theorem le32_length (n : Nat) : (le32 n).length = 4 := rfl

/-- the four digits by repeated division, the form in which `unle` undoes them -/
theorem le32_eq (n : Nat) :
    le32 n = [UInt8.ofNat (n % 256), UInt8.ofNat (n / 256 % 256),
      UInt8.ofNat (n / 256 / 256 % 256), UInt8.ofNat (n / 256 / 256 / 256 % 256)] := by
  simp only [le32, Nat.div_div_eq_div_mul]

theorem unle_cons_mod (b : UInt8) (bs : Bytes) : unle (b :: bs) % 256 = b.toNat := by
  rw [unle, Nat.add_mul_mod_self_left, Nat.mod_eq_of_lt b.toNat_lt]

theorem unle_cons_div (b : UInt8) (bs : Bytes) : unle (b :: bs) / 256 = unle bs := by
  rw [unle, Nat.add_mul_div_left _ _ (by decide), Nat.div_eq_of_lt b.toNat_lt, Nat.zero_add]

theorem unle_le32 (n : Nat) (h : n < 4294967296) : unle (le32 n) = n := by
  have h3 : n / 256 / 256 / 256 < 256 := by omega
  simp only [le32_eq, unle, UInt8.toNat_ofNat', Nat.reducePow, Nat.mod_mod, Nat.mul_zero,
    Nat.add_zero, Nat.mod_eq_of_lt h3, Nat.mod_add_div]

theorem le32_unle (b : Bytes) (h : b.length = 4) : le32 (unle b) = b := by
  match b, h with
  | [b0, b1, b2, b3], _ =>
    simp only [le32_eq, unle_cons_mod, unle_cons_div, UInt8.ofNat_toNat]

theorem unle_lt (b : Bytes) : unle b < 256 ^ b.length := by
  induction b with
  | nil => exact Nat.one_pos
  | cons x xs ih =>
    have := x.toNat_lt
    rw [unle, List.length_cons, Nat.pow_succ]
    omega

def NoTrailNul (c : Bytes) : Prop := c.getLast? ≠ some 0

instance (c : Bytes) : Decidable (NoTrailNul c) := by unfold NoTrailNul; infer_instance

theorem rstripNul_cons (b : UInt8) (bs : Bytes) :
    rstripNul (b :: bs) = if (rstripNul bs).isEmpty && b == 0 then [] else b :: rstripNul bs := rfl

theorem rstripNul_zeros (k : Nat) : rstripNul (List.replicate k 0) = [] := by
  induction k with
  | zero => rfl
  | succ k ih => rw [List.replicate_succ, rstripNul_cons, ih]; rfl

theorem rstripNul_append_zeros (c : Bytes) (k : Nat) :
    rstripNul (c ++ List.replicate k 0) = rstripNul c := by
  induction c with
  | nil => exact rstripNul_zeros k
  | cons b bs ih => rw [List.cons_append, rstripNul_cons, ih, ← rstripNul_cons]

theorem rstripNul_eq_self_iff (c : Bytes) : rstripNul c = c ↔ NoTrailNul c := by
  induction c with
  | nil => simp [NoTrailNul, rstripNul]
  | cons b bs ih =>
    cases bs with
    | nil => simp [NoTrailNul, rstripNul]
    | cons b' bs' =>
      rw [NoTrailNul, List.getLast?_cons_cons, ← NoTrailNul, ← ih, rstripNul_cons]
      split
      · rename_i h
        simp only [Bool.and_eq_true, List.isEmpty_iff] at h
        simp [h.1]
      · simp

theorem rstripNul_of_noTrail (c : Bytes) (h : NoTrailNul c) : rstripNul c = c :=
  (rstripNul_eq_self_iff c).2 h

theorem noTrail_of_rstripNul (c : Bytes) (h : rstripNul c = c) : NoTrailNul c :=
  (rstripNul_eq_self_iff c).1 h

theorem rstripNul_idem (c : Bytes) : rstripNul (rstripNul c) = rstripNul c := by
  induction c with
  | nil => rfl
  | cons b bs ih =>
    rw [rstripNul_cons]
    split
    · rfl
    · rename_i h
      rw [rstripNul_cons, ih, if_neg h]

theorem rstripNul_noTrail (c : Bytes) : NoTrailNul (rstripNul c) :=
  noTrail_of_rstripNul _ (rstripNul_idem c)

theorem rstripNul_length_le (c : Bytes) : (rstripNul c).length ≤ c.length := by
  induction c with
  | nil => exact Nat.le_refl _
  | cons b bs ih =>
    rw [rstripNul_cons]
    split
    · exact Nat.zero_le _
    · exact Nat.succ_le_succ ih

theorem length_padded {cmd : Bytes} (h : cmd.length ≤ 12) :
    (cmd ++ List.replicate (12 - cmd.length) 0).length = 12 := by
  rw [List.length_append, List.length_replicate, Nat.add_sub_of_le h]

theorem fields_of_parts (m c l k : Bytes) (hm : m.length = 4) (hc : c.length = 12)
    (hl : l.length = 4) (hk : k.length = 4) :
    hMagic (m ++ (c ++ (l ++ k))) = m ∧ hCmd (m ++ (c ++ (l ++ k))) = c ∧
    hLen (m ++ (c ++ (l ++ k))) = unle l ∧ hCk (m ++ (c ++ (l ++ k))) = k ∧
    (m ++ (c ++ (l ++ k))).length = 24 := by
  simp only [hMagic, hCmd, hLen, hCk, magicW, cmdW, lenW, ckW, List.take_left' hm,
    List.drop_left' hm, List.take_left' hc, List.drop_left' hc, List.take_left' hl,
    List.drop_left' hl, List.take_of_length_le (Nat.le_of_eq hk), List.length_append, hm, hc, hl,
    hk, and_self]

/-- every 24-byte string is the concatenation of its four fields -/
theorem header_split (h : Bytes) (hl : h.length = 24) :
    h = hMagic h ++ (hCmd h ++ (((h.drop magicW).drop cmdW).take lenW ++ hCk h)) := by
  have e : hCk h = ((h.drop magicW).drop cmdW).drop lenW := by
    simp only [hCk]
    apply List.take_of_length_le
    simp [magicW, cmdW, lenW, ckW, hl]
  rw [e, hMagic, hCmd, List.take_append_drop, List.take_append_drop, List.take_append_drop]

end Aiorpcx.C07
