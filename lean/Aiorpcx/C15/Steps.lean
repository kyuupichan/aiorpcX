import Aiorpcx.C15.Model
/-! C15: every event is a sequence of a dozen atomic changes (`Small`) to a configuration - the
state together with the queue of tasks that are runnable but have not run yet.  Whatever the
atomic changes preserve holds after every step (`step_inv`) and so after every run (`run_inv`);
the invariants of the other files are each proved against `Small` only. -/
namespace Aiorpcx.C15

/-- the event is followed by running the loop to idle before anything else happens -/
def Event.simple : Event → Bool
  | .batch _ _ => false
  | _ => true

theorem earliest_none : ∀ (l : List Writer), earliest l = none → l = []
  | [], _ => rfl
  | w :: ws, h => by
    unfold earliest at h
    cases he : earliest ws <;> rw [he] at h <;> cases h

theorem earliest_spec : ∀ (l : List Writer) (d : Int), earliest l = some d →
    (∃ y ∈ l, y.deadline = d) ∧ ∀ w ∈ l, d ≤ w.deadline
  | [], _, h => nomatch h
  | x :: xs, d, h => by
    unfold earliest at h
    cases he : earliest xs with
    | none =>
      rw [he] at h
      cases h
      cases earliest_none xs he
      refine ⟨⟨x, .head _, rfl⟩, fun w hw => ?_⟩
      cases hw with
      | head => exact Int.le_refl _
      | tail _ hw => cases hw
    | some d' =>
      rw [he] at h
      obtain ⟨⟨y, hy, hyd⟩, hle⟩ := earliest_spec xs d' he
      injection h with h
      by_cases hx : x.deadline ≤ d'
      · rw [if_pos hx] at h
        subst h
        refine ⟨⟨x, .head _, rfl⟩, fun w hw => ?_⟩
        cases hw with
        | head => exact Int.le_refl _
        | tail _ hw => exact Int.le_trans hx (hle w hw)
      · rw [if_neg hx] at h
        subst h
        refine ⟨⟨y, .tail _ hy, hyd⟩, fun w hw => ?_⟩
        cases hw with
        | head => exact Int.le_of_lt (Int.not_le.mp hx)
        | tail _ hw => exact hle w hw

theorem wakeAll_released (ws : List Writer) : ∀ (t : T) (flags : List Bool),
    t.closing = true → t.canSend = true → (t.wakeAll ws flags).1 = t := by
  induction ws with
  | nil => intro t flags _ _; rfl
  | cons w ws ih =>
    intro t flags hc hcs
    have hdw : (t.doWrite w.msg (headFlag flags).1).1 = t := by unfold T.doWrite; rw [if_pos hc]
    unfold T.wakeAll
    rw [hcs, Bool.not_true, Bool.and_false, if_neg Bool.false_ne_true, hdw]
    exact ih t _ hc hcs

theorem connectionLost_fst (t : T) : t.connectionLost.1 =
    { t with closing := true, lost := true, canSend := true, blocked := [] } :=
  wakeAll_released _ _ _ rfl rfl

theorem fire_due (t : T) (limit d : Int) (he : earliest t.blocked = some d) (hd : d ≤ limit) :
    (t.fire limit).1 =
      { t with now := limit, closing := true, lost := true, canSend := true, blocked := [] } := by
  unfold T.fire
  rw [he]
  simp only [if_pos hd, connectionLost_fst]
  rfl

theorem fire_idle (t : T) (limit : Int) (h : ∀ d, earliest t.blocked = some d → ¬ d ≤ limit) :
    (t.fire limit).1 = { t with now := limit } := by
  unfold T.fire
  cases he : earliest t.blocked with
  | none => rfl
  | some d => simp only [if_neg (h d he)]

theorem find_none_filter (l : List Writer) (m : Nat) (h : l.find? (·.msg == m) = none) :
    l.filter (·.msg != m) = l := by
  rw [List.filter_eq_self]
  intro a ha
  have := List.find?_eq_none.mp h a ha
  simpa using this

/-- **Cancelling a sender touches nothing but that sender**: the state after `cancel m` is the
state before with the writer of `m` (if it was blocked) taken out of the waiting list - the wire,
the flags, the clock and every other blocked sender (and their order and timers) are as before -
and the only observation is that sender's `CancelledError`. -/
theorem cancel_others_unaffected (t : T) (m : Nat) :
    (step t (.cancel m)).1 = { t with blocked := t.blocked.filter (·.msg != m) } ∧
    (∀ o ∈ (step t (.cancel m)).2, ∃ s, o = Obs.cancelled s m) := by
  simp only [step]
  cases hf : t.blocked.find? (·.msg == m) with
  | none => exact ⟨by rw [find_none_filter _ _ hf], List.forall_mem_nil _⟩
  | some w => exact ⟨rfl, fun o ho => ⟨w.sender, List.mem_singleton.mp ho⟩⟩

/-- The atomic changes, from configuration `(t, q)` to `(t', q')`; `q` are the tasks that are
runnable but have not run yet, in the order in which the loop will run them.  The first five are
what the environment does without the loop running, the next three are the head of the queue
running (`write()` after the wait), the last four happen only while nothing is runnable.  Those of
`pass` and `lose` aside, a guard is there if some invariant needs it.  `one = true`:
`resume_writing()` is called only while no task is runnable, i.e. every event is followed by
running the loop to idle. -/
inductive Small (one : Bool) : T → List Writer → T → List Writer → Prop
  | send {t q} (s m : Nat) : m ∉ t.used →
    Small one t q (t.use m) (q ++ [⟨s, m, t.now + t.maxDelay⟩])
  | pause {t q} : t.closing = false →
    Small one t q { t with tPaused := true, canSend := false, reading := false } q
  | pauseClosing {t q} : t.closing = true → Small one t q { t with tPaused := true } q
  | unpause {t q} : t.tPaused = true → t.canSend = true →
    Small one t q { t with tPaused := false } q
  | resume {t q} : (one = true → q = []) → Small one t q t.resumed (q ++ t.blocked)
  /-- the task finds `_can_send` clear and waits (again) -/
  | block {t} (w ws) : t.canSend = false →
    Small one t (w :: ws) { t with blocked := t.blocked ++ [w] } ws
  /-- the task writes; the repaired `write()` only after it has seen `_can_send` set -/
  | write {t} (w ws) : t.closing = false → (t.fixed = true → t.canSend = true) →
    Small one t (w :: ws) (t.written w.msg) ws
  /-- the task finds the transport closing and returns without writing -/
  | pass {t} (w ws) : t.closing = true → Small one t (w :: ws) t ws
  /-- senders leave the waiting list (cancelled) -/
  | drop {t} (p : Writer → Bool) : Small one t [] { t with blocked := t.blocked.filter p } []
  | close {t} : Small one t [] { t with closing := true } []
  /-- `connection_lost` is delivered, at time `n` -/
  | lose {t} (n : Int) : t.now ≤ n → Small one t []
      { t with now := n, closing := true, lost := true, canSend := true, blocked := [] } []
  /-- time passes and no timer is due -/
  | wait {t} (n : Int) : t.now ≤ n → (∀ w ∈ t.blocked, n < w.deadline) →
    Small one t [] { t with now := n } []

theorem Small.fixed {one : Bool} {t t' : T} {q q' : List Writer} (hs : Small one t q t' q') :
    t'.fixed = t.fixed := by
  cases hs <;> rfl

section Closure

variable {one : Bool} {C : T → List Writer → Prop}
  (hC : ∀ {t q t' q'}, Small one t q t' q' → C t q → C t' q')
include hC

theorem pause_inv {t : T} {q : List Writer} (h : C t q) : C t.pause.1 q := by
  unfold T.pause
  by_cases hp : t.tPaused = true
  · rw [if_pos hp]; exact h
  · rw [if_neg hp]
    by_cases hc : t.closing = true
    · rw [if_pos hc]; exact hC (.pauseClosing hc) h
    · rw [if_neg hc]; exact hC (.pause (Bool.eq_false_iff.mpr hc)) h

theorem doWrite_inv {t : T} {w : Writer} {ws : List Writer} (h : C t (w :: ws)) (f : Bool)
    (hg : t.fixed = true → t.canSend = true) : C (t.doWrite w.msg f).1 ws := by
  unfold T.doWrite
  by_cases hc : t.closing = true
  · rw [if_pos hc]; exact hC (.pass w ws hc) h
  · rw [if_neg hc]
    have hw := hC (.write w ws (Bool.eq_false_iff.mpr hc) hg) h
    cases f
    · exact hw
    · exact pause_inv hC hw

theorem wakeAll_inv (ws : List Writer) : ∀ (t : T) (flags : List Bool),
    C t ws → C (t.wakeAll ws flags).1 [] := by
  induction ws with
  | nil => intro t flags h; exact h
  | cons w ws ih =>
    intro t flags h
    unfold T.wakeAll
    by_cases hc : (t.fixed && !t.canSend) = true
    · rw [if_pos hc]
      refine ih _ _ (hC (.block w ws ?_) h)
      cases hcs : t.canSend
      · rfl
      · rw [hcs, Bool.not_true, Bool.and_false] at hc; cases hc
    · rw [if_neg hc]
      refine ih _ _ (doWrite_inv hC h _ fun hf => ?_)
      cases hcs : t.canSend
      · rw [hf, hcs] at hc; exact absurd rfl hc
      · rfl

theorem syncAct_inv {t : T} {q : List Writer} (a : Act) (hq : one = true → q = [])
    (h : C t q) : C (t.syncAct q a).1 (t.syncAct q a).2.1 := by
  cases a with
  | send s m =>
    simp only [T.syncAct]
    by_cases hu : t.used.contains m = true
    · rw [if_pos hu]; exact h
    · rw [if_neg hu]; exact hC (.send s m (by simpa using hu)) h
  | pause => exact pause_inv hC h
  | resume =>
    simp only [T.syncAct]
    by_cases hp : (!t.tPaused) = true
    · rw [if_pos hp]; exact h
    · rw [if_neg hp]
      by_cases hcs : t.canSend = true
      · rw [if_pos hcs]; exact hC (.unpause (by simpa using hp) hcs) h
      · rw [if_neg hcs]; exact hC (.resume hq) h

theorem sync_inv (hone : one = false) (acts : List Act) : ∀ (t : T) (q : List Writer),
    C t q → C (t.sync q acts).1 (t.sync q acts).2.1 := by
  induction acts with
  | nil => intro t q h; exact h
  | cons a as ih =>
    intro t q h
    exact ih _ _ (syncAct_inv hC a (fun h1 => by rw [hone] at h1; cases h1) h)

theorem connectionLost_inv {t : T} (h : C t []) : C t.connectionLost.1 [] := by
  rw [connectionLost_fst]; exact hC (.lose t.now (Int.le_refl _)) h

theorem fire_inv {t : T} (limit : Int) (hl : t.now ≤ limit) (h : C t []) :
    C (t.fire limit).1 [] := by
  by_cases hd : ∃ d, earliest t.blocked = some d ∧ d ≤ limit
  · obtain ⟨d, he, hd⟩ := hd
    rw [fire_due t limit d he hd]; exact hC (.lose limit hl) h
  · rw [fire_idle t limit fun d he hdl => hd ⟨d, he, hdl⟩]
    refine hC (.wait limit hl fun w hw => ?_) h
    cases he : earliest t.blocked with
    | none => rw [earliest_none _ he] at hw; cases hw
    | some d =>
      have := (earliest_spec _ d he).2 w hw
      have : ¬ d ≤ limit := fun hdl => hd ⟨d, he, hdl⟩
      omega

theorem step_inv (t : T) (e : Event) (he : one = true → e.simple = true) (h : C t []) :
    C (step t e).1 [] := by
  cases e with
  | send s m flags =>
    simp only [step]
    by_cases hu : t.used.contains m = true
    · rw [if_pos hu]; exact h
    · rw [if_neg hu]
      have h1 : C (t.use m) [⟨s, m, t.now + t.maxDelay⟩] := hC (.send s m (by simpa using hu)) h
      by_cases hcs : t.canSend = true
      · rw [if_pos hcs]; exact doWrite_inv hC h1 _ fun _ => hcs
      · rw [if_neg hcs]; exact hC (.block _ _ (Bool.eq_false_iff.mpr hcs)) h1
  | pause => exact pause_inv hC h
  | resume flags =>
    simp only [step]
    by_cases hp : (!t.tPaused) = true
    · rw [if_pos hp]; exact h
    · rw [if_neg hp]
      by_cases hcs : t.canSend = true
      · rw [if_pos hcs]; exact hC (.unpause (by simpa using hp) hcs) h
      · rw [if_neg hcs]; exact wakeAll_inv hC _ _ _ (hC (.resume fun _ => rfl) h)
  | lost =>
    simp only [step]
    by_cases hl : t.lost = true
    · rw [if_pos hl]; exact h
    · rw [if_neg hl]; exact connectionLost_inv hC h
  | advance dt => exact fire_inv hC _ (by omega) h
  | cancel m => rw [(cancel_others_unaffected t m).1]; exact hC (.drop _) h
  | gclose pending =>
    simp only [step]
    by_cases hl : t.lost = true
    · rw [if_pos hl]; exact h
    · rw [if_neg hl]
      by_cases hp : (pending && !t.wire.isEmpty) = true
      · rw [if_pos hp]; exact hC .close h
      · rw [if_neg hp]; exact connectionLost_inv hC h
  | batch acts flags =>
    have hone : one = false := by
      cases one
      · rfl
      · exact nomatch he rfl
    exact wakeAll_inv hC _ _ _ (sync_inv hC hone acts t [] h)

theorem run_inv (es : List Event) : ∀ (t : T), (one = true → ∀ e ∈ es, e.simple = true) →
    C t [] → C (run t es).1 [] := by
  induction es with
  | nil => intro t _ h; exact h
  | cons e es ih =>
    intro t hs h
    exact ih _ (fun h1 x hx => hs h1 x (.tail _ hx))
      (step_inv hC t e (fun h1 => hs h1 e (.head _)) h)

end Closure

/-- `run_inv` when batches are allowed -/
theorem run_inv_false {C : T → List Writer → Prop}
    (hC : ∀ {t q t' q'}, Small false t q t' q' → C t q → C t' q') (es : List Event) (t : T)
    (h : C t []) : C (run t es).1 [] :=
  run_inv hC es t (fun h => Bool.noConfusion h) h

end Aiorpcx.C15
