import Aiorpcx.C15.Order
import Aiorpcx.Facts.C15
/-!
# C15 — back-pressure: blocked sends wait, go out whole once; a stalled peer is aborted

Model: `Aiorpcx.C15.step` (`Model.lean`).  All theorems are over **every** finite sequence of
events send / pause / resume / link lost / time passes / cancel a sender / graceful close (with or
without unsent data, i.e. `is_closing()` true with `connection_lost` still outstanding) / batch
(sends, pauses and resumes performed back to back before the loop runs again: a sender that is
already runnable when `resume_writing()` sets the event runs before the woken writers), with any
number of concurrent senders and any high-water script (the transport may re-pause inside any
write), from the initial state of the tree as repaired for F14 (`fixed = true`).

A message is an id (its size is abstracted): that the bytes of one message reach the asyncio
transport in one piece is the source fact `facts_write_atomic` plus the stream-level oracle of the
harness, not a theorem about the model.
-/
namespace Aiorpcx.C15

def init (maxDelay : Int) : T := { maxDelay := maxDelay }

theorem finv_init (d : Int) : FInv (init d) :=
  ⟨List.forall_mem_nil _, fun _ => ⟨rfl, rfl⟩, fun h => Bool.noConfusion h,
   fun h => Bool.noConfusion h, fun h => absurd rfl h, fun h => Bool.noConfusion h⟩

theorem minv_init (d : Int) (hd : 0 < d) : MInv (init d) :=
  ⟨List.forall_mem_nil _, List.forall_mem_nil _, .nil, .nil, List.forall_mem_nil _, hd,
   List.forall_mem_nil _⟩

/-- **Nothing is written while the transport reports its send buffer full**: in every run,
every write handed to the asyncio transport happened while it was not paused - also when the
transport re-pauses from inside an earlier write of the same wake-up (F14). -/
theorem nothing_written_while_paused (d : Int) (es : List Event) :
    ∀ w ∈ (run (init d) es).1.writes, w.2 = false :=
  (finv_run es (init d) rfl (finv_init d)).noPausedWrite

/-- **Reading follows writing**: while the connection is up (not closing), reading from the peer
is paused exactly while sending is. -/
theorem reading_tracks_writing (d : Int) (es : List Event)
    (h : (run (init d) es).1.closing = false) :
    (run (init d) es).1.reading = !(run (init d) es).1.tPaused := by
  have := (finv_run es (init d) rfl (finv_init d)).track h
  rw [this.2, this.1]

/-- **When room is reported nobody stays blocked**: at every quiescent point at which the
transport does not have the protocol paused, no sender is waiting (also after a cancellation,
and also while a close is pending). -/
theorem room_means_nobody_blocked (d : Int) (es : List Event)
    (h : (run (init d) es).1.tPaused = false) : (run (init d) es).1.blocked = [] := by
  have hinv := finv_run es (init d) rfl (finv_init d)
  cases hb : (run (init d) es).1.blocked with
  | nil => rfl
  | cons w ws =>
    have h1 := hinv.clearPaused (hinv.waiting (hb ▸ List.cons_ne_nil _ _))
    rw [h] at h1; cases h1

example : (run (init 20) [.pause, .send 1 1 [], .send 2 2 [], .cancel 1, .resume []]).1.blocked = []
    ∧ (run (init 20) [.pause, .send 1 1 [], .send 2 2 [], .cancel 1, .resume []]).1.wire = [2] := by
  decide +kernel

/-- **A lost connection releases every blocked sender** (nobody is left hanging): once
`connection_lost` has been delivered - after a link drop, an abort, or a graceful close that
completed - no sender is blocked, and the transport is closing. -/
theorem loss_releases_writers (d : Int) (es : List Event)
    (h : (run (init d) es).1.lost = true) :
    (run (init d) es).1.blocked = [] ∧ (run (init d) es).1.closing = true :=
  ⟨((finv_run es (init d) rfl (finv_init d)).released h).2,
   (finv_run es (init d) rfl (finv_init d)).lostClosing h⟩

/-- a pending graceful close does *not* release anybody: the senders stay blocked (with their
timers) until the loss is delivered -/
example :
    let t := (run (init 20) [.send 1 1 [true], .send 2 2 [], .gclose true]).1
    t.closing = true ∧ t.lost = false ∧ msgs t.blocked = [2] := by decide +kernel

/-- **Nothing is written once the transport is closing** - from the moment `is_closing()` is
true (own graceful close, still pending or not; abort; loss) the wire never changes again,
whatever events follow, and `is_closing()` stays true. -/
theorem nothing_written_once_closing (es : List Event) : ∀ (t : T), t.closing = true →
    (run t es).1.wire = t.wire ∧ (run t es).1.closing = true :=
  fun t h => ((grows_run es t).closing h).symm

example :
    (run (init 20) [.send 1 1 [true], .send 2 2 [], .gclose true, .resume [], .send 3 3 []]).1.wire
      = [1] := by decide +kernel

/-- **Whole, exactly once**: the wire never carries a message twice, carries only messages that
some sender passed in, and a message still waiting to be written is not on the wire yet.
(Messages are atomic in the model because `write()` frames and hands over the bytes in one call
with no suspension point in between - see `facts_write_atomic` and the stream-level oracle of the
correspondence.) -/
theorem whole_once (d : Int) (hd : 0 < d) (es : List Event) :
    (run (init d) es).1.wire.Nodup ∧
    (∀ m ∈ (run (init d) es).1.wire, m ∈ (run (init d) es).1.used) ∧
    (∀ m ∈ msgs (run (init d) es).1.blocked, m ∉ (run (init d) es).1.wire) :=
  let h := minv_run es (init d) (minv_init d hd)
  ⟨h.wireNodup, h.wireUsed, h.disjoint⟩

/-- **Order (what the property text asks)**: messages one task sends one after another keep
their order - for every event sequence, batches included: once the send of `a` is over (`a` was
handed to a send and is not waiting any more) a message `b` that is sent later never gets onto
the wire in front of `a`.  `used` never repeats a message id. -/
theorem task_order (d : Int) (hd : 0 < d) (es es' : List Event) (a b : Nat)
    (ha : a ∈ (run (init d) es).1.used) (hdone : a ∉ msgs (run (init d) es).1.blocked)
    (hb : b ∉ (run (init d) es).1.used) :
    ¬ [b, a].Sublist (run (run (init d) es).1 es').1.wire ∧
    (run (run (init d) es).1 es').1.used.Nodup :=
  ⟨task_order_aux _ es' a b (minv_run es (init d) (minv_init d hd)) ha hdone hb,
   (grows_run es' _).usedNodup ((grows_run es (init d)).usedNodup .nil)⟩

/-- non-vacuity: sender 1 sends 1, then (after it went out) 2, which has to wait; both are on the
wire in that order although another sender's message went out in between -/
example :
    let t := (run (init 20) [.send 1 1 [true], .send 2 5 []]).1
    1 ∈ t.used ∧ 1 ∉ msgs t.blocked ∧ 2 ∉ t.used ∧
    (run t [.send 1 2 [], .batch [.send 3 3, .resume] [], .resume []]).1.wire = [1, 3, 5, 2] := by
  decide +kernel

/-- **Arrival order**, as long as every event is followed by running the loop to idle (no
batch): the wire carries the messages in the order in which they were handed to a send: blocked
senders are served first-in first-out, also across re-pauses, time-outs and cancellations of
others, and nobody overtakes a waiting sender.  (Stronger than the property text; it is what
`asyncio.Event` gives at quiescent points.) -/
theorem in_order (d : Int) (es : List Event) (hs : ∀ e ∈ es, e.simple = true) :
    (run (init d) es).1.wire.Sublist (run (init d) es).1.used ∧
    (∀ a b, [a, b].Sublist (run (init d) es).1.wire → [a, b].Sublist (run (init d) es).1.used) := by
  have h : OInv (run (init d) es).1 [] := oinv_run es (init d) hs rfl (finv_init d) (.refl [])
  have hw := ((List.sublist_append_left _ _).trans (List.sublist_append_left _ _)).trans h
  exact ⟨hw, fun a b hab => hab.trans hw⟩

/-- three senders queue up, the transport re-pauses inside the first write, the second sender
is cancelled, the third one is written after the next resume: order of the send calls -/
example :
    (run (init 20) [.pause, .send 1 1 [], .send 2 2 [], .send 3 3 [], .resume [true], .cancel 2,
      .send 4 4 [], .resume []]).1.wire = [1, 3, 4] := by decide +kernel

/-- ... and why `in_order` needs "no batch": sender 2 is already runnable when the buffer
drains, runs before the woken sender 1, its write re-fills the buffer (flag), sender 1 checks
again and keeps waiting - nothing is written while paused, but 2 is on the wire before 1 -/
example :
    let r := run (init 20) [.pause, .send 1 1 [], .batch [.send 2 2, .resume] [true], .resume []]
    r.1.wire = [2, 1] ∧ r.1.used = [1, 2] ∧ r.1.writes = [(2, false), (1, false)] ∧
    r.2 = [[Obs.pauseReading], [Obs.blocked 1 1],
           [Obs.resumeReading, Obs.wrote 2 false, Obs.pauseReading, Obs.sendOk 2 2 0],
           [Obs.resumeReading, Obs.wrote 1 false, Obs.sendOk 1 1 0]] := by decide +kernel

/-- the buffer fills again before the woken writers have run (`batch [resume, pause]`): they all
check again, nobody writes, the waiting list and its order are as before -/
example :
    let t := (run (init 20) [.pause, .send 1 1 [], .send 2 2 [], .batch [.resume, .pause] []]).1
    t.wire = [] ∧ msgs t.blocked = [1, 2] ∧ t.canSend = false ∧ t.reading = false := by decide +kernel

/-- **A cancelled sender's message is written whole or not at all** - in the model: a sender
that is cancelled while blocked has written nothing (`whole_once`: a waiting message is not on
the wire), and after the cancellation its message never reaches the wire, whatever happens next.
(A sender that is not blocked has finished: its message went out whole, and `cancel` is a no-op.)
That the other senders are unaffected is `cancel_others_unaffected` (`Steps.lean`). -/
theorem cancelled_never_written (d : Int) (hd : 0 < d) (es : List Event) (m : Nat)
    (hm : m ∈ msgs (run (init d) es).1.blocked) (es' : List Event) :
    m ∉ (run (init d) es).1.wire ∧
    m ∉ (run (step (run (init d) es).1 (.cancel m)).1 es').1.wire := by
  have h := minv_run es (init d) (minv_init d hd)
  refine ⟨h.disjoint m hm, ?_⟩
  rw [(cancel_others_unaffected _ m).1]
  refine never_written es' _ m (h.blockedUsed m hm) (h.disjoint m hm) fun hx => ?_
  obtain ⟨w, hw, hwm⟩ := List.mem_map.mp hx
  have := (List.mem_filter.mp hw).2
  rw [hwm, bne_self_eq_false] at this
  cases this

example :
    (run (init 20) [.pause, .send 1 1 [], .send 2 2 [], .cancel 1, .resume [], .send 3 3 []]).2 =
      [[Obs.pauseReading], [Obs.blocked 1 1], [Obs.blocked 2 2], [Obs.cancelled 1 1],
       [Obs.resumeReading, Obs.wrote 2 false, Obs.sendOk 2 2 0],
       [Obs.wrote 3 false, Obs.sendOk 3 3 0]] := by decide +kernel

/-- **A stalled send does not outlive `max_send_delay`**: at every quiescent point - also while
a graceful close is pending (`closing ∧ ¬lost`) - every sender that is still blocked has been
waiting for less than `max_send_delay` (its timer is still ahead); when the timer comes due
(`T.fire`) the connection is aborted at exactly that instant (`stall_aborts`). -/
theorem nobody_blocked_past_delay (d : Int) (hd : 0 < d) (es : List Event) :
    ∀ w ∈ (run (init d) es).1.blocked,
      (run (init d) es).1.now < w.deadline ∧ w.deadline ≤ (run (init d) es).1.now + d := by
  have h := minv_run es (init d) (minv_init d hd)
  intro w hw
  have := h.timers w hw
  rw [(grows_run es (init d)).maxDelay] at this
  exact this

/-- non-vacuity in the state the pending close creates: closing, not lost, a sender still
blocked at time 19 with its timer at 20 -/
example :
    let t := (run (init 20) [.send 1 1 [true], .send 2 2 [], .gclose true, .advance 19]).1
    t.closing = true ∧ t.lost = false ∧ t.now = 19 ∧ t.blocked = [⟨2, 2, 20⟩] := by decide +kernel

/-- the abort happens at exactly the deadline of the stalled sender(s), each of which gets
`TaskTimeout`; afterwards the connection is lost (closing, `connection_lost` delivered, so by
`loss_releases_writers` everybody else is released).  `t` is *any* state - in particular one in
which a graceful close is already pending (`is_closing()` true): the abort is not skipped. -/
theorem stall_aborts (t : T) (limit dl : Int) (w : Writer) (he : earliest t.blocked = some dl)
    (hdue : dl ≤ limit) (hw : w ∈ t.blocked) (hwd : w.deadline = dl) :
    Obs.abort dl ∈ (t.fire limit).2 ∧ Obs.sendTimeout w.sender w.msg dl ∈ (t.fire limit).2 ∧
    Obs.lost ∈ (t.fire limit).2 ∧
    (t.fire limit).1.closing = true ∧ (t.fire limit).1.lost = true ∧
    (t.fire limit).1.blocked = [] := by
  have hs := fire_due t limit dl he hdue
  refine ⟨?_, ?_, ?_, by rw [hs], by rw [hs], by rw [hs]⟩
  all_goals unfold T.fire; simp only [he, hdue, ↓reduceIte]
  · exact List.mem_append_left _ (List.mem_flatMap.mpr
      ⟨w, List.mem_filter.mpr ⟨hw, beq_iff_eq.mpr hwd⟩, .head _⟩)
  · exact List.mem_append_left _ (List.mem_flatMap.mpr
      ⟨w, List.mem_filter.mpr ⟨hw, beq_iff_eq.mpr hwd⟩, .tail _ (.head _)⟩)
  · exact List.mem_append_right _ (.head _)

/-- the same over runs: whenever time passes up to or beyond the earliest deadline of a blocked
sender - in any reachable state, closing or not - that step contains the abort at that deadline -/
theorem stall_aborts_run (d : Int) (es : List Event) (dt : Nat) (dl : Int)
    (he : earliest (run (init d) es).1.blocked = some dl)
    (hdue : dl ≤ (run (init d) es).1.now + dt) :
    Obs.abort dl ∈ (step (run (init d) es).1 (.advance dt)).2 ∧
    (step (run (init d) es).1 (.advance dt)).1.lost = true := by
  obtain ⟨w, hw, hwd⟩ := (earliest_spec _ _ he).1
  have := stall_aborts (run (init d) es).1 ((run (init d) es).1.now + dt) dl w he hdue hw hwd
  exact ⟨this.1, this.2.2.2.2.1⟩

/-- non-vacuity of the stall theorem while a graceful close is pending: message 1 is in the
transport's buffer, the peer stalls, sender 2 is blocked, somebody closes the session (closing, no
loss yet); at 20 sender 2's timer aborts the connection -/
example :
    (run (init 20) [.send 1 1 [true], .send 2 2 [], .gclose true, .advance 30]).2.getLast? =
      some [Obs.abort 20, Obs.sendTimeout 2 2 20, Obs.lost] := by decide +kernel

/-- non-vacuity of the stall theorem: two senders stalled from time 0, aborted at exactly 20 -/
example :
    (run (init 20) [.pause, .send 1 1 [], .advance 5, .send 2 2 [], .advance 30]).2.getLast? =
      some [Obs.abort 20, Obs.sendTimeout 1 1 20, Obs.lost, Obs.sendOk 2 2 20] := by decide +kernel

def protoRow (closing cs : Bool) : Facts.C15.Row :=
  let t : T := { closing := closing, canSend := cs, reading := true }
  let p := t.pause
  let r := step { t with tPaused := true } (.resume [])
  let l := t.connectionLost
  ⟨closing, cs, p.1.canSend, p.2 == [Obs.pauseReading], p.2 == [],
   r.1.canSend, r.2 == [Obs.resumeReading], r.2 == [], l.1.canSend, true⟩

/-- the decision tables of the real `pause_writing` / `resume_writing` / `connection_lost`
(both transports, run on a stub each check) are the model's - `closing` rows included: on a
closing transport `pause_writing` does nothing and `resume_writing` still sets the event and
resumes reading; `max_send_delay` is positive -/
theorem facts_protocol_tables :
    Facts.C15.tableRS = [protoRow false false, protoRow false true, protoRow true false, protoRow true true] ∧
    Facts.C15.tableUS = Facts.C15.tableRS ∧
    0 < Facts.C15.maxSendDelayMs :=
  ⟨by decide +kernel, by decide +kernel, by decide +kernel⟩

/-! ### The write path, step by step

The real `write()` coroutine of both transports is driven with `coro.send(None)` on recording
stubs (tools/facts/c15.py `write_traces`) through six scenarios.  The model replays each scenario
as events; a writer's step is read off the step's observations: `wrote m` = `frame` + one
`transport.write` of exactly the framed bytes, a `pauseReading` *after* a write in the same step =
the transport re-paused from inside that write, `sendOk` = the coroutine finished. -/

open Facts.C15 (WCall) in
/-- the calls of the writer(s) in one model step (what the environment itself does before any
writer runs - `pause_reading` of a `pause`, `resume_reading` - is not a writer's call) -/
def wcalls : Bool → List Obs → List WCall
  | _, [] => []
  | _, Obs.wrote _ _ :: os => WCall.frame :: WCall.writeFramed :: wcalls true os
  | true, Obs.pauseReading :: os => WCall.pauseReading :: wcalls true os
  | w, _ :: os => wcalls w os

def isSendOk : Obs → Bool
  | .sendOk _ _ _ => true
  | _ => false

/-- replay: events flagged `true` are steps of the (single) writer -/
def modelTrace (t : T) : List (Event × Bool) → List (List Facts.C15.WCall × Bool)
  | [] => []
  | (e, w) :: es =>
    if w then (wcalls false (step t e).2, (step t e).2.any isSendOk) :: modelTrace (step t e).1 es
    else modelTrace (step t e).1 es

/-- the six scenarios of `tools/facts/c15.py` as model events -/
def writeScenarios : List (List (Event × Bool)) := [
  -- room
  [(.send 1 1 [], true)],
  -- wait_then_room
  [(.pause, false), (.send 1 1 [], true), (.resume [], true)],
  -- repaused_before_the_woken_writer_runs: resume and pause back to back, then the writer runs
  [(.pause, false), (.send 1 1 [], true), (.batch [.resume, .pause] [], true), (.resume [], true)],
  -- closing
  [(.lost, false), (.send 1 1 [], true)],
  -- lost_while_waiting
  [(.pause, false), (.send 1 1 [], true), (.lost, true)],
  -- transport_pauses_inside_the_write
  [(.send 1 1 [true], true)]]

/-- **The write path of the source is the model's**, step by step and on both transports: one
`frame` and one `transport.write` of exactly the framed bytes per message, in the same step (no
suspension point between them - the justification for modelling a message as an atomic id); a
writer that is woken re-checks and waits again if the transport has re-paused in the meantime;
nothing is framed or written on a closing transport; a writer released by the loss returns
without writing. -/
theorem facts_write_atomic :
    Facts.C15.writeTraceRS = writeScenarios.map (modelTrace (init 20)) ∧
    Facts.C15.writeTraceUS = Facts.C15.writeTraceRS :=
  ⟨by decide +kernel, by decide +kernel⟩

/-- **Every kind of sender is subject to `max_send_delay`**: a notification, a request, the
response to an incoming request, a batch with a request in it, a batch of notifications only,
and the error reply to an undecodable message, each blocked on a full send buffer, get the
connection aborted at exactly the delay (real session + transport protocol on the fake asyncio
transport through the public API, both transports, run each check).  An empty batch is not a
sender: the API refuses it and writes nothing. -/
theorem facts_single_write_path :
    Facts.C15.sendersBounded = [true, true, true, true, true, true] ∧
    Facts.C15.emptyBatchRefused = true := ⟨by decide +kernel, by decide +kernel⟩

def isAbort : Obs → Bool
  | .abort _ => true
  | _ => false

/-- what the model says about a sender blocked since time 0 in the state reached by `pre` -/
def stallRow (pre : List Event) : Facts.C15.StallRow :=
  let t := (run (init 20) pre).1
  let r := step t (.advance 25)
  ⟨!t.blocked.isEmpty, t.closing, t.lost, (r.2.filter isAbort).length == 1,
   r.2.contains (Obs.abort 20), r.2.contains (Obs.sendTimeout 2 2 20), r.1.lost⟩

/-- **The stall abort, run**: the real `_send_message` blocked on a full buffer is released by
exactly one `abort()` of the asyncio transport at exactly `max_send_delay`, ends with
`TaskTimeout`, and the loss is delivered - with the connection up, and equally with a graceful
close pending on unsent data (`is_closing()` true, `connection_lost` outstanding): the rows are
the model's (`T.fire`).  `transport.abort()` reaches the asyncio transport also when closing. -/
theorem facts_stall_abort :
    Facts.C15.stallRS = [stallRow [.pause, .send 2 2 []],
                         stallRow [.send 1 1 [true], .send 2 2 [], .gclose true]] ∧
    Facts.C15.stallUS = Facts.C15.stallRS ∧
    Facts.C15.abortAborts = true :=
  ⟨by decide +kernel, by decide +kernel, by decide +kernel⟩

/-- **Graceful close**: `transport.close()` calls `close()` on the asyncio transport (the
`gclose` event: `is_closing()` true at once, the loss only once the send buffer is empty), and
`is_closing()` is "closed event set or asyncio transport closing" - the model's `closing`. -/
theorem facts_close :
    Facts.C15.closeCloses = true ∧ Facts.C15.isClosingIsOr = true :=
  ⟨by decide +kernel, by decide +kernel⟩

/-! ## F14: the pinned `write()` (`fixed = false`) -/

/-- with the pinned single `await self._can_send.wait()` three blocked senders are all released
by one `resume_writing`; the transport re-pauses inside the first write; the second and third
still write - while paused. -/
theorem nothing_written_while_paused_fails_pinned :
    ((run { fixed := false, maxDelay := 20 }
      [.pause, .send 1 1 [], .send 2 2 [], .send 3 3 [], .resume [true]]).1.writes) =
      [(1, false), (2, true), (3, true)] := by decide +kernel

/-- the same history on the repaired model: one write, two senders blocked again -/
example :
    let t := (run (init 20) [.pause, .send 1 1 [], .send 2 2 [], .send 3 3 [], .resume [true]]).1
    t.writes = [(1, false)] ∧ msgs t.blocked = [2, 3] ∧ t.reading = false := by decide +kernel

/-- the same pinned `write()` (no re-check after the wake-up) in the batch scenario: the writer
that was woken by the resume writes although a sender that ran before it has re-filled the
buffer -/
theorem nothing_written_while_paused_fails_pinned_batch :
    ((run { fixed := false, maxDelay := 20 }
      [.pause, .send 1 1 [], .batch [.send 2 2, .resume] [true]]).1.writes) =
      [(2, false), (1, true)] := by decide +kernel

end Aiorpcx.C15
