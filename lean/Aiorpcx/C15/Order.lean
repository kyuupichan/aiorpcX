import Aiorpcx.C15.Flags
import Aiorpcx.C15.Msgs
/-! C15: order.

(1) As long as every event is followed by running the loop to idle (no `batch` event), the wire
followed by the waiting list is a sub-sequence of the messages in the order in which they were
handed to a send (`used`): blocked senders are woken first-in first-out, a sender that has to wait
again goes behind nobody who came after it, and nobody overtakes a waiting sender (a send that
finds `_can_send` set finds nobody waiting) - `oinv_run`.

(2) That is NOT so in general, and the property text does not ask for it: a sender that is
already runnable when `resume_writing()` sets the event runs before the writers the event woke
(`batch [send, resume]`) and its message goes out first.  What the text asks - "messages one task
sends one after another keep their order" - holds for every event sequence: a message whose send
has completed is never behind a message that is sent later (`task_order_aux`). -/
namespace Aiorpcx.C15

/-- written, then waiting, then runnable: in the order of the send calls -/
def OInv (t : T) (q : List Writer) : Prop := (t.wire ++ msgs t.blocked ++ msgs q).Sublist t.used

/-- With `resume_writing()` only while no task is runnable, the order is kept: the woken writers
queue up in the order of the waiting list, which is empty when somebody writes. -/
theorem oinv_small {t t' : T} {q q' : List Writer} (hs : Small true t q t' q')
    (hfix : t.fixed = true) (hf : FInv t) (h : OInv t q) : OInv t' q' := by
  unfold OInv at h ⊢
  cases hs with
  | send s m _ =>
    rw [msgs_append, ← List.append_assoc]
    exact h.append (.refl _)
  | pause _ => exact h
  | pauseClosing _ => exact h
  | unpause _ _ => exact h
  | resume hq =>
    obtain rfl := hq rfl
    have h : (t.wire ++ msgs t.blocked ++ []).Sublist t.used := h
    show (t.wire ++ [] ++ msgs t.blocked).Sublist t.used
    rw [List.append_nil] at h ⊢
    exact h
  | block w ws _ =>
    rw [msgs_append, List.append_assoc, List.append_assoc] at *
    exact h
  | write w ws _ hg =>
    have hb := blocked_nil_of_canSend t hf (hg hfix)
    rw [hb, msgs_nil, List.append_nil] at h
    show (t.wire ++ [w.msg] ++ msgs t.blocked ++ msgs q').Sublist t.used
    rw [hb, msgs_nil, List.append_nil, List.append_assoc]
    exact h
  | pass w ws _ =>
    exact ((List.Sublist.refl _).append (List.sublist_cons_self _ _)).trans h
  | drop p =>
    exact (((List.Sublist.refl _).append (msgs_filter_sublist p _)).append (.refl _)).trans h
  | close => exact h
  | lose n _ =>
    exact (((List.Sublist.refl _).append (List.nil_sublist _)).append (.refl _)).trans h
  | wait n _ _ => exact h

theorem oinv_run (es : List Event) (t : T) (hs : ∀ e ∈ es, e.simple = true) (hfix : t.fixed = true)
    (hf : FInv t) (h : OInv t []) : OInv (run t es).1 [] :=
  (run_inv (C := fun t q => (t.fixed = true ∧ FInv t) ∧ OInv t q)
    (fun hs h => ⟨⟨hs.fixed.trans h.1.1, finv_small hs h.1.1 h.1.2⟩, oinv_small hs h.1.1 h.1.2 h.2⟩)
    es t (fun _ => hs) ⟨⟨hfix, hf⟩, h⟩).2

/-- `task_order` from any state satisfying `MInv`: `a` has been handed to a send and that send is
over (`a` is not waiting any more - it was written, or its sender timed out / was cancelled / the
connection went away), `b` has not been sent yet.  What is written later was pending or is new
(`run_wire`), and `a` is neither: if `a` is on the wire at all it was there before, and so was
whatever is in front of it. -/
theorem task_order_aux (t : T) (es : List Event) (a b : Nat) (hm : MInv t)
    (ha : a ∈ t.used) (hdone : a ∉ msgs t.blocked) (hb : b ∉ t.used) :
    ¬ [b, a].Sublist (run t es).1.wire := by
  obtain ⟨ext, hw, hsrc⟩ := run_wire es t
  rw [hw]
  intro hs
  obtain ⟨l₁, l₂, heq, h1, h2⟩ := List.sublist_append_iff.mp hs
  have hae : a ∉ ext := fun hx => (hsrc a hx).elim hdone fun h => h ha
  cases l₁ with
  | nil =>
    obtain rfl : l₂ = [b, a] := heq.symm
    exact hae (h2.subset (.tail _ (.head _)))
  | cons x xs =>
    injection heq with hx _
    exact hb (hm.wireUsed b (hx ▸ h1.subset (.head _)))

end Aiorpcx.C15
