import Aiorpcx.C15.Steps
/-! C15 invariants about messages (each accepted message goes onto the wire whole, at most once)
and about time (nobody stays blocked for `max_send_delay`), and what every run leaves alone
(`Grows`). -/
namespace Aiorpcx.C15

def msgs (l : List Writer) : List Nat := l.map (·.msg)

theorem msgs_nil : msgs [] = [] := rfl

theorem msgs_append (a b : List Writer) : msgs (a ++ b) = msgs a ++ msgs b := List.map_append

theorem mem_msgs_append {x : Nat} {a b : List Writer} :
    x ∈ msgs (a ++ b) ↔ x ∈ msgs a ∨ x ∈ msgs b := by
  rw [msgs_append, List.mem_append]

theorem mem_msgs_snoc {x : Nat} {l : List Writer} {w : Writer} :
    x ∈ msgs (l ++ [w]) ↔ x ∈ msgs l ∨ x = w.msg := by
  rw [mem_msgs_append]; exact or_congr_right List.mem_singleton

theorem msgs_filter_sublist (p : Writer → Bool) (l : List Writer) :
    (msgs (l.filter p)).Sublist (msgs l) :=
  List.Sublist.map _ List.filter_sublist

theorem mem_snoc {α} {x a : α} {l : List α} : x ∈ l ++ [a] ↔ x ∈ l ∨ x = a := by
  rw [List.mem_append, List.mem_singleton]

theorem forall_mem_snoc {α} {P : α → Prop} {l : List α} {a : α} (hl : ∀ x ∈ l, P x) (ha : P a) :
    ∀ x ∈ l ++ [a], P x :=
  fun x hx => (mem_snoc.mp hx).elim (hl x) fun h => h ▸ ha

theorem forall_msgs_snoc {P : Nat → Prop} {l : List Writer} {w : Writer} (hl : ∀ x ∈ msgs l, P x)
    (hw : P w.msg) : ∀ x ∈ msgs (l ++ [w]), P x :=
  fun x hx => (mem_msgs_snoc.mp hx).elim (hl x) fun h => h ▸ hw

theorem nodup_snoc {α} {a : α} {l : List α} (hl : l.Nodup) (ha : a ∉ l) : (l ++ [a]).Nodup :=
  List.nodup_append.mpr ⟨hl, List.nodup_cons.mpr ⟨List.not_mem_nil, .nil⟩,
    fun _ hx _ hy hxy => ha (List.mem_singleton.mp hy ▸ hxy ▸ hx)⟩

structure MInv (t : T) : Prop where
  wireUsed : ∀ m ∈ t.wire, m ∈ t.used
  blockedUsed : ∀ m ∈ msgs t.blocked, m ∈ t.used
  wireNodup : t.wire.Nodup
  blockedNodup : (msgs t.blocked).Nodup
  disjoint : ∀ m ∈ msgs t.blocked, m ∉ t.wire
  delayPos : 0 < t.maxDelay
  timers : ∀ w ∈ t.blocked, t.now < w.deadline ∧ w.deadline ≤ t.now + t.maxDelay

/-- the runnable senders (the queue of a configuration): as the waiting ones in `MInv`, and not
among them -/
structure Woken (t : T) (ws : List Writer) : Prop where
  used : ∀ m ∈ msgs ws, m ∈ t.used
  nodup : (msgs ws).Nodup
  notWire : ∀ m ∈ msgs ws, m ∉ t.wire
  notBlocked : ∀ m ∈ msgs ws, m ∉ msgs t.blocked
  timers : ∀ w ∈ ws, t.now < w.deadline ∧ w.deadline ≤ t.now + t.maxDelay

theorem woken_nil (t : T) : Woken t [] :=
  ⟨List.forall_mem_nil _, .nil, List.forall_mem_nil _, List.forall_mem_nil _, List.forall_mem_nil _⟩

theorem Woken.tail {t : T} {w : Writer} {ws : List Writer} (h : Woken t (w :: ws)) : Woken t ws :=
  ⟨fun m hm => h.used m (.tail _ hm), (List.nodup_cons.mp h.nodup).2,
   fun m hm => h.notWire m (.tail _ hm), fun m hm => h.notBlocked m (.tail _ hm),
   fun x hx => h.timers x (.tail _ hx)⟩

theorem minv_congr {t t' : T} {q : List Writer} (h : MInv t) (hq : Woken t q)
    (hw : t'.wire = t.wire) (hb : t'.blocked = t.blocked) (hu : t'.used = t.used)
    (hn : t'.now = t.now) (hd : t'.maxDelay = t.maxDelay) : MInv t' ∧ Woken t' q :=
  ⟨⟨hw ▸ hu ▸ h.wireUsed, hb ▸ hu ▸ h.blockedUsed, hw ▸ h.wireNodup, hb ▸ h.blockedNodup,
    hw ▸ hb ▸ h.disjoint, hd ▸ h.delayPos, hb ▸ hn ▸ hd ▸ h.timers⟩,
   ⟨hu ▸ hq.used, hq.nodup, hw ▸ hq.notWire, hb ▸ hq.notBlocked, hn ▸ hd ▸ hq.timers⟩⟩

theorem MInv.cleared {t t' : T} (h : MInv t) (hw : t'.wire = t.wire) (hu : t'.used = t.used)
    (hd : t'.maxDelay = t.maxDelay) (hb : t'.blocked = []) : MInv t' :=
  ⟨hw ▸ hu ▸ h.wireUsed, hb ▸ List.forall_mem_nil _, hw ▸ h.wireNodup, hb ▸ List.nodup_nil,
   hb ▸ List.forall_mem_nil _, hd ▸ h.delayPos, hb ▸ List.forall_mem_nil _⟩

theorem minv_small {one : Bool} {t t' : T} {q q' : List Writer} (hs : Small one t q t' q')
    (h : MInv t) (hq : Woken t q) : MInv t' ∧ Woken t' q' := by
  cases hs with
  | send s m hm =>
    have hd := h.delayPos
    refine ⟨⟨fun x hx => List.mem_append_left _ (h.wireUsed x hx),
      fun x hx => List.mem_append_left _ (h.blockedUsed x hx), h.wireNodup, h.blockedNodup,
      h.disjoint, h.delayPos, h.timers⟩,
      ⟨forall_msgs_snoc (fun x hx => List.mem_append_left _ (hq.used x hx))
        (List.mem_append_right _ (.head _)), ?_,
      forall_msgs_snoc hq.notWire fun hw => hm (h.wireUsed _ hw),
      forall_msgs_snoc hq.notBlocked fun hb => hm (h.blockedUsed _ hb),
      forall_mem_snoc hq.timers ⟨show t.now < t.now + t.maxDelay by omega, Int.le_refl _⟩⟩⟩
    rw [msgs_append]; exact nodup_snoc hq.nodup fun hx => hm (hq.used m hx)
  | pause _ => exact minv_congr h hq rfl rfl rfl rfl rfl
  | pauseClosing _ => exact minv_congr h hq rfl rfl rfl rfl rfl
  | unpause _ _ => exact minv_congr h hq rfl rfl rfl rfl rfl
  | resume _ =>
    refine ⟨h.cleared rfl rfl rfl rfl,
      ⟨fun x hx => ?_, ?_, fun x hx => ?_, fun _ _ => List.not_mem_nil, fun x hx => ?_⟩⟩
    · exact (mem_msgs_append.mp hx).elim (hq.used x) (h.blockedUsed x)
    · rw [msgs_append, List.nodup_append]
      exact ⟨hq.nodup, h.blockedNodup, fun a ha b hb hab => hq.notBlocked a ha (hab ▸ hb)⟩
    · exact (mem_msgs_append.mp hx).elim (hq.notWire x) (h.disjoint x)
    · exact (List.mem_append.mp hx).elim (hq.timers x) (h.timers x)
  | block w ws _ =>
    have hw := List.nodup_cons.mp hq.nodup
    refine ⟨⟨h.wireUsed, forall_msgs_snoc h.blockedUsed (hq.used _ (.head _)), h.wireNodup, ?_,
      forall_msgs_snoc h.disjoint (hq.notWire _ (.head _)), h.delayPos,
      forall_mem_snoc h.timers (hq.timers _ (.head _))⟩,
      ⟨hq.tail.used, hw.2, hq.tail.notWire, fun x hx hb => ?_, hq.tail.timers⟩⟩
    · rw [msgs_append]; exact nodup_snoc h.blockedNodup (hq.notBlocked _ (.head _))
    · rcases mem_msgs_snoc.mp hb with hb | rfl
      · exact hq.tail.notBlocked x hx hb
      · exact hw.1 hx
  | write w ws _ _ =>
    have hw := List.nodup_cons.mp hq.nodup
    refine ⟨⟨forall_mem_snoc h.wireUsed (hq.used _ (.head _)), h.blockedUsed,
      nodup_snoc h.wireNodup (hq.notWire _ (.head _)),
      h.blockedNodup, fun x hx hxw => ?_, h.delayPos, h.timers⟩,
      ⟨hq.tail.used, hw.2, fun x hx hxw => ?_, hq.tail.notBlocked, hq.tail.timers⟩⟩
    · rcases mem_snoc.mp hxw with hxw | rfl
      · exact h.disjoint x hx hxw
      · exact hq.notBlocked _ (.head _) hx
    · rcases mem_snoc.mp hxw with hxw | rfl
      · exact hq.tail.notWire x hx hxw
      · exact hw.1 hx
  | pass w ws _ => exact ⟨h, hq.tail⟩
  | drop p =>
    have hsub := msgs_filter_sublist p t.blocked
    exact ⟨⟨h.wireUsed, fun x hx => h.blockedUsed x (hsub.subset hx), h.wireNodup,
      h.blockedNodup.sublist hsub, fun x hx => h.disjoint x (hsub.subset hx), h.delayPos,
      fun x hx => h.timers x (List.mem_filter.mp hx).1⟩, woken_nil _⟩
  | close => exact minv_congr h hq rfl rfl rfl rfl rfl
  | lose n _ =>
    exact ⟨h.cleared rfl rfl rfl rfl, woken_nil _⟩
  | wait n hn hd =>
    refine ⟨⟨h.wireUsed, h.blockedUsed, h.wireNodup, h.blockedNodup, h.disjoint, h.delayPos,
      fun x hx => ⟨hd x hx, ?_⟩⟩, woken_nil _⟩
    have := (h.timers x hx).2
    show x.deadline ≤ n + t.maxDelay
    omega

theorem minv_run (es : List Event) (t : T) (h : MInv t) : MInv (run t es).1 :=
  (run_inv_false (C := fun t q => MInv t ∧ Woken t q)
    (fun hs h => minv_small hs h.1 h.2) es t ⟨h, woken_nil t⟩).1

/-- From configuration `(t, q)` to `(t', q')`, whatever the flags: the delay is as configured, a
closing transport stays closing and its wire is final, `used` only grows and stays free of
repetitions, what is pending (waiting or runnable) was pending or had not been sent before, and
the wire grows at its end, by such messages. -/
structure Grows (t : T) (q : List Writer) (t' : T) (q' : List Writer) : Prop where
  maxDelay : t'.maxDelay = t.maxDelay
  closing : t.closing = true → t'.closing = true ∧ t'.wire = t.wire
  usedNodup : t.used.Nodup → t'.used.Nodup
  used : ∀ x ∈ t.used, x ∈ t'.used
  pending : ∀ x ∈ msgs (t'.blocked ++ q'), x ∈ msgs (t.blocked ++ q) ∨ x ∉ t.used
  wire : ∃ ext, t'.wire = t.wire ++ ext ∧ ∀ x ∈ ext, x ∈ msgs (t.blocked ++ q) ∨ x ∉ t.used

theorem Grows.refl (t : T) (q : List Writer) : Grows t q t q :=
  ⟨rfl, fun h => ⟨h, rfl⟩, id, fun _ => id, fun _ => Or.inl, [], (List.append_nil _).symm,
   List.forall_mem_nil _⟩

theorem Grows.trans {t t' t'' : T} {q q' q'' : List Writer} (h₁ : Grows t q t' q')
    (h₂ : Grows t' q' t'' q'') : Grows t q t'' q'' := by
  have old (x : Nat) (hx : x ∈ msgs (t'.blocked ++ q') ∨ x ∉ t'.used) :
      x ∈ msgs (t.blocked ++ q) ∨ x ∉ t.used :=
    hx.elim (h₁.pending x) fun hx => Or.inr fun hu => hx (h₁.used x hu)
  obtain ⟨e₁, hw₁, hs₁⟩ := h₁.wire
  obtain ⟨e₂, hw₂, hs₂⟩ := h₂.wire
  refine ⟨h₂.maxDelay.trans h₁.maxDelay, fun hc => ?_, h₂.usedNodup ∘ h₁.usedNodup,
    fun x hx => h₂.used x (h₁.used x hx), fun x hx => old x (h₂.pending x hx), e₁ ++ e₂, ?_,
    fun x hx => (List.mem_append.mp hx).elim (hs₁ x) fun hx => old x (hs₂ x hx)⟩
  · obtain ⟨c₁, w₁⟩ := h₁.closing hc
    obtain ⟨c₂, w₂⟩ := h₂.closing c₁
    exact ⟨c₂, w₂.trans w₁⟩
  · rw [hw₂, hw₁, List.append_assoc]

/-- a change that neither writes nor accepts a message -/
theorem Grows.quiet {t t' : T} {q q' : List Writer} (hd : t'.maxDelay = t.maxDelay)
    (hc : t.closing = true → t'.closing = true) (hw : t'.wire = t.wire) (hu : t'.used = t.used)
    (hp : ∀ x ∈ msgs (t'.blocked ++ q'), x ∈ msgs (t.blocked ++ q)) : Grows t q t' q' :=
  ⟨hd, fun h => ⟨hc h, hw⟩, fun h => hu ▸ h, fun _ hx => hu ▸ hx, fun x hx => Or.inl (hp x hx), [],
   hw.trans (List.append_nil _).symm, List.forall_mem_nil _⟩

theorem mem_pending_cons {x : Nat} {b ws : List Writer} (w : Writer) (h : x ∈ msgs (b ++ ws)) :
    x ∈ msgs (b ++ w :: ws) :=
  mem_msgs_append.mpr ((mem_msgs_append.mp h).imp_right (.tail _))

theorem grows_small {one : Bool} {t t' : T} {q q' : List Writer} (hs : Small one t q t' q') :
    Grows t q t' q' := by
  cases hs with
  | send s m hm =>
    refine ⟨rfl, fun h => ⟨h, rfl⟩, fun h => nodup_snoc h hm, fun _ hx => List.mem_append_left _ hx,
      fun x hx => ?_, [], (List.append_nil _).symm, List.forall_mem_nil _⟩
    rw [← List.append_assoc] at hx
    exact (mem_msgs_snoc.mp hx).imp_right fun hx : x = m => hx ▸ hm
  | pause _ => exact .quiet rfl id rfl rfl fun _ => id
  | pauseClosing _ => exact .quiet rfl id rfl rfl fun _ => id
  | unpause _ _ => exact .quiet rfl id rfl rfl fun _ => id
  | resume _ =>
    refine .quiet rfl id rfl rfl fun x hx => ?_
    have hx : x ∈ msgs (q ++ t.blocked) := hx
    exact mem_msgs_append.mpr (mem_msgs_append.mp hx).symm
  | block w ws _ =>
    refine .quiet rfl id rfl rfl fun x hx => ?_
    rw [List.append_assoc] at hx
    exact hx
  | write w ws hc _ =>
    exact ⟨rfl, fun h => Bool.noConfusion (hc.symm.trans h), id, fun _ => id,
      fun x hx => Or.inl (mem_pending_cons w hx), [w.msg], rfl, fun x hx =>
        Or.inl (List.mem_singleton.mp hx ▸ mem_msgs_append.mpr (Or.inr (.head _)))⟩
  | pass w ws _ => exact .quiet rfl id rfl rfl fun x hx => mem_pending_cons w hx
  | drop p =>
    refine .quiet rfl id rfl rfl fun x hx => ?_
    rw [List.append_nil] at hx ⊢
    exact (msgs_filter_sublist p t.blocked).subset hx
  | close => exact .quiet rfl (fun _ => rfl) rfl rfl fun _ => id
  | lose n _ => exact .quiet rfl (fun _ => rfl) rfl rfl (List.forall_mem_nil _)
  | wait n _ _ => exact .quiet rfl id rfl rfl fun _ => id

theorem grows_run (es : List Event) (t : T) : Grows t [] (run t es).1 [] :=
  run_inv_false (C := Grows t []) (fun hs h => h.trans (grows_small hs)) es t (.refl t [])

theorem run_wire (es : List Event) (t : T) :
    ∃ ext, (run t es).1.wire = t.wire ++ ext ∧ ∀ x ∈ ext, x ∈ msgs t.blocked ∨ x ∉ t.used := by
  have h := (grows_run es t).wire
  rwa [List.append_nil] at h

theorem never_written (es : List Event) (t : T) (m : Nat) (hu : m ∈ t.used) (hw : m ∉ t.wire)
    (hb : m ∉ msgs t.blocked) : m ∉ (run t es).1.wire := by
  obtain ⟨ext, he, hsrc⟩ := run_wire es t
  rw [he]
  exact fun hx => (List.mem_append.mp hx).elim hw fun hx => (hsrc m hx).elim hb fun h => h hu

end Aiorpcx.C15
