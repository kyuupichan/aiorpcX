import Aiorpcx.C15.Steps
/-! C15 invariants about the flags: nothing is written while paused, reading follows writing,
a lost connection releases everybody. -/
namespace Aiorpcx.C15

structure FInv (t : T) : Prop where
  noPausedWrite : ∀ w ∈ t.writes, w.2 = false
  track : t.closing = false → t.canSend = !t.tPaused ∧ t.reading = t.canSend
  released : t.lost = true → t.canSend = true ∧ t.blocked = []
  lostClosing : t.lost = true → t.closing = true
  waiting : t.blocked ≠ [] → t.canSend = false
  clearPaused : t.canSend = false → t.tPaused = true

theorem blocked_nil_of_canSend (t : T) (hf : FInv t) (hcs : t.canSend = true) : t.blocked = [] := by
  cases hb : t.blocked with
  | nil => rfl
  | cons x xs => exact Bool.noConfusion (hcs.symm.trans (hf.waiting (hb ▸ List.cons_ne_nil _ _)))

/-- The repaired `write()` keeps the flags invariant: it writes only after it has seen
`_can_send` set, which while the connection is up means that the transport is not paused. -/
theorem finv_small {one : Bool} {t t' : T} {q q' : List Writer} (hs : Small one t q t' q')
    (hfix : t.fixed = true) (h : FInv t) : FInv t' := by
  cases hs with
  | send s m _ =>
    exact ⟨h.noPausedWrite, h.track, h.released, h.lostClosing, h.waiting, h.clearPaused⟩
  | pause hc =>
    exact ⟨h.noPausedWrite, fun _ => ⟨rfl, rfl⟩,
      fun hl => absurd (h.lostClosing hl) (hc ▸ Bool.false_ne_true), h.lostClosing, fun _ => rfl,
      fun _ => rfl⟩
  | pauseClosing hc =>
    exact ⟨h.noPausedWrite, fun hc' => Bool.noConfusion (hc.symm.trans hc'), h.released,
      h.lostClosing, h.waiting, fun _ => rfl⟩
  | unpause hp hcs =>
    -- only possible on a closing transport
    have hc : t.closing = true := by
      cases hc : t.closing
      · have := (h.track hc).1; rw [hcs, hp] at this; cases this
      · rfl
    exact ⟨h.noPausedWrite, fun hc' => Bool.noConfusion (hc.symm.trans hc'), h.released,
      h.lostClosing, h.waiting, fun hc' => Bool.noConfusion (hcs.symm.trans hc')⟩
  | resume _ =>
    exact ⟨h.noPausedWrite, fun _ => ⟨rfl, rfl⟩, fun _ => ⟨rfl, rfl⟩, h.lostClosing,
      fun hb => absurd rfl hb, fun hc => Bool.noConfusion hc⟩
  | block w ws hcs =>
    exact ⟨h.noPausedWrite, h.track,
      fun hl => Bool.noConfusion ((h.released hl).1.symm.trans hcs), h.lostClosing,
      fun _ => hcs, h.clearPaused⟩
  | write w ws hc hg =>
    have hp : t.tPaused = false := by
      have := (h.track hc).1; rw [hg hfix] at this
      cases hp : t.tPaused
      · rfl
      · rw [hp] at this; cases this
    refine ⟨fun x hx => ?_, h.track, h.released, h.lostClosing, h.waiting, h.clearPaused⟩
    rcases List.mem_append.mp hx with hx | hx
    · exact h.noPausedWrite x hx
    · cases List.mem_singleton.mp hx; exact hp
  | pass w ws _ => exact h
  | drop p =>
    refine ⟨h.noPausedWrite, h.track, fun hl => ⟨(h.released hl).1, ?_⟩, h.lostClosing,
      fun hb => h.waiting fun hnil => hb ?_, h.clearPaused⟩
    · show t.blocked.filter p = []; rw [(h.released hl).2]; rfl
    · show t.blocked.filter p = []; rw [hnil]; rfl
  | close =>
    exact ⟨h.noPausedWrite, fun hc => Bool.noConfusion hc, h.released, fun _ => rfl, h.waiting,
      h.clearPaused⟩
  | lose n _ =>
    exact ⟨h.noPausedWrite, fun hc => Bool.noConfusion hc, fun _ => ⟨rfl, rfl⟩, fun _ => rfl,
      fun hb => absurd rfl hb, fun hc => Bool.noConfusion hc⟩
  | wait n _ _ =>
    exact ⟨h.noPausedWrite, h.track, h.released, h.lostClosing, h.waiting, h.clearPaused⟩

theorem finv_run (es : List Event) (t : T) (hfix : t.fixed = true) (h : FInv t) :
    FInv (run t es).1 :=
  (run_inv_false (C := fun t _ => t.fixed = true ∧ FInv t)
    (fun hs h => ⟨hs.fixed.trans h.1, finv_small hs h.1 h.2⟩) es t ⟨hfix, h⟩).2

end Aiorpcx.C15
