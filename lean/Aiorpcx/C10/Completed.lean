import Aiorpcx.C10.Queue
/-! C10 — `completed` is, in every reachable state, the first task popped by the join loop that
counts (not a None-returner under `object`).  Needs: outcomes of finished members never change. -/
namespace Aiorpcx.C09

def G.counts (g : G) (t : Nat) : Bool := countsAsCompleted g.wait (g.outcomeOf t)

structure Stable (g g' : G) : Prop where
  wait : g'.wait = g.wait
  keep : ∀ t, g.statusOf t = some .done → g'.statusOf t = some .done ∧ g'.outcomeOf t = g.outcomeOf t

theorem Stable.refl (g : G) : Stable g g := ⟨rfl, fun _ h => ⟨h, rfl⟩⟩

theorem Stable.trans {a b c : G} (h1 : Stable a b) (h2 : Stable b c) : Stable a c :=
  ⟨by rw [h2.wait, h1.wait], fun t ht =>
    ⟨(h2.keep t (h1.keep t ht).1).1, by rw [(h2.keep t (h1.keep t ht).1).2, (h1.keep t ht).2]⟩⟩

theorem Stable.of_mem_eq {g g' : G} (hm : g'.mem = g.mem) (hw : g'.wait = g.wait) : Stable g g' :=
  ⟨hw, fun t ht => by
    have e1 : g'.statusOf t = g.statusOf t := by simp [G.statusOf, G.find, hm]
    have e2 : g'.outcomeOf t = g.outcomeOf t := by simp [G.outcomeOf, G.find, hm]
    exact ⟨by rw [e1]; exact ht, e2⟩⟩

theorem outcomeOf_setMem_ne (g : G) (i j : Nat) (f : Mem → Mem) (hf : ∀ m, (f m).id = m.id)
    (hne : j ≠ i) : (g.setMem i f).outcomeOf j = g.outcomeOf j := by
  unfold G.outcomeOf G.find G.setMem
  simp only [find?_map_update _ _ _ _ hf, Option.map_map]
  cases h : g.mem.find? (·.id == j) with
  | none => rfl
  | some m =>
    have : m.id = j := by simpa using List.find?_some h
    have hmi : ¬ (m.id = i) := by rw [this]; exact hne
    simp [hmi]

theorem stable_setMem {g : G} {i : Nat} {m : Mem} (hf : g.find i = some m)
    (hs : m.status ≠ .done) (f : Mem → Mem) (hid : ∀ m, (f m).id = m.id) :
    Stable g (g.setMem i f) :=
  ⟨rfl, fun t ht => by
    have hne : t ≠ i := by
      rintro rfl
      rw [G.statusOf, hf] at ht
      exact hs (Option.some.inj ht)
    exact ⟨by rw [statusOf_setMem_ne g i t f hid hne]; exact ht,
      outcomeOf_setMem_ne g i t f hid hne⟩⟩

/-- steps that do not touch what the join loop recorded -/
structure PStep (g g' : G) : Prop where
  stable : Stable g g'
  jp : g'.joinPopped = g.joinPopped
  comp : g'.completed = g.completed

theorem PStep.refl (g : G) : PStep g g := ⟨Stable.refl g, rfl, rfl⟩

theorem PStep.trans {a b c : G} (h1 : PStep a b) (h2 : PStep b c) : PStep a c :=
  ⟨h1.stable.trans h2.stable, by rw [h2.jp, h1.jp], by rw [h2.comp, h1.comp]⟩

theorem PStep.of_eq {g g' : G} (hm : g'.mem = g.mem) (hw : g'.wait = g.wait)
    (hj : g'.joinPopped = g.joinPopped) (hc : g'.completed = g.completed) : PStep g g' :=
  ⟨Stable.of_mem_eq hm hw, hj, hc⟩

theorem PStep.wake {g g0 : G} (h : PStep g g0) (w : Waiter) : PStep g (g0.wake w).1 :=
  have f := Frame.wake (.refl g0) w
  h.trans (.of_eq (congrArg Core.mem (core_wake g0 w)) f.wait f.joinPopped f.completed)

theorem PStep.release {g g0 : G} (h : PStep g g0) : PStep g g0.release.1 :=
  have f := Frame.release (.refl g0)
  h.trans (.of_eq (congrArg Core.mem (core_release g0)) f.wait f.joinPopped f.completed)

theorem MStep.pstep {g g' : G} {o : List Obs} (hs : MStep g g' o) : PStep g g' := by
  induction hs with
  | refl g => exact .refl g
  | refused g c => exact .refl g
  | trans _ _ ih1 ih2 => exact ih1.trans ih2
  | @add g g' i d ch ha =>
    obtain ⟨_, _, rfl⟩ := add_some ha
    refine ⟨⟨rfl, fun t ht => ?_⟩, rfl, rfl⟩
    have key : ∀ (x : Mem), (g.mem ++ [x]).find? (·.id == t) = g.mem.find? (·.id == t) := by
      intro x
      rw [List.find?_append]
      cases hft : g.mem.find? (·.id == t) with
      | none => rw [G.statusOf, G.find, hft] at ht; cases ht
      | some m => rfl
    simp only [G.statusOf, G.outcomeOf, G.find, key]
    exact ⟨ht, trivial⟩
  | canc hf hs => exact ⟨stable_setMem hf (by rw [hs]; nofun) _ (by intro _; rfl), rfl, rfl⟩
  | @fin g i m o hf hs =>
    have h1 := stable_setMem hf hs (fun m => { m with status := .done, outcome := o })
      (by intro _; rfl)
    rw [finishMem_live o hf hs]
    split
    · exact ⟨h1, rfl, rfl⟩
    · exact PStep.release (g0 := g.queued i o) ⟨h1.trans (.of_mem_eq rfl rfl), rfl, rfl⟩

theorem stable_deliverCancels (g : G) (l : List Nat) : Stable g (g.deliverCancels l).1 :=
  (mstep_deliverCancels g l).pstep.stable

structure PInv (g : G) : Prop where
  completedFirst : g.completed = g.joinPopped.find? g.counts
  poppedDone : ∀ t ∈ g.joinPopped, g.statusOf t = some .done

theorem find?_ext {α : Type} (p q : α → Bool) : ∀ (l : List α), (∀ x ∈ l, p x = q x) →
    l.find? p = l.find? q
  | [], _ => rfl
  | x :: xs, h => by
    simp only [List.find?_cons, h x (by simp)]
    cases q x
    · exact find?_ext p q xs (fun y hy => h y (by simp [hy]))
    · rfl

theorem PStep.pinv {g g' : G} (hs : PStep g g') (h : PInv g) : PInv g' := by
  refine ⟨?_, ?_⟩
  · rw [hs.comp, hs.jp, h.completedFirst]
    apply find?_ext
    intro t ht
    have := (hs.stable.keep t (h.poppedDone t ht)).2
    simp [G.counts, hs.stable.wait, this]
  · intro t ht; rw [hs.jp] at ht; exact (hs.stable.keep t (h.poppedDone t ht)).1

theorem pinv_joinerPop (g : G) (j : Joiner) (hl : LInv g) (h : PInv g) : PInv (g.joinerPop j).1 := by
  cases hd : g.doneq with
  | nil => rw [joinerPop_nil j hd]; exact PStep.pinv (g := g) (.of_eq rfl rfl rfl rfl) h
  | cons t rest =>
    rw [joinerPop_cons j hd]
    have htdone := hl.logDone t (by rw [← hl.queue, hd]; simp)
    refine ⟨?_, ?_⟩
    · show (g.popT t rest).completed = (g.joinPopped ++ [t]).find? g.counts
      simp only [List.find?_append, List.find?_cons, List.find?_nil, ← h.completedFirst, G.popT]
      cases hc : g.completed with
      | some c => simp
      | none => simp only [G.counts]; cases countsAsCompleted g.wait (g.outcomeOf t) <;> simp
    · intro x hx
      rcases List.mem_append.1 (show x ∈ g.joinPopped ++ [t] from hx) with hx | hx
      · exact h.poppedDone x hx
      · rw [List.mem_singleton.1 hx]; exact htdone

theorem pstep_jstep {g : G} {perm : List Nat} {j : Joiner} {g' : G} {o : List Obs}
    (hs : JStep g perm j g' o) : g' = (g.joinerPop j).1 ∨ PStep g g' := by
  cases hs with
  | pop _ _ => exact .inl rfl
  | crSweep _ _ => exact .inr ((mstep_deliverCancels g _).pstep.trans (.of_eq rfl rfl rfl rfl))
  | finSweep _ _ _ => exact .inr ((mstep_deliverCancels g _).pstep.trans (.of_eq rfl rfl rfl rfl))
  | crDone _ _ _ _ => exact .inr (.of_eq rfl rfl rfl rfl)
  | nowait _ _ _ => exact .inr (.of_eq rfl rfl rfl rfl)
  | nothingLeft _ _ _ _ _ => exact .inr (.of_eq rfl rfl rfl rfl)
  | park _ _ _ _ _ => exact .inr (.of_eq rfl rfl rfl rfl)
  | acquire _ _ _ _ _ _ => exact .inr (.of_eq rfl rfl rfl rfl)
  | finExit _ _ _ => exact .inr (.of_eq rfl rfl rfl rfl)
  | finClear _ _ _ _ => exact .inr (.of_eq rfl rfl rfl rfl)

theorem pinv_jstep {g : G} {perm : List Nat} {j : Joiner} {g' : G} {o : List Obs}
    (hs : JStep g perm j g' o) (hl : LInv g) (h : PInv g) : PInv g' := by
  rcases pstep_jstep hs with rfl | hp
  · exact pinv_joinerPop g j hl h
  · exact hp.pinv h

theorem pstep_astep {g : G} {a : Action} {g' : G} {o : List Obs} (hs : AStep g a g' o) :
    PStep g g' := by
  cases hs with
  | member m => exact m.pstep
  | nextDoneServe _ _ _ _ _ =>
    exact PStep.wake (g := g) (g0 := { g with sem := g.sem - 1 }) (.of_eq rfl rfl rfl rfl) _
  | invalid _ => exact .refl g
  | nextDoneNone _ _ _ _ => exact .refl g
  | nextDonePark _ _ _ _ => exact .of_eq rfl rfl rfl rfl
  | joiner hj =>
    cases hj with
    | cancelPermit _ _ _ =>
      exact (PStep.release (g := g) (g0 := { g with waiters := g.waiters.filter (· != .joiner) })
        (.of_eq rfl rfl rfl rfl)).trans (.of_eq rfl rfl rfl rfl)
    | enter _ _ _ => exact .of_eq rfl rfl rfl rfl
    | cancelLoop _ _ _ => exact .of_eq rfl rfl rfl rfl
    | cancelAwait _ _ => exact .of_eq rfl rfl rfl rfl

end Aiorpcx.C09
