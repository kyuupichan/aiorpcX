import Aiorpcx.C09.Progress
/-! C10 — semaphore accounting in **all** histories (any number of competing `next_done()`
callers): permits banked in the group's semaphore + the permit held by the joiner = length of
the done queue.  Consequences: whoever obtains a permit finds a task in the queue - `next_done()`
never answers None to a caller that had to acquire, and the join loop never pops an empty queue. -/
namespace Aiorpcx.C09

structure SInv (g : G) : Prop where
  sem : g.sem + hpNat g = g.doneq.length
  /-- the joiner sits in the waiter list only while it is parked ... -/
  jw : Waiter.joiner ∈ g.waiters → isBlocked g = true
  /-- ... and at most once -/
  jcount : g.waiters.count Waiter.joiner ≤ 1
  /-- a parked joiner holds no permit -/
  bhp : ∀ j, g.joiner = some j → j.blocked = true → j.hasPermit = false

/-- the state in which `Semaphore.release()` is called: one more entry than permits -/
structure SRelPre (g : G) : Prop where
  sem : g.sem + hpNat g + 1 = g.doneq.length
  jw : Waiter.joiner ∈ g.waiters → isBlocked g = true
  jcount : g.waiters.count Waiter.joiner ≤ 1
  bhp : ∀ j, g.joiner = some j → j.blocked = true → j.hasPermit = false

/-- `next_done()` answered None to nobody -/
def NoNoneObs (o : List Obs) : Prop := ∀ k, Obs.nextDone k none ∉ o

theorem nn_nil : NoNoneObs [] := fun _ => List.not_mem_nil

theorem nn_append {a b : List Obs} (ha : NoNoneObs a) (hb : NoNoneObs b) : NoNoneObs (a ++ b) :=
  fun k hm => (List.mem_append.1 hm).elim (ha k) (hb k)

theorem SInv.not_waiting {g : G} (h : SInv g) (hb : isBlocked g = false) :
    Waiter.joiner ∉ g.waiters := fun hm => by rw [h.jw hm] at hb; cases hb

/-- the permit goes to the first waiter - a consumer finds the new entry - or is banked -/
theorem sinv_release (g : G) (h : SRelPre g) : SInv g.release.1 ∧ NoNoneObs g.release.2 := by
  cases hw : g.waiters with
  | nil =>
    rw [release_nil hw]
    refine ⟨⟨?_, fun hm => ?_, h.jcount, h.bhp⟩, nn_nil⟩
    · have := h.sem
      show g.sem + 1 + hpNat g = g.doneq.length
      omega
    · rw [show _ = g.waiters from rfl, hw] at hm; cases hm
  | cons w ws =>
    rw [release_cons hw]
    have hjc := h.jcount
    rw [hw] at hjc
    cases w with
    | joiner =>
      rw [List.count_cons_self] at hjc
      have hws : Waiter.joiner ∉ ws := fun hm => by have := List.count_pos_iff.2 hm; omega
      obtain ⟨hb', hsem⟩ :=
        wake_joiner ws (h.jw (by rw [hw]; exact List.mem_cons_self ..)) h.bhp h.sem
      refine ⟨⟨hsem, fun hm => absurd hm hws, ?_, fun j hj hbj => ?_⟩, nn_nil⟩
      · show ws.count Waiter.joiner ≤ 1
        omega
      · rw [isBlocked_of hj, hbj] at hb'; cases hb'
    | consumer k =>
      rw [List.count_cons_of_ne (by simp)] at hjc
      have hjw : Waiter.joiner ∈ ws → isBlocked g = true := fun hm =>
        h.jw (by rw [hw]; exact List.mem_cons_of_mem _ hm)
      have hsem := h.sem
      obtain ⟨t, rest, hd⟩ := List.exists_cons_of_length_pos (l := g.doneq) (by omega)
      rw [wake_consumer_cons (g := { g with waiters := ws }) k hd]
      refine ⟨⟨?_, hjw, hjc, h.bhp⟩, fun k' => by simp⟩
      rw [hd, List.length_cons] at hsem
      show g.sem + hpNat g = rest.length
      omega

theorem sinv_frame {g g' : G} (h : SInv g) (hw : g'.waiters = g.waiters) (hs : g'.sem = g.sem)
    (hd : g'.doneq = g.doneq) (hj : g'.joiner = g.joiner) : SInv g' := by
  refine ⟨?_, ?_, ?_, ?_⟩
  · rw [hs, hd, ← h.sem]; unfold hpNat; rw [hj]
  · rw [hw]; intro hm; have := h.jw hm; unfold isBlocked at this ⊢; rw [hj]; exact this
  · rw [hw]; exact h.jcount
  · intro j hj' hb; rw [hj] at hj'; exact h.bhp j hj' hb

theorem MStep.sinv {g g' : G} {o : List Obs} (hs : MStep g g' o) (h : SInv g) :
    SInv g' ∧ NoNoneObs o := by
  induction hs with
  | refl g => exact ⟨h, nn_nil⟩
  | refused g c => exact ⟨h, fun k => by simp⟩
  | trans _ _ ih1 ih2 => exact ⟨(ih2 (ih1 h).1).1, nn_append (ih1 h).2 (ih2 (ih1 h).1).2⟩
  | add ha => obtain ⟨_, _, rfl⟩ := add_some ha; exact ⟨sinv_frame h rfl rfl rfl rfl, nn_nil⟩
  | canc _ _ => exact ⟨sinv_frame h rfl rfl rfl rfl, fun k => by simp⟩
  | @fin g i m o hf hs =>
    rw [finishMem_live o hf hs]
    split
    · exact ⟨sinv_frame h rfl rfl rfl rfl, nn_nil⟩
    · refine sinv_release _ ⟨?_, h.jw, h.jcount, h.bhp⟩
      show g.sem + hpNat g + 1 = (g.doneq ++ [i]).length
      rw [List.length_append, ← h.sem]; rfl

theorem sinv_unparked {g : G} {j : Joiner} (hj : g.joiner = some j) (hb : j.blocked = false) :
    SInv g ↔ g.sem + (if j.hasPermit then 1 else 0) = g.doneq.length ∧
      Waiter.joiner ∉ g.waiters := by
  constructor
  · intro h
    have hsem := h.sem
    rw [hpNat_of hj] at hsem
    exact ⟨hsem, h.not_waiting (by rw [isBlocked_of hj, hb])⟩
  · rintro ⟨hsem, hnw⟩
    refine ⟨by rw [hpNat_of hj]; exact hsem, fun hm => absurd hm hnw,
      by rw [List.count_eq_zero.2 hnw]; exact Nat.zero_le _, fun j' hj' hb' => ?_⟩
    cases Option.some.inj (hj.symm.trans hj')
    rw [hb] at hb'; cases hb'

theorem sinv_setJ_iff (g : G) {j : Joiner} (hb : j.blocked = false) :
    SInv (setJ g j) ↔ g.sem + (if j.hasPermit then 1 else 0) = g.doneq.length ∧
      Waiter.joiner ∉ g.waiters :=
  sinv_unparked rfl hb

theorem sinv_setJ {g : G} {j : Joiner} (h : SInv g) (hj : g.joiner = some j)
    (hb : j.blocked = false) (j' : Joiner) (hb' : j'.blocked = false)
    (hp' : j'.hasPermit = j.hasPermit) : SInv (setJ g j') :=
  (sinv_setJ_iff g hb').2 (hp' ▸ (sinv_unparked hj hb).1 h)

theorem sinv_jstep {g : G} {perm : List Nat} {j : Joiner} {g' : G} {o : List Obs}
    (hj : g.joiner = some j) (hb : j.blocked = false) (h : SInv g)
    (hs : JStep g perm j g' o) : SInv g' ∧ NoNoneObs o := by
  obtain ⟨hsem, hnw⟩ := (sinv_unparked hj hb).1 h
  have sweep : ∀ (l : List Nat) (j' : Joiner), j'.blocked = false → j'.hasPermit = j.hasPermit →
      SInv (setJ (g.deliverCancels l).1 j') ∧ NoNoneObs (g.deliverCancels l).2 := fun l j' h1 h2 =>
    have m := mstep_deliverCancels g l
    ⟨sinv_setJ (m.sinv h).1 ((m.joiner_kept hnw).1.trans hj) hb j' h1 h2, (m.sinv h).2⟩
  cases hs with
  | crSweep _ _ => exact sweep _ _ hb rfl
  | finSweep _ _ _ => exact sweep _ _ hb rfl
  | crDone _ _ _ _ => exact ⟨sinv_setJ h hj hb _ hb rfl, nn_nil⟩
  | nowait _ _ _ => exact ⟨sinv_setJ h hj hb _ hb rfl, nn_nil⟩
  | nothingLeft _ _ _ _ _ => exact ⟨sinv_setJ h hj hb _ hb rfl, nn_nil⟩
  | finClear _ _ _ _ => exact ⟨sinv_setJ h hj hb _ hb rfl, nn_nil⟩
  | finExit _ _ _ =>
    exact ⟨(sinv_setJ_iff _ (by exact hb)).2 ⟨hsem, hnw⟩, fun k => by simp⟩
  | pop hp hperm =>
    obtain ⟨t, rest, hd, hlen⟩ := permit_cons h.sem hj hperm
    rw [joinerPop_cons j hd]
    exact ⟨(sinv_setJ_iff (g.popT t rest) (by exact hb)).2 ⟨hlen, hnw⟩, nn_nil⟩
  | park hp hperm hw hne hsw =>
    refine ⟨⟨?_, fun _ => rfl, ?_, fun j' hj' _ => ?_⟩, nn_nil⟩
    · rw [hpNat_of (j := { j with blocked := true }) rfl]; exact hsem
    · show (g.waiters ++ [Waiter.joiner]).count Waiter.joiner ≤ 1
      rw [List.count_append, List.count_eq_zero.2 hnw]; simp
    · cases Option.some.inj hj'
      exact hperm
  | acquire hp hperm _ _ hs0 hw0 =>
    rw [hperm] at hsem
    refine ⟨(sinv_setJ_iff _ (by exact hb)).2 ⟨?_, hnw⟩, nn_nil⟩
    show g.sem - 1 + 1 = g.doneq.length
    have : g.sem + 0 = g.doneq.length := hsem
    omega

theorem sinv_newJoiner {g : G} (h : SInv g) (hjn : g.joiner = none) (ph : Phase) :
    SInv (setJ g (newJoiner ph)) := by
  have hsem := h.sem
  rw [hpNat, hjn] at hsem
  exact (sinv_setJ_iff g rfl).2 ⟨hsem, h.not_waiting (by rw [isBlocked, hjn])⟩

theorem mem_filter_ne_joiner (ws : List Waiter) :
    Waiter.joiner ∉ ws.filter (· != Waiter.joiner) := by
  simp [List.mem_filter]

theorem sinv_astep {g : G} {a : Action} {g' : G} {o : List Obs} (hs : AStep g a g' o)
    (h : SInv g) :
    SInv g' ∧ ∀ k, Obs.nextDone k none ∈ o →
      (∃ perm, a = .nextDone k perm) ∧ g.doneq = [] ∧ g.pending = [] := by
  have quiet : ∀ {o : List Obs} {P : Nat → Prop}, NoNoneObs o →
      ∀ k, Obs.nextDone k none ∈ o → P k := fun h k hm => absurd hm (h k)
  cases hs with
  | member m => exact ⟨(m.sinv h).1, quiet (m.sinv h).2⟩
  | invalid _ => exact ⟨h, quiet fun k => by simp⟩
  | joiner hj =>
    cases hj with
    | enter _ hjn _ => exact ⟨sinv_newJoiner h hjn _, quiet nn_nil⟩
    | @cancelLoop j hj hp hperm =>
      have hsem := h.sem
      rw [hpNat_of hj, hperm] at hsem
      exact ⟨(sinv_setJ_iff _ rfl).2 ⟨hsem, mem_filter_ne_joiner _⟩, quiet nn_nil⟩
    | @cancelPermit j hj hp hperm =>
      -- the permit goes back: as if a new entry had just been queued
      have hsem := h.sem
      rw [hpNat_of hj, hperm] at hsem
      have hr := sinv_release (setJ { g with waiters := g.waiters.filter (· != .joiner) }
          { j with phase := .fin, exc := true, blocked := false, hasPermit := false })
        ⟨by rw [hpNat_of (g := setJ _ _) rfl]; exact hsem,
          fun hm => absurd hm (mem_filter_ne_joiner _),
          by show (g.waiters.filter (· != Waiter.joiner)).count Waiter.joiner ≤ 1
             rw [List.count_eq_zero.2 (mem_filter_ne_joiner _)]; exact Nat.zero_le _,
          fun j' hj' hbb => by cases Option.some.inj hj'; cases hbb⟩
      rw [release_setJ (g := { g with waiters := g.waiters.filter (· != .joiner) }) _
        (mem_filter_ne_joiner _)] at hr
      exact ⟨hr.1, quiet hr.2⟩
    | @cancelAwait j hj hp =>
      have hsem := h.sem
      rw [hpNat_of hj] at hsem
      refine ⟨⟨?_, fun hm => ?_, h.jcount, ?_⟩, quiet fun k => by simp⟩
      · rw [hpNat_of (g := setJ _ _) rfl]; exact hsem
      · have := h.jw hm
        rw [isBlocked_of hj] at this
        rw [isBlocked_of (g := setJ _ _) rfl]; exact this
      · intro j' hj' hbb
        cases Option.some.inj hj'
        exact h.bhp j hj hbb
  | nextDoneNone k p hd hp =>
    refine ⟨h, fun k' hm => ?_⟩
    cases List.mem_singleton.1 hm
    exact ⟨⟨p, rfl⟩, hd, hp⟩
  | nextDonePark k _ _ _ =>
    refine ⟨⟨h.sem, fun hm => ?_, ?_, h.bhp⟩, quiet fun k => by simp⟩
    · rcases List.mem_append.1 hm with hm | hm
      · exact h.jw hm
      · cases List.mem_singleton.1 hm
    · show (g.waiters ++ [Waiter.consumer k]).count Waiter.joiner ≤ 1
      rw [List.count_append]
      have := h.jcount
      simpa using this
  | nextDoneServe k _ _ hs0 _ =>
    have hsem := h.sem
    obtain ⟨t, rest, hd⟩ := List.exists_cons_of_length_pos (l := g.doneq) (by omega)
    rw [wake_consumer_cons (g := { g with sem := g.sem - 1 }) k hd]
    rw [hd, List.length_cons] at hsem
    refine ⟨⟨?_, h.jw, h.jcount, h.bhp⟩, quiet fun k => by simp⟩
    show g.sem - 1 + hpNat g = rest.length
    omega

theorem sinv_init (p : Policy) : SInv { wait := p } :=
  ⟨rfl, fun h => (nomatch h), Nat.zero_le _, fun _ h => (nomatch h)⟩

/-- a whole reaction keeps the accounting; `nextDone k none` is reported by the caller's own
action only, never by a consumer woken during the joiner's run -/
theorem sinv_react (g : G) (a : Action) (hr : Reach g) (h : SInv g) :
    SInv (react g a).1 ∧ ∀ k, Obs.nextDone k none ∈ (react g a).2 →
      (∃ perm, a = .nextDone k perm) ∧ g.doneq = [] ∧ g.pending = [] := by
  obtain ⟨h1, hq1⟩ := sinv_astep (apply_astep g a) h
  have := runJoiner_preserves (perm := a.perm) (P := fun g => Reach g ∧ SInv g)
    (q := fun x => ∀ k, x ≠ .nextDone k none) (fun _ h => h.1.fixed) nofun
    (fun h hj hb hs => ⟨⟨reach_jstep h.1 hj hb hs, (sinv_jstep hj hb h.2 hs).1⟩,
      fun x hx k e => (sinv_jstep hj hb h.2 hs).2 k (e ▸ hx)⟩)
    (g.apply a).1.fuel _ ⟨reach_apply g a hr, h1⟩
  rw [react_fst, react_snd]
  refine ⟨this.1.2, fun k hm => ?_⟩
  rcases List.mem_append.1 hm with hm | hm
  · exact hq1 k hm
  · exact absurd rfl (this.2 _ hm k)

theorem sinv_runAll (g : G) (as : List Action) (hr : Reach g) (h : SInv g) :
    SInv (runAll g as).1 :=
  (runAll_keeps (P := fun g => Reach g ∧ SInv g)
    (fun g a h => ⟨reach_react g a h.1, (sinv_react g a h.1 h.2).1⟩) as g ⟨hr, h⟩).2

end Aiorpcx.C09
