import Aiorpcx.C09.JStep
/-! C10 — the done queue is a FIFO over the completion log: `popped ++ doneq = log`, the log has
no duplicates, and everything in the log has finished. -/
namespace Aiorpcx.C09

structure LInv (g : G) : Prop where
  queue : g.popped ++ g.doneq = g.log
  nodup : g.log.Nodup
  logDone : ∀ i ∈ g.log, g.statusOf i = some .done

theorem find?_map_update (ms : List Mem) (i j : Nat) (f : Mem → Mem) (hf : ∀ m, (f m).id = m.id) :
    (ms.map (fun m => if m.id == i then f m else m)).find? (·.id == j) =
      (ms.find? (·.id == j)).map (fun m => if m.id == i then f m else m) := by
  induction ms with
  | nil => rfl
  | cons m ms ih =>
    simp only [List.map_cons, List.find?_cons]
    have hid : (if (m.id == i) = true then f m else m).id = m.id := by split <;> simp [hf]
    rw [hid]
    split
    · simp
    · exact ih

theorem statusOf_setMem_ne (g : G) (i j : Nat) (f : Mem → Mem) (hf : ∀ m, (f m).id = m.id)
    (hne : j ≠ i) : (g.setMem i f).statusOf j = g.statusOf j := by
  unfold G.statusOf G.find G.setMem
  simp only [find?_map_update _ _ _ _ hf, Option.map_map]
  cases h : g.mem.find? (·.id == j) with
  | none => rfl
  | some m =>
    have : m.id = j := by simpa using List.find?_some h
    have hmi : ¬ (m.id = i) := by rw [this]; exact hne
    simp [hmi]

theorem statusOf_setMem_self (g : G) (i : Nat) (f : Mem → Mem) (hf : ∀ m, (f m).id = m.id)
    (m : Mem) (hm : g.find i = some m) : (g.setMem i f).statusOf i = some (f m).status := by
  unfold G.statusOf G.find G.setMem
  unfold G.find at hm
  simp only [find?_map_update _ _ _ _ hf, hm]
  have : m.id = i := by simpa using List.find?_some hm
  simp [this]

theorem LInv.setMem {g : G} (h : LInv g) {i : Nat} {m : Mem} (hf : g.find i = some m)
    (hs : m.status ≠ .done) (f : Mem → Mem) (hid : ∀ m, (f m).id = m.id) :
    i ∉ g.log ∧ ∀ j ∈ g.log, (g.setMem i f).statusOf j = some .done := by
  have hnot : i ∉ g.log := fun hi => by
    have := h.logDone i hi
    rw [G.statusOf, hf] at this
    exact hs (Option.some.inj this)
  refine ⟨hnot, fun j hj => ?_⟩
  rw [statusOf_setMem_ne g i j f hid (fun e => hnot (e ▸ hj))]
  exact h.logDone j hj

theorem linv_wake (g : G) (w : Waiter) (h : LInv g) : LInv (g.wake w).1 := by
  unfold G.wake
  cases w with
  | joiner => exact ⟨h.queue, h.nodup, h.logDone⟩
  | consumer k =>
    cases hd : g.doneq with
    | nil => exact h
    | cons t rest =>
      refine ⟨?_, h.nodup, h.logDone⟩
      have := h.queue; rw [hd] at this
      simpa using this

theorem linv_release (g : G) (h : LInv g) : LInv g.release.1 := by
  unfold G.release
  cases g.waiters with
  | nil => exact ⟨h.queue, h.nodup, h.logDone⟩
  | cons w ws => exact linv_wake _ w ⟨h.queue, h.nodup, h.logDone⟩

theorem MStep.linv {g g' : G} {o : List Obs} (hs : MStep g g' o) (h : LInv g) : LInv g' := by
  induction hs with
  | refl g => exact h
  | refused g c => exact h
  | trans _ _ ih1 ih2 => exact ih2 (ih1 h)
  | @add g g' i d ch ha =>
    obtain ⟨_, _, rfl⟩ := add_some ha
    refine ⟨h.queue, h.nodup, fun j hj => ?_⟩
    have := h.logDone j hj
    unfold G.statusOf G.find at this ⊢
    simp only [List.find?_append]
    cases hfj : g.mem.find? (·.id == j) with
    | none => rw [hfj] at this; cases this
    | some m => rw [hfj] at this; exact this
  | canc hf hs =>
    exact ⟨h.queue, h.nodup, (h.setMem hf (by rw [hs]; nofun) _ (by intro _; rfl)).2⟩
  | @fin g i m o hf hs =>
    obtain ⟨hnot, hother⟩ := h.setMem hf hs (fun m => { m with status := .done, outcome := o })
      (fun _ => rfl)
    rw [finishMem_live o hf hs]
    split
    · exact ⟨h.queue, h.nodup, hother⟩
    · apply linv_release
      refine ⟨?_, ?_, ?_⟩
      · show g.popped ++ (g.doneq ++ [i]) = g.log ++ [i]
        rw [← List.append_assoc, h.queue]
      · show (g.log ++ [i]).Nodup
        rw [List.nodup_append]
        refine ⟨h.nodup, by simp, fun a ha b hb hab => ?_⟩
        rw [List.mem_singleton.1 hb] at hab
        exact hnot (hab ▸ ha)
      · intro j hj
        rcases List.mem_append.1 (show j ∈ g.log ++ [i] from hj) with hj | hj
        · exact hother j hj
        · rw [List.mem_singleton.1 hj]
          exact statusOf_setMem_self g i _ (by intro _; rfl) m hf

theorem linv_joinerPop (g : G) (j : Joiner) (h : LInv g) : LInv (g.joinerPop j).1 := by
  cases hd : g.doneq with
  | nil => rw [joinerPop_nil j hd]; exact ⟨h.queue, h.nodup, h.logDone⟩
  | cons t rest =>
    rw [joinerPop_cons j hd]
    refine ⟨?_, h.nodup, h.logDone⟩
    have := h.queue; rw [hd] at this
    show (g.popped ++ [t]) ++ rest = g.log
    simpa using this

theorem linv_jstep {g : G} {perm : List Nat} {j : Joiner} {g' : G} {o : List Obs}
    (hs : JStep g perm j g' o) (h : LInv g) : LInv g' := by
  have same : ∀ {g0 : G}, g0.popped = g.popped → g0.doneq = g.doneq → g0.log = g.log →
      g0.mem = g.mem → LInv g0 := fun e1 e2 e3 e4 =>
    ⟨by rw [e1, e2, e3]; exact h.queue, by rw [e3]; exact h.nodup, fun i hi => by
      rw [G.statusOf, G.find, e4]; exact h.logDone i (e3 ▸ hi)⟩
  have sweep : ∀ (l : List Nat) (j' : Joiner), LInv (setJ (g.deliverCancels l).1 j') := fun l _ =>
    have h1 := (mstep_deliverCancels g l).linv h
    ⟨h1.queue, h1.nodup, h1.logDone⟩
  cases hs with
  | crSweep _ _ => exact sweep _ _
  | finSweep _ _ _ => exact sweep _ _
  | pop _ _ => exact linv_joinerPop g j h
  | crDone _ _ _ _ => exact same rfl rfl rfl rfl
  | nowait _ _ _ => exact same rfl rfl rfl rfl
  | nothingLeft _ _ _ _ _ => exact same rfl rfl rfl rfl
  | park _ _ _ _ _ => exact same rfl rfl rfl rfl
  | acquire _ _ _ _ _ _ => exact same rfl rfl rfl rfl
  | finExit _ _ _ => exact same rfl rfl rfl rfl
  | finClear _ _ _ _ => exact same rfl rfl rfl rfl

theorem linv_astep {g : G} {a : Action} {g' : G} {o : List Obs} (hs : AStep g a g' o)
    (h : LInv g) : LInv g' := by
  cases hs with
  | member m => exact m.linv h
  | invalid _ => exact h
  | nextDoneNone _ _ _ _ => exact h
  | nextDonePark _ _ _ _ => exact ⟨h.queue, h.nodup, h.logDone⟩
  | nextDoneServe _ _ _ _ _ => exact linv_wake _ _ ⟨h.queue, h.nodup, h.logDone⟩
  | joiner hj =>
    cases hj with
    | enter _ _ _ => exact ⟨h.queue, h.nodup, h.logDone⟩
    | cancelLoop _ _ _ => exact ⟨h.queue, h.nodup, h.logDone⟩
    | cancelPermit _ _ _ =>
      have := linv_release { g with waiters := g.waiters.filter (· != .joiner) }
        ⟨h.queue, h.nodup, h.logDone⟩
      exact ⟨this.queue, this.nodup, this.logDone⟩
    | cancelAwait _ _ => exact ⟨h.queue, h.nodup, h.logDone⟩

end Aiorpcx.C09
