import Aiorpcx.C01.Lemmas
/-! C01 — which entry of `_requests` a response id (or sorted id tuple) can select. -/
namespace Aiorpcx.C01
open List

variable {V : Type}

theorem pyEq_int_iff (i : Id) (n : Nat) :
    pyEq i (.int n) = true ↔ i.num2 = some (2 * (n : Int)) := by
  cases i <;> simp [pyEq, Id.num2]

theorem tupleEq_iff (ids : List Id) (ns : List Nat) :
    tupleEq ids ns = true ↔ ids.map Id.num2 = ns.map (fun n : Nat => some (2 * (n : Int))) := by
  induction ids generalizing ns with
  | nil => cases ns <;> simp [tupleEq]
  | cons i is ih =>
    cases ns with
    | nil => simp [tupleEq]
    | cons n ns => simp [tupleEq, ih, pyEq_int_iff]

theorem matchSingle_unique {c : Conn V} (h : Inv c) {i : Id} {n t : Nat}
    (he : (Key.single n, t) ∈ c.out) (hi : pyEq i (.int n) = true) :
    ∀ x ∈ c.out, matchSingle i x = true → x = (Key.single n, t) := by
  rintro ⟨k, t'⟩ hx hm
  cases k with
  | batch ns => cases hm
  | single n' =>
    have : n' = n := by
      have := Option.some.inj (((pyEq_int_iff i n').1 hm).symm.trans ((pyEq_int_iff i n).1 hi))
      omega
    subst this
    exact h.entry_unique hx he (n := n') (mem_singleton.2 rfl) (mem_singleton.2 rfl)

theorem matchBatch_unique {c : Conn V} (h : Inv c) {ids : List Id} {ns : List Nat} {t : Nat}
    (he : (Key.batch ns, t) ∈ c.out) (hi : tupleEq ids ns = true) :
    ∀ x ∈ c.out, matchBatch ids x = true → x = (Key.batch ns, t) := by
  rintro ⟨k, t'⟩ hx hm
  cases k with
  | single n => cases hm
  | batch ns' =>
    have hinj : ns' = ns :=
      (List.map_inj_right (by intro a b hab; simp at hab; omega)).1
        (((tupleEq_iff ids ns').1 hm).symm.trans ((tupleEq_iff ids ns).1 hi))
    subst hinj
    obtain ⟨n, hn⟩ := exists_mem_of_ne_nil _ (h.key_ok _ he).1
    exact h.entry_unique hx he hn hn

end Aiorpcx.C01
