import Aiorpcx.C01.Cause
import Aiorpcx.C01.Sess
/-!
# C01 — the sender side of `RPCSession`: giving up anywhere never makes two requests share an id

`Sess.lean` models callers that create a request on the connection, park in `transport.write`
while the send buffer is full, and may be cancelled / time out there or while awaiting the
response.  Proved for every history of such events (any number of parked callers, give-ups at any
point, messages from the peer in between, the connection lost):

* `wire_ids_distinct` — the ids of the requests that reach the wire are strictly increasing in
  wire order, in particular pairwise distinct over the whole life of the connection: whatever is
  unanswered on the wire at any time has pairwise distinct ids;
* `session_is_connection_history` — the session-level events act on the request table exactly as
  the connection operations `project` lists: a caller that gives up while parked changes nothing
  (its entry stays, nothing is handed back), one that gives up while waiting cancels its own
  future only.  Hence every theorem of `Props.lean` / `Cause.lean` applies to session histories.
-/
namespace Aiorpcx.C01
open List

variable {V : Type}

/-- the ids of the messages that reached the wire, then of those still parked, oldest first -/
def Sess.sentIds (s : Sess V) : List Nat := s.wire.flatten ++ s.queue.flatten

structure SInv (s : Sess V) : Prop where
  conn : Inv s.conn
  /-- in wire order (then parking order) the ids are strictly increasing -/
  incr : s.sentIds.Pairwise (· < ·)
  below : ∀ n ∈ s.sentIds, n < s.conn.next
  /-- callers are parked only while writing is paused -/
  idle : s.paused = false → s.queue = []

theorem SInv.init (p : Option Proto) (start : Nat) : SInv (Sess.init (V := V) p start) := by
  constructor
  · exact Inv.init p start
  · simp [Sess.init, Sess.sentIds]
  · simp [Sess.init, Sess.sentIds]
  · intro _; rfl

/-- The invariant survives any event after which the ids sent so far have at most lost members
    and gained, at the end, ids `new` that the event drew from the counter. -/
theorem SInv.update {s s' : Sess V} (h : SInv s) (hi : Inv s'.conn) {new : List Nat}
    (hsub : s'.sentIds <+ s.sentIds ++ new) (hnew : new.Pairwise (· < ·))
    (hb : ∀ n ∈ new, s.conn.next ≤ n ∧ n < s'.conn.next) (hle : s.conn.next ≤ s'.conn.next)
    (hidle : s'.paused = false → s'.queue = []) : SInv s' := by
  refine ⟨hi, (pairwise_append.2 ⟨h.incr, hnew, fun a ha b hb' => ?_⟩).sublist hsub,
    fun n hn => ?_, hidle⟩
  · have := h.below a ha
    have := (hb b hb').1
    omega
  · rcases mem_append.1 (hsub.subset hn) with hn | hn
    · exact Nat.lt_of_lt_of_le (h.below n hn) hle
    · exact (hb n hn).2

/-- the same when no id is drawn -/
theorem SInv.shrink {s s' : Sess V} (h : SInv s) (hi : Inv s'.conn)
    (hsub : s'.sentIds <+ s.sentIds) (hle : s.conn.next ≤ s'.conn.next)
    (hidle : s'.paused = false → s'.queue = []) : SInv s' :=
  h.update hi (new := []) (by rwa [append_nil]) .nil nofun hle hidle

theorem sstep_inv (vr : Variant) {k : Nat} (hk : 0 < k) {s : Sess V} (h : SInv s) (op : SOp V) :
    SInv (sstep vr k s op) := by
  have hi := fun op => step_inv vr hk h.conn op
  have hle := fun op => step_next_le vr k s.conn op
  cases op with
  | call batch ok =>
    simp only [sstep]
    cases hobs : (step vr k s.conn (callOp batch ok)).2 with
    | sent ids t =>
      obtain ⟨hpw, hb⟩ := step_sent_bounds vr hk s.conn _ ids t hobs
      -- the message is dropped, parked behind the others, or written after everything written
      show SInv (s.hand (step vr k s.conn (callOp batch ok)).1 ids)
      unfold Sess.hand
      split
      · exact h.shrink (hi _) (Sublist.refl _) (hle _) h.idle
      · split
        · rename_i hp
          refine h.update (hi _) (new := ids) ?_ hpw hb (hle _) (fun hp' => nomatch hp.symm.trans hp')
          simp [Sess.sentIds]
        · rename_i hp
          have hq : s.queue = [] := h.idle (by simpa using hp)
          refine h.update (hi _) (new := ids) ?_ hpw hb (hle _) (fun _ => hq)
          simp [Sess.sentIds, hq]
    | done _ => exact h.shrink (hi _) (Sublist.refl _) (hle _) h.idle
    | raised _ => exact h.shrink (hi _) (Sublist.refl _) (hle _) h.idle
    | cancelled _ => exact h.shrink (hi _) (Sublist.refl _) (hle _) h.idle
  | pause =>
    simp only [sstep]
    split
    · exact h
    · exact ⟨h.conn, h.incr, h.below, nofun⟩
  | resume =>
    exact h.shrink h.conn (by simp [sstep, Sess.sentIds]) (Nat.le_refl _) (fun _ => rfl)
  | dropParked q =>
    refine h.shrink h.conn ?_ (Nat.le_refl _) (fun hp => by simp [sstep, h.idle hp])
    exact (Sublist.refl _).append (sublist_flatten (eraseIdx_sublist s.queue q))
  | giveUp t => exact h.shrink (hi _) (Sublist.refl _) (hle _) h.idle
  | recv op => exact h.shrink (hi _) (Sublist.refl _) (hle _) h.idle
  | lost =>
    exact h.shrink (hi _) (by simp [sstep, Sess.sentIds]) (hle _) (fun _ => rfl)

theorem srun_inv (vr : Variant) {k : Nat} (hk : 0 < k) (ops : List (SOp V)) {s : Sess V}
    (h : SInv s) : SInv (srun vr k s ops) := by
  induction ops generalizing s with
  | nil => exact h
  | cons op ops ih => exact ih (sstep_inv vr hk h op)

/-- **wire_ids_distinct.**  Along every session history — callers creating requests and batches,
    the send buffer filling up and draining, parked callers and waiting callers giving up at any
    point, messages from the peer, the connection lost — the ids of the requests that reach the
    wire are strictly increasing in wire order, so no id is ever on the wire twice: the ids
    outstanding at the same time are pairwise distinct, whoever gave up wherever. -/
theorem wire_ids_distinct (vr : Variant) {k : Nat} (hk : 0 < k) (p : Option Proto) (start : Nat)
    (ops : List (SOp V)) :
    let s := srun vr k (Sess.init p start) ops
    s.wire.flatten.Pairwise (· < ·) ∧ s.wire.flatten.Nodup ∧
      ∀ n ∈ s.wire.flatten, n < s.conn.next := by
  have h := srun_inv vr hk ops (SInv.init (V := V) p start)
  have hsub : (srun vr k (Sess.init p start) ops).wire.flatten <+
      (srun vr k (Sess.init p start) ops).sentIds := sublist_append_left _ _
  have hpw := h.incr.sublist hsub
  exact ⟨hpw, hpw.imp (fun h => Nat.ne_of_lt h), fun n hn => h.below n (hsub.subset hn)⟩

/-- non-vacuity (the history of seeded change C01-r2m3): the buffer is full, callers A and B
    create requests 0 and 1 and park, A is cancelled there, the buffer drains (B's request 1 is
    written), callers C and D get ids 2 and 3 — not 0 and 1 again. -/
example :
    (srun (repaired true true) 1 (Sess.init (V := Nat) (some .v2) 0)
      [.pause, .call none true, .call none true, .dropParked 0, .resume,
       .call none true, .call none true]).wire = [[1], [2], [3]] := by
  decide +kernel

theorem hand_conn (s : Sess V) (c' : Conn V) (ids : List Nat) : (s.hand c' ids).conn = c' := by
  unfold Sess.hand
  split
  · rfl
  · split <;> rfl

theorem sstep_conn (vr : Variant) (k : Nat) (s : Sess V) (op : SOp V) :
    (sstep vr k s op).conn = (run vr k s.conn (project op)).1 := by
  cases op with
  | call batch ok =>
    simp only [sstep, project, run]
    cases (step vr k s.conn (callOp batch ok)).2 with
    | sent ids t => exact hand_conn _ _ _
    | done _ => rfl
    | raised _ => rfl
    | cancelled _ => rfl
  | pause => simp only [sstep, project, run]; split <;> rfl
  | resume => rfl
  | dropParked q => rfl
  | giveUp t => rfl
  | recv op => rfl
  | lost => rfl

/-- **session_is_connection_history.**  The request table after a session history is the table
    after the connection operations the history projects to: creating a request is
    `send_request` / `send_batch`, a caller giving up while it waits for the response cancels its
    own future (`extCancel`), a message from the peer is received, losing the connection is
    `cancel_pending_requests` — and a caller that gives up while parked in `write`, the buffer
    filling up and draining are no operations at all: nothing is removed, no id is handed back.
    So `ids_fresh`, `ids_never_reused`, `recv_single_exact`, `recv_batch_aligned`,
    `completes_causing_request`, … hold along session histories. -/
theorem session_is_connection_history (vr : Variant) (k : Nat) (ops : List (SOp V)) (s : Sess V) :
    (srun vr k s ops).conn = (run vr k s.conn (ops.flatMap project)).1 := by
  induction ops generalizing s with
  | nil => rfl
  | cons op ops ih =>
    simp only [srun, flatMap_cons]
    rw [ih, sstep_conn, run_append]

/-- **give_up_touches_own_ticket_only.**  Requests are identified by their ticket (the position
    of the future `send_request` / `send_batch` handed out), never by their value: the model's
    requests do not even carry a method or arguments, so any two of them are "equal requests".
    A caller giving up — awaiting its response (`giveUp t`) or parked in `write`
    (`dropParked q`) — removes no entry from the request table, draws and returns no id, and
    leaves the future of every other ticket exactly as it is; the only thing that changes is the
    future of ticket `t` itself (cancelled if it was pending).  A tree that, on a give-up,
    deletes "the entry whose request equals mine" (seeded change C01-r4m2) cannot satisfy this:
    the entry of an equal, earlier, still awaited request would go. -/
theorem give_up_touches_own_ticket_only (vr : Variant) (k : Nat) (s : Sess V) (t q : Nat) :
    (sstep vr k s (.giveUp t)).conn.out = s.conn.out ∧
    (sstep vr k s (.giveUp t)).conn.next = s.conn.next ∧
    (∀ u, u ≠ t → (sstep vr k s (.giveUp t)).conn.futs[u]? = s.conn.futs[u]?) ∧
    (sstep vr k s (.giveUp t)).conn.futs[t]? = s.conn.futs[t]?.map cancelFut ∧
    (sstep vr k s (.dropParked q)).conn = s.conn := by
  refine ⟨rfl, rfl, ?_, ?_, rfl⟩
  · intro u hu
    show (s.conn.futs.modify t cancelFut)[u]? = _
    rw [getElem?_modify]
    simp [Ne.symm hu]
  · show (s.conn.futs.modify t cancelFut)[t]? = _
    rw [getElem?_modify]
    simp

/-- non-vacuity (the history of seeded change C01-r4m2): two callers make the same request (ids
    0 and 1), the LATER one gives up, then the peer answers id 0 and id 1: ticket 0 completes with
    exactly the value sent under id 0, the late answer to id 1 is accepted too (its entry was
    still there) and changes nothing; the same with three callers, the middle one giving up
    while parked. -/
example :
    let r := fun (n : Int) (v : Nat) => (⟨some (.int n), true, .val v⟩ : RawResp Nat)
    (srun (repaired true true) 1 (Sess.init (V := Nat) (some .v2) 0)
      [.call none true, .call none true, .giveUp 1, .recv (.recvSingle .v2 (r 0 5)),
       .recv (.recvSingle .v2 (r 1 6))]).conn.futs = [.result 5, .cancelled] ∧
    (srun (repaired true true) 1 (Sess.init (V := Nat) (some .v2) 0)
      [.call none true, .call none true, .giveUp 1]).conn.out.map Prod.snd = [0, 1] ∧
    (srun (repaired true true) 1 (Sess.init (V := Nat) (some .v2) 0)
      [.pause, .call none true, .call none true, .call none true, .dropParked 1, .resume,
       .recv (.recvSingle .v2 (r 0 5)), .recv (.recvSingle .v2 (r 2 7))]).conn.futs
      = [.result 5, .pending, .result 7] := by
  decide +kernel

end Aiorpcx.C01
