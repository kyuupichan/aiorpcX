import Aiorpcx.C01.Props
/-!
# C01 — a response completes exactly the request that CAUSED it (whole histories)

`recv_single_exact` / `recv_batch_aligned` describe one receive in one state.  The theorems here
follow a future through a whole history from a fresh connection: if a received message completes
the future with ticket `t`, then `t` was handed out by an earlier send of that same history, that
send drew exactly the id(s) the message carries, and (`ids_never_reused`, `ticket_sent_once`) no
other send of the history drew that id or handed out that ticket.  So a late or duplicated answer
to an earlier request can never complete a later one: the later one has a different id.
-/
namespace Aiorpcx.C01
open List

variable {V : Type}

/-- every entry of the table was handed out - with exactly its ids and its ticket - by a send
    among the observations `pre` -/
def Owned (pre : List Obs) (c : Conn V) : Prop :=
  ∀ key t, (key, t) ∈ c.out → Obs.sent key.ids (some t) ∈ pre

theorem Owned.init (p : Option Proto) (s : Nat) : Owned [] (Conn.init (V := V) p s) := by
  intro key t h; simp [Conn.init] at h

theorem step_owned (vr : Variant) (k : Nat) {pre : List Obs} {c : Conn V} (h : Owned pre c)
    (op : Op V) : Owned (pre ++ [(step vr k c op).2]) (step vr k c op).1 := by
  intro key t hm
  rcases step_cases vr k c op with ⟨key', n, _, _, hs⟩ | ⟨c', o, ts, hs, hsub, _, _, _⟩ |
    ⟨p, e, f, _, hs⟩ <;> rw [hs] at hm ⊢
  · rcases mem_append.1 hm with hm | hm
    · exact mem_append_left _ (h key t hm)
    · cases mem_singleton.1 hm
      exact mem_append_right _ (mem_singleton.2 rfl)
  · exact mem_append_left _ (h key t (hsub.subset hm))
  · exact mem_append_left _ (h key t ((popped_others { c with proto := p } e f).2.1 _ hm))

theorem run_owned (vr : Variant) (k : Nat) (ops : List (Op V)) {pre : List Obs} {c : Conn V}
    (h : Owned pre c) : Owned (pre ++ (run vr k c ops).2) (run vr k c ops).1 := by
  induction ops generalizing pre c with
  | nil => simpa [run] using h
  | cons op ops ih =>
    have := ih (step_owned vr k h op)
    rwa [append_assoc] at this

/-- a single response that completes future `t`: `t` is the future of an outstanding single
    request whose id the payload's own `"id"` equals, and the future now holds exactly what the
    payload carries (result, error, or the protocol error of a malformed response) -/
theorem recvSingle_done_entry (vr : Variant) (k : Nat) (c : Conn V) (d : Proto) (m : RawResp V)
    (t : Nat) (h : (step vr k c (.recvSingle d m)).2 = .done [t]) :
    ∃ n i, (Key.single n, t) ∈ c.out ∧ m.id = some i ∧ pyEq i (.int n) = true ∧
      (step vr k c (.recvSingle d m)).1.futs[t]? =
        some (settle (processResponse vr (c.detect d) m).2) := by
  rcases recvSingle_cases vr k c d m with ⟨_, hs, _⟩ | ⟨n, t', hmem, hpy, hs⟩ <;> rw [hs] at h ⊢
  · cases h
  · obtain ⟨_, ⟨⟩, hnil | ⟨hone, hval⟩⟩ := popped_obs h
    · cases hnil
    · cases hone
      exact ⟨n, _, hmem, id_of_pyEq vr _ m n hpy, hpy, hval⟩

/-- a response batch that completes future `t`: `t` is the future of an outstanding batch with
    ids `ns`; the message has as many members as the batch, each carrying (as its own `"id"`) the
    id of a batch member, each batch member answered; and the future now holds `rs` where `rs[j]`
    is exactly the result or error carried by the member of the message whose id is `ns[j]` -
    one outcome per request member, in the order the members were added -/
theorem recvBatch_done_entry (vr : Variant) (k : Nat) {c : Conn V} (hinv : Inv c) (d : Proto)
    (ms : List (RawResp V)) (t : Nat) (h : (step vr k c (.recvBatch d ms)).2 = .done [t]) :
    ∃ ns, (Key.batch ns, t) ∈ c.out ∧ ms.length = ns.length ∧
      (∀ m ∈ ms, ∃ i n, m.id = some i ∧ n ∈ ns ∧ pyEq i (.int n) = true) ∧
      (∀ n ∈ ns, ∃ m ∈ ms, ∃ i, m.id = some i ∧ pyEq i (.int n) = true) ∧
      ∃ rs : List (Res V), (step vr k c (.recvBatch d ms)).1.futs[t]? = some (.batch rs) ∧
        rs.length = ns.length ∧
        ∀ j (hj : j < ns.length) (hj' : j < rs.length),
          ∃ m ∈ ms, ∃ i, m.id = some i ∧ pyEq i (.int ns[j]) = true ∧ m.res = rs[j] := by
  obtain ⟨ns, t', pairs, hmem, hok, hperm, hts⟩ := batch_mismatch vr k c d ms [t] h
  obtain rfl : t = t' := by
    rcases hts with h1 | h1
    · exact (cons.inj h1).1
    · cases h1
  have hlen : ms.length = ns.length := by
    have h1 := congrArg List.length hok
    have h2 := hperm.length_eq
    simp only [length_map, keyVals] at h1 h2
    omega
  -- each member of the message is, processed, one of the pairs, and vice versa
  have hfwd := exists_of_map_eq_map hok
  have hbwd := exists_of_map_eq_map hok.symm
  have hallow : (c.detect d).allowBatches = true := by
    rw [step_recvBatch] at h
    split at h
    · cases h
    · rename_i hb; simpa using hb
  refine ⟨ns, hmem, hlen, fun m hm => ?_, fun n hn => ?_, ?_⟩
  · obtain ⟨x, hx, hxe⟩ := hfwd m hm
    obtain ⟨n, hn, hne⟩ := mem_map.1 (hperm.subset (mem_map.2 ⟨x, hx, rfl⟩))
    exact ⟨x.1, n, (processResponse_ok vr _ m _ _ hxe).1, hn, (pyEq_int_iff _ _).2 hne.symm⟩
  · obtain ⟨x, hx, hxe⟩ := mem_map.1 (hperm.symm.subset (mem_map.2 ⟨n, hn, rfl⟩))
    obtain ⟨m, hm, hme⟩ := hbwd x hx
    exact ⟨m, hm, x.1, (processResponse_ok vr _ m _ _ hme.symm).1, (pyEq_int_iff _ _).2 hxe⟩
  · obtain ⟨rs, hrl, hrs, hstep⟩ :=
      recv_batch_aligned vr k hinv d ms ns t hallow hmem pairs hok hperm
    refine ⟨rs, ?_, hrl, fun j hj hj' => ?_⟩
    · rw [hstep] at h ⊢
      obtain ⟨_, ⟨⟩, hnil | ⟨_, hval⟩⟩ := popped_obs h
      · cases hnil
      · exact hval
    · obtain ⟨⟨i, hir, hi⟩, _⟩ := hrs j hj hj'
      obtain ⟨m, hm, hme⟩ := hbwd (i, rs[j]) hir
      obtain ⟨hid, hres⟩ := processResponse_ok vr _ m _ _ hme.symm
      exact ⟨m, hm, i, hid, hi, hres.symm⟩

/-- a future that has its outcome keeps it to the end of every history (`fut_final` iterated) -/
theorem run_fut_final (vr : Variant) (k : Nat) (ops : List (Op V)) (c : Conn V) (t : Nat)
    (f : Fut V) (h : c.futs[t]? = some f) (hf : f ≠ .pending) :
    (run vr k c ops).1.futs[t]? = some f := by
  induction ops generalizing c with
  | nil => exact h
  | cons op ops ih => exact ih _ (fut_final vr k c op t f h hf)

theorem settle_ne_pending (b : Body V) : settle b ≠ .pending := by
  cases b with
  | ok r => cases r <;> simp [settle]
  | malformed => simp [settle]

theorem run_cut (vr : Variant) (k : Nat) :
    ∀ (ops : List (Op V)) (c : Conn V) (j : Nat) (op : Op V), ops[j]? = some op →
    (run vr k c ops).2.take j = (run vr k c (ops.take j)).2 ∧
    (run vr k c ops).2[j]? = some (step vr k (run vr k c (ops.take j)).1 op).2 ∧
    (run vr k c ops).1 =
      (run vr k (step vr k (run vr k c (ops.take j)).1 op).1 (ops.drop (j + 1))).1
  | [], _, _, _, h => by cases h
  | o :: ops, c, 0, op, h => by
    cases h
    exact ⟨rfl, rfl, rfl⟩
  | o :: ops, c, j + 1, op, h => by
    obtain ⟨h1, h2, h3⟩ := run_cut vr k ops (step vr k c o).1 j op h
    exact ⟨congrArg (_ :: ·) h1, h2, h3⟩

/-- **A single response completes the request that caused it**, from any state whose entries
    were handed out by the sends among `pre`; what the future holds to the end is the payload as
    read under the protocol in force when it arrived. -/
theorem run_done_single (vr : Variant) (k : Nat) (ops : List (Op V)) {c : Conn V}
    {pre : List Obs} (hown : Owned pre c) (j t : Nat)
    (h : (run vr k c ops).2[j]? = some (.done [t])) (d : Proto) (m : RawResp V)
    (hop : ops[j]? = some (.recvSingle d m)) :
    ∃ n i, Obs.sent [n] (some t) ∈ pre ++ (run vr k c ops).2.take j ∧
      m.id = some i ∧ pyEq i (.int n) = true ∧
      (run vr k c ops).1.futs[t]? =
        some (settle (processResponse vr ((run vr k c (ops.take j)).1.detect d) m).2) := by
  obtain ⟨htake, hobs, hfin⟩ := run_cut vr k ops c j _ hop
  rw [hobs, Option.some.injEq] at h
  obtain ⟨n, i, hmem, hid, hpy, hval⟩ := recvSingle_done_entry vr k _ d m t h
  rw [htake, hfin]
  exact ⟨n, i, run_owned vr k _ hown _ _ hmem, hid, hpy,
    run_fut_final vr k _ _ t _ hval (settle_ne_pending _)⟩

/-- **A response batch completes the batch that caused it**, from any such state that satisfies
    the invariant (batch keys are strictly increasing, which aligns results with members). -/
theorem run_done_batch (vr : Variant) {k : Nat} (hk : 0 < k) (ops : List (Op V)) {c : Conn V}
    {pre : List Obs} (hinv : Inv c) (hown : Owned pre c) (j t : Nat)
    (h : (run vr k c ops).2[j]? = some (.done [t])) (d : Proto) (ms : List (RawResp V))
    (hop : ops[j]? = some (.recvBatch d ms)) :
    ∃ ns, Obs.sent ns (some t) ∈ pre ++ (run vr k c ops).2.take j ∧
      ms.length = ns.length ∧
      (∀ m ∈ ms, ∃ i n, m.id = some i ∧ n ∈ ns ∧ pyEq i (.int n) = true) ∧
      (∀ n ∈ ns, ∃ m ∈ ms, ∃ i, m.id = some i ∧ pyEq i (.int n) = true) ∧
      ∃ rs : List (Res V), (run vr k c ops).1.futs[t]? = some (.batch rs) ∧
        rs.length = ns.length ∧
        ∀ j' (hj : j' < ns.length) (hj' : j' < rs.length),
          ∃ m ∈ ms, ∃ i, m.id = some i ∧ pyEq i (.int ns[j']) = true ∧ m.res = rs[j'] := by
  obtain ⟨htake, hobs, hfin⟩ := run_cut vr k ops c j _ hop
  rw [hobs, Option.some.injEq] at h
  obtain ⟨ns, hmem, hlen, h1, h2, rs, hval, hrl, hrs⟩ :=
    recvBatch_done_entry vr k (run_inv vr hk _ hinv) d ms t h
  rw [htake, hfin]
  exact ⟨ns, run_owned vr k _ hown _ _ hmem, hlen, h1, h2, rs,
    run_fut_final vr k _ _ t _ hval nofun, hrl, hrs⟩

/-- **completes_causing_request.**  Along every history from a fresh connection (any protocol,
    any start and positive step of the id counter, whatever the peer sends in whatever order, with
    duplicates, unknown ids, cancellations and give-ups in between): if the message received at
    position `j` completes future `t`, then an EARLIER send of the same history handed out future
    `t`, and
    * a single response carries, as its own `"id"`, exactly the one id that send drew, and at the
      END of the history the future still holds exactly what that response carried (its result,
      its error, or the protocol error of a malformed response);
    * a response batch answers exactly the ids `ns` that send drew - as many members as the batch
      has, each member carrying the id of a batch member and each batch member answered - and at
      the end of the history the future holds `rs` with `rs[j]` = the result or error carried by
      the member of the message whose id is `ns[j]`: one outcome per request member, in the order
      the members were added, whatever the order of the members in the response.
    Together with `ids_never_reused` (no other send of the history drew any of these ids) and
    `ticket_sent_once` (no other send handed out future `t`) the response completes the request
    that caused it and no other, with exactly what the peer sent. -/
theorem completes_causing_request (vr : Variant) {k : Nat} (hk : 0 < k) (p : Option Proto)
    (start : Nat) (ops : List (Op V)) (j t : Nat)
    (h : (run vr k (Conn.init p start) ops).2[j]? = some (.done [t])) :
    (∀ d m, ops[j]? = some (.recvSingle d m) →
      ∃ n i, Obs.sent [n] (some t) ∈ (run vr k (Conn.init p start) ops).2.take j ∧
        m.id = some i ∧ pyEq i (.int n) = true ∧
        ∃ pr, (run vr k (Conn.init p start) ops).1.futs[t]? =
          some (settle (processResponse vr pr m).2)) ∧
    (∀ d ms, ops[j]? = some (.recvBatch d ms) →
      ∃ ns, Obs.sent ns (some t) ∈ (run vr k (Conn.init p start) ops).2.take j ∧
        ms.length = ns.length ∧
        (∀ m ∈ ms, ∃ i n, m.id = some i ∧ n ∈ ns ∧ pyEq i (.int n) = true) ∧
        (∀ n ∈ ns, ∃ m ∈ ms, ∃ i, m.id = some i ∧ pyEq i (.int n) = true) ∧
        ∃ rs : List (Res V), (run vr k (Conn.init p start) ops).1.futs[t]? = some (.batch rs) ∧
          rs.length = ns.length ∧
          ∀ j' (hj : j' < ns.length) (hj' : j' < rs.length),
            ∃ m ∈ ms, ∃ i, m.id = some i ∧ pyEq i (.int ns[j']) = true ∧ m.res = rs[j']) :=
  ⟨fun d m hop =>
      let ⟨n, i, hsent, hid, hpy, hval⟩ :=
        run_done_single vr k ops (Owned.init p start) j t h d m hop
      ⟨n, i, hsent, hid, hpy, _, hval⟩,
    run_done_batch vr hk ops (Inv.init p start) (Owned.init p start) j t h⟩

/-- non-vacuity: request 0 is answered, request 1 is sent, the answer to request 0 arrives again
    (rejected: id 0 is not handed out a second time), request 1 is answered: the two completions
    are at positions 1 and 4, by the ids 0 and 1 that the sends at positions 0 and 2 drew -/
example :
    let r := fun (n : Int) (v : Nat) => (⟨some (.int n), true, .val v⟩ : RawResp Nat)
    (run (repaired true true) 1 (Conn.init (some .v2) 0)
      [.sendRequest true, .recvSingle .v2 (r 0 5), .sendRequest true, .recvSingle .v2 (r 0 5),
       .recvSingle .v2 (r 1 6)]).2
      = [.sent [0] (some 0), .done [0], .sent [1] (some 1), .raised .protocolError, .done [1]] ∧
    -- a batch (ids 0, 1, 2) answered in the order 2, 0, 1 while a later single is outstanding:
    -- completed at position 2 by the send at position 0, results in member order to the end
    (run (repaired true true) 1 (Conn.init (some .v2) 0)
      [.sendBatch [.req, .req, .req] true, .sendRequest true,
       .recvBatch .v2 [r 2 22, ⟨some (.int 0), true, .err 20⟩, r 1 21],
       .recvSingle .v2 (r 3 9), .cancelAll])
      = ({ proto := some .v2, next := 4, out := [],
           futs := [.batch [.err 20, .val 21, .val 22], .result 9] },
         [.sent [0, 1, 2] (some 0), .sent [3] (some 1), .done [0], .done [1], .cancelled []]) := by
  decide +kernel

/-- tickets handed out by the sends of a history, in order -/
def sentTickets : List Obs → List Nat
  | [] => []
  | .sent _ (some t) :: r => t :: sentTickets r
  | _ :: r => sentTickets r

/-- **ticket_sent_once.**  The futures handed out along a history are numbered in strictly
    increasing order: no two sends return the same future. -/
theorem ticket_sent_once (vr : Variant) (k : Nat) (ops : List (Op V)) (c : Conn V) :
    (sentTickets (run vr k c ops).2).Pairwise (· < ·) ∧
      ∀ t ∈ sentTickets (run vr k c ops).2, c.futs.length ≤ t := by
  induction ops generalizing c with
  | nil => simp [run, sentTickets]
  | cons op ops ih =>
    obtain ⟨ih1, ih2⟩ := ih (step vr k c op).1
    have later : ∀ t ∈ sentTickets (run vr k (step vr k c op).1 ops).2, c.futs.length ≤ t :=
      fun t ht => Nat.le_trans (step_tickets vr k c op).1 (ih2 t ht)
    simp only [run]
    cases hobs : (step vr k c op).2 with
    | sent ids t =>
      cases t with
      | none => exact ⟨ih1, later⟩
      | some t =>
        obtain ⟨h1, h2⟩ := step_sent_ticket vr k c op ids t hobs
        refine ⟨pairwise_cons.2 ⟨fun b hb => ?_, ih1⟩, fun b hb => ?_⟩
        · have := ih2 b hb
          omega
        · rcases mem_cons.1 hb with rfl | hb
          · exact Nat.le_of_eq h1.symm
          · exact later b hb
    | done _ => exact ⟨ih1, later⟩
    | raised _ => exact ⟨ih1, later⟩
    | cancelled _ => exact ⟨ih1, later⟩

end Aiorpcx.C01
