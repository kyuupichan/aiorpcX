import Aiorpcx.C01.Sort
/-! C01 — the sort with every `<` evaluated explicitly.

    `sortE` is an insertion sort that calls Python's `<` (`pyLt`, which raises `TypeError` across
    classes and on `None`) for every comparison it makes.  `sortE_eq_pySorted` shows that the
    class test used by `pySorted` is exactly "some comparison raises": the two functions agree on
    every input, error cases included. -/
namespace Aiorpcx.C01
open List

variable {α : Type}

/-- insert `x` into a sorted list, comparing with `y < x` as `sorted` does -/
def insertE (x : Id × α) : List (Id × α) → Except PyExc (List (Id × α))
  | [] => .ok [x]
  | y :: ys =>
      match pyLt y.1 x.1 with
      | .error e => .error e
      | .ok true =>
          match insertE x ys with
          | .error e => .error e
          | .ok r => .ok (y :: r)
      | .ok false => .ok (x :: y :: ys)

def sortE : List (Id × α) → Except PyExc (List (Id × α))
  | [] => .ok []
  | x :: xs =>
      match sortE xs with
      | .error e => .error e
      | .ok s => insertE x s

theorem sortE_cons (x : Id × α) (xs : List (Id × α)) :
    sortE (x :: xs) = match sortE xs with
      | .error e => .error e
      | .ok s => insertE x s := rfl

theorem pyLt_same_class (c : SortClass) (p q : Id × α) (hp : sortClassOf p.1 = some c)
    (hq : sortClassOf q.1 = some c) : pyLt p.1 q.1 = .ok (!(leOf c q p)) := by
  cases c with
  | num =>
    obtain ⟨a, ha⟩ := Option.isSome_iff_exists.1 ((sortClassOf_num _).1 hp)
    obtain ⟨b, hb⟩ := Option.isSome_iff_exists.1 ((sortClassOf_num _).1 hq)
    simp only [pyLt, leOf, leNum, Id.numKey, ha, hb, Option.getD_some, Except.ok.injEq]
    by_cases h : a < b
    · simp [h, Int.not_le.2 h]
    · simp [h, Int.not_lt.1 h]
  | str =>
    obtain ⟨s, hs⟩ := (sortClassOf_str _).1 hp
    obtain ⟨t, ht⟩ := (sortClassOf_str _).1 hq
    simp only [pyLt, leOf, leStr, hs, ht, Id.num2, Bool.not_not]

theorem pyLt_diff_class (a b : Id) (h : sortClassOf a ≠ sortClassOf b ∨ sortClassOf a = none) :
    pyLt a b = .error .typeError := by
  unfold pyLt
  split
  · rename_i x y hx hy
    have ha := (sortClassOf_num a).2 (by rw [hx]; rfl)
    have hb := (sortClassOf_num b).2 (by rw [hy]; rfl)
    rcases h with h | h
    · exact absurd (ha.trans hb.symm) h
    · rw [ha] at h
      cases h
  · split
    · rcases h with h | h
      · exact absurd rfl h
      · cases h
    · rfl

theorem insertE_same_class (c : SortClass) (x : Id × α) (hx : sortClassOf x.1 = some c) :
    ∀ (s : List (Id × α)), (∀ y ∈ s, sortClassOf y.1 = some c) →
      insertE x s = .ok (insertBy (leOf c) x s)
  | [], _ => rfl
  | y :: ys, h => by
    have ih := insertE_same_class c x hx ys (fun z hz => h z (mem_cons_of_mem _ hz))
    simp only [insertE, insertBy, pyLt_same_class c y x (h y mem_cons_self) hx, ih]
    cases leOf c x y <;> rfl

theorem insertE_diff_class (x y : Id × α) (ys : List (Id × α))
    (h : sortClassOf y.1 ≠ sortClassOf x.1 ∨ sortClassOf y.1 = none) :
    insertE x (y :: ys) = .error .typeError := by
  simp only [insertE, pyLt_diff_class y.1 x.1 h]

theorem commonClass_cons (i : Id) {is : List Id} (h : is ≠ []) (c : SortClass) :
    commonClass (i :: is) = some c ↔ sortClassOf i = some c ∧ commonClass is = some c := by
  rw [commonClass_some_iff c _ (cons_ne_nil _ _), commonClass_some_iff c _ h, forall_mem_cons]

theorem pySorted_error (x y : Id × α) (rest : List (Id × α))
    (h : ∀ c, sortClassOf x.1 = some c → commonClass ((y :: rest).map Prod.fst) ≠ some c) :
    pySorted (x :: y :: rest) = .error .typeError := by
  rw [pySorted_cons_cons]
  cases hc : commonClass ((x :: y :: rest).map Prod.fst) with
  | none => rfl
  | some c =>
    rw [map_cons, commonClass_cons _ (by simp) c] at hc
    exact absurd hc.2 (h c hc.1)

/-- **the explicit sort is the class-test sort**: `sorted` raises exactly when the ids are not
    all in one class (and there are at least two of them), and otherwise returns the stable
    sort — for every input. -/
theorem sortE_eq_pySorted : ∀ (ps : List (Id × α)), sortE ps = pySorted ps
  | [] => rfl
  | [p] => rfl
  | x :: y :: rest => by
    rw [sortE_cons, sortE_eq_pySorted (y :: rest)]
    cases hrest : commonClass ((y :: rest).map Prod.fst) with
    | none =>
      -- the tail is not in one class
      rw [pySorted_error x y rest (fun c _ => by rw [hrest]; nofun)]
      cases rest with
      | nil =>
        -- [x, y]: y has no class; the one comparison made raises
        exact insertE_diff_class x y [] (.inr hrest)
      | cons z rest' => rw [pySorted_cons_cons, hrest]
    | some c =>
      have hmem : ∀ w ∈ y :: rest, sortClassOf w.1 = some c := fun w hw =>
        (commonClass_some_iff c _ (by simp)).1 hrest _ (mem_map.2 ⟨w, hw, rfl⟩)
      have hsort : ∀ w ∈ insSort (leOf c) (y :: rest), sortClassOf w.1 = some c := fun w hw =>
        hmem w ((insSort_perm _ _).subset hw)
      rw [pySorted_of_class c _ hmem]
      by_cases hx : sortClassOf x.1 = some c
      · -- same class: no comparison raises
        rw [pySorted_of_class c _ (forall_mem_cons.2 ⟨hx, hmem⟩)]
        exact insertE_same_class c x hx _ hsort
      · -- x is in another class (or none): the first comparison raises
        rw [pySorted_error x y rest (fun c' hc' => by rw [hrest]; exact fun h => hx (h ▸ hc'))]
        cases hs : insSort (leOf c) (y :: rest) with
        | nil => simpa [hs] using (insSort_perm (leOf c) (y :: rest)).length_eq
        | cons w ws =>
          have hw : sortClassOf w.1 = some c := hsort w (hs ▸ mem_cons_self)
          exact insertE_diff_class x w ws (.inl (by rw [hw]; exact fun h => hx h.symm))

end Aiorpcx.C01
