import Aiorpcx.C01.Match
/-! C01 — `sorted(zip(ids, results))` puts a permuted batch response back in member order. -/
namespace Aiorpcx.C01
open List

variable {α : Type}

theorem insertBy_perm (le : α → α → Bool) (x : α) (l : List α) : insertBy le x l ~ x :: l := by
  induction l with
  | nil => exact Perm.refl _
  | cons y ys ih =>
    simp only [insertBy]
    split
    · exact Perm.refl _
    · exact (Perm.cons y ih).trans (Perm.swap x y ys)

theorem insSort_perm (le : α → α → Bool) (l : List α) : insSort le l ~ l := by
  induction l with
  | nil => exact Perm.refl _
  | cons x xs ih => exact (insertBy_perm le x _).trans (Perm.cons x ih)

theorem insertBy_sorted {le : α → α → Bool}
    (htr : ∀ a b c, le a b = true → le b c = true → le a c = true)
    (htot : ∀ a b, (le a b || le b a) = true) (x : α) (l : List α)
    (h : l.Pairwise (fun a b => le a b = true)) :
    (insertBy le x l).Pairwise (fun a b => le a b = true) := by
  induction l with
  | nil => simp [insertBy]
  | cons y ys ih =>
    rw [pairwise_cons] at h
    simp only [insertBy]
    split
    · rename_i hxy
      rw [pairwise_cons]
      refine ⟨?_, pairwise_cons.2 h⟩
      intro z hz
      rcases mem_cons.1 hz with rfl | hz
      · exact hxy
      · exact htr _ _ _ hxy (h.1 z hz)
    · rename_i hxy
      have hyx : le y x = true := by
        have := htot x y
        simp only [Bool.or_eq_true] at this
        rcases this with h1 | h1
        · exact absurd h1 hxy
        · exact h1
      rw [pairwise_cons]
      refine ⟨?_, ih h.2⟩
      intro z hz
      have : z ∈ x :: ys := (insertBy_perm le x ys).subset hz
      rcases mem_cons.1 this with rfl | hz
      · exact hyx
      · exact h.1 z hz

theorem insSort_sorted {le : α → α → Bool}
    (htr : ∀ a b c, le a b = true → le b c = true → le a c = true)
    (htot : ∀ a b, (le a b || le b a) = true) (l : List α) :
    (insSort le l).Pairwise (fun a b => le a b = true) := by
  induction l with
  | nil => simp [insSort]
  | cons x xs ih => exact insertBy_sorted htr htot x _ ih

def leOf : SortClass → (Id × α) → (Id × α) → Bool
  | .num => leNum
  | .str => leStr

theorem sortClassOf_num (i : Id) : sortClassOf i = some .num ↔ i.num2.isSome = true := by
  cases i <;> simp [sortClassOf, Id.num2]

theorem sortClassOf_str (i : Id) : sortClassOf i = some .str ↔ ∃ s, i = .str s := by
  cases i <;> simp [sortClassOf, Id.num2]

theorem commonClass_cons_cons (i j : Id) (is : List Id) :
    commonClass (i :: j :: is) =
      match sortClassOf i, commonClass (j :: is) with
      | some a, some b => if a = b then some a else none
      | _, _ => none := rfl

theorem commonClass_some_iff (c : SortClass) : ∀ (ids : List Id), ids ≠ [] →
    (commonClass ids = some c ↔ ∀ i ∈ ids, sortClassOf i = some c)
  | [], h => absurd rfl h
  | [i], _ => by simp [commonClass]
  | i :: j :: is, _ => by
    have ih := commonClass_some_iff c (j :: is) (by simp)
    rw [commonClass_cons_cons, forall_mem_cons, ← ih]
    cases sortClassOf i with
    | none => simp
    | some a =>
      cases commonClass (j :: is) with
      | none => simp
      | some b =>
        by_cases hab : a = b
        · subst hab; simp
        · simp only [hab, ↓reduceIte, Option.some.injEq]
          exact ⟨nofun, fun h => absurd (h.1.trans h.2.symm) hab⟩

theorem pySorted_cons_cons (x y : Id × α) (rest : List (Id × α)) :
    pySorted (x :: y :: rest) =
      match commonClass ((x :: y :: rest).map Prod.fst) with
      | none => .error .typeError
      | some c => .ok (insSort (leOf c) (x :: y :: rest)) := by
  unfold pySorted
  cases commonClass ((x :: y :: rest).map Prod.fst) with
  | none => rfl
  | some c => cases c <;> rfl

theorem pySorted_of_class (c : SortClass) : ∀ (ps : List (Id × α)),
    (∀ x ∈ ps, sortClassOf x.1 = some c) → pySorted ps = .ok (insSort (leOf c) ps)
  | [], _ => rfl
  | [_], _ => rfl
  | x :: y :: rest, h => by
    rw [pySorted_cons_cons, (commonClass_some_iff c _ (by simp)).2 fun i hi => by
      obtain ⟨z, hz, rfl⟩ := mem_map.1 hi
      exact h z hz]

theorem pySorted_perm {ps s : List (Id × α)} (h : pySorted ps = .ok s) : s ~ ps := by
  match ps, h with
  | [], h => cases h; exact Perm.refl _
  | [_], h => cases h; exact Perm.refl _
  | x :: y :: rest, h =>
    rw [pySorted_cons_cons] at h
    split at h
    · cases h
    · cases h; exact insSort_perm _ _

theorem leNum_trans (a b c : Id × α) : leNum a b = true → leNum b c = true → leNum a c = true := by
  simp only [leNum, decide_eq_true_eq]; omega

theorem leNum_total (a b : Id × α) : (leNum a b || leNum b a) = true := by
  simp only [leNum, Bool.or_eq_true, decide_eq_true_eq]; omega

/-- the encoding of the ids of a batch key as values of `Id.num2` -/
def keyVals (ns : List Nat) : List (Option Int) := ns.map fun n : Nat => some (2 * (n : Int))

theorem num2_getElem_of_keyVals {s : List (Id × α)} {ns : List Nat}
    (hsk : s.map (fun x => x.1.num2) = keyVals ns) (j : Nat) (hj : j < s.length)
    (hj' : j < ns.length) : s[j].1.num2 = some (2 * (ns[j] : Int)) := by
  have := congrArg (·[j]?) hsk
  simpa [keyVals, hj, hj'] using this

theorem isUnhashable_of_num2 {i : Id} (h : i.num2.isSome = true) : i.isUnhashable = false := by
  cases i <;> first | rfl | cases h

/-- **Alignment.**  If the ids a peer returned are, as numbers, a permutation of the strictly
    increasing ids the batch was sent with, then sorting the (id, result) pairs by id succeeds,
    is a rearrangement of what the peer sent, and carries member `k`'s id at position `k`. -/
theorem sorted_aligned (ns : List Nat) (hinc : ns.Pairwise (· < ·)) (ps : List (Id × α))
    (hperm : ps.map (fun x => x.1.num2) ~ keyVals ns) :
    ∃ s, pySorted ps = .ok s ∧ s ~ ps ∧ s.map (fun x => x.1.num2) = keyVals ns := by
  have hnum : ∀ x ∈ ps, x.1.num2.isSome = true := by
    intro x hx
    have : x.1.num2 ∈ keyVals ns := hperm.subset (mem_map.2 ⟨x, hx, rfl⟩)
    obtain ⟨n, _, hn⟩ := mem_map.1 this
    simp [← hn]
  refine ⟨insSort leNum ps, pySorted_of_class .num ps fun x hx => (sortClassOf_num _).2 (hnum x hx),
    insSort_perm _ _, ?_⟩
  have h1 : (insSort leNum ps).map (fun x => x.1.num2) ~ keyVals ns :=
    ((insSort_perm _ _).map _).trans hperm
  -- both lists are sorted by number, and a sorted list has no other sorted rearrangement
  refine Perm.eq_of_pairwise (le := fun a b : Option Int => a.getD 0 ≤ b.getD 0) ?_ ?_ ?_ h1
  · intro a b ha hb hab hba
    obtain ⟨n, _, rfl⟩ := mem_map.1 (h1.subset ha)
    obtain ⟨m, _, rfl⟩ := mem_map.1 hb
    exact congrArg some (Int.le_antisymm hab hba)
  · rw [pairwise_map]
    exact (insSort_sorted leNum_trans leNum_total ps).imp of_decide_eq_true
  · rw [keyVals, pairwise_map]
    exact hinc.imp fun h => by simp only [Option.getD_some]; omega

/-- **Converse.**  Whatever the sort returns is a rearrangement of what was received: the
    sorted ids reproduce a key only if the received ids are a permutation of it. -/
theorem sorted_mismatch (ns : List Nat) (ps s : List (Id × α)) (h : pySorted ps = .ok s)
    (hk : s.map (fun x => x.1.num2) = keyVals ns) :
    ps.map (fun x => x.1.num2) ~ keyVals ns := by
  have := (pySorted_perm h).map (fun x : Id × α => x.1.num2)
  rw [hk] at this
  exact this.symm

end Aiorpcx.C01
