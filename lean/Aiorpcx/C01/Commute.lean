import Aiorpcx.C01.Step
/-! C01 — receiving responses that address different requests commutes. -/
namespace Aiorpcx.C01
open List

variable {V : Type}

/-- what a received response / response batch amounts to once the protocol is settled:
    a rejection, or "pop the entry this predicate selects and settle its future with `f`" -/
inductive Act (V : Type) where
  | reject (e : PyExc)
  | single (i : Id) (f : Fut V)
  | batch (ids : List Id) (f : Fut V)

def Act.pred : Act V → Key × Nat → Bool
  | .reject _ => fun _ => false
  | .single i _ => matchSingle i
  | .batch ids _ => matchBatch ids

def applyAct (c : Conn V) : Act V → Conn V × Obs
  | .reject e => (c, .raised e)
  | .single i f => complete c (matchSingle i) f
  | .batch ids f => complete c (matchBatch ids) f

/-- the request(s) an action can address, as numbers: `none` if it can address nothing -/
def Act.sig : Act V → Option (Bool × List (Option Int))
  | .reject _ => none
  | .single i _ => some (false, [i.num2])
  | .batch ids _ => some (true, ids.map Id.num2)

def respAct (vr : Variant) (i : Id) (b : Body V) : Act V :=
  if vr.rejectBool && i.isBool then .reject .protocolError
  else if i.isUnhashable then .reject (if vr.lookupGuard then .protocolError else .typeError)
  else .single i (settle b)

def batchAct (vr : Variant) (items : List (Id × Body V)) : Act V :=
  if items.isEmpty then .reject .protocolError
  else if items.any (·.2.isMalformed) then .reject .protocolError
  else
    match pySorted (okPairs items) with
    | .error _ => .reject (if vr.sortGuard then .protocolError else .typeError)
    | .ok ordered =>
        if ordered.any (·.1.isUnhashable) then
          .reject (if vr.lookupGuard then .protocolError else .typeError)
        else .batch (ordered.map Prod.fst) (.batch (ordered.map Prod.snd))

/-- the action of a receive operation under protocol `p` (no-op for anything else) -/
def actOf (vr : Variant) (p : Proto) : Op V → Act V
  | .recvSingle _ m => respAct vr (processResponse vr p m).1 (processResponse vr p m).2
  | .recvBatch _ ms =>
      if !p.allowBatches then .reject .protocolError
      else batchAct vr (ms.map (processResponse vr p))
  | _ => .reject .protocolError

def isRecv : Op V → Bool
  | .recvSingle _ _ => true
  | .recvBatch _ _ => true
  | _ => false

theorem respAct_sig (vr : Variant) (i : Id) (b : Body V) :
    (respAct vr i b).sig = none ∨ (respAct vr i b).sig = some (false, [i.num2]) := by
  unfold respAct
  by_cases h1 : (vr.rejectBool && i.isBool) = true
  · rw [if_pos h1]
    exact .inl rfl
  · by_cases h2 : i.isUnhashable = true
    · rw [if_neg h1, if_pos h2]
      exact .inl rfl
    · rw [if_neg h1, if_neg h2]
      exact .inr rfl

theorem recvResponse_eq_act (vr : Variant) (c : Conn V) (i : Id) (b : Body V) :
    recvResponse vr c i b = applyAct c (respAct vr i b) := by
  unfold recvResponse respAct
  rw [apply_ite (applyAct c), apply_ite (applyAct c)]
  rfl

theorem recvResponseBatch_eq_act (vr : Variant) (c : Conn V) (items : List (Id × Body V)) :
    recvResponseBatch vr c items = applyAct c (batchAct vr items) := by
  unfold recvResponseBatch batchAct
  by_cases h1 : items.isEmpty = true
  · simp [h1, applyAct]
  · by_cases h2 : items.any (·.2.isMalformed) = true
    · simp [h1, h2, applyAct]
    · cases hs : pySorted (okPairs items) with
      | error e => simp [h1, h2, applyAct]
      | ok ordered =>
        by_cases h3 : ordered.any (·.1.isUnhashable) = true <;> simp [h1, h2, h3, applyAct]

theorem settled_eq {c : Conn V} {p : Proto} (hp : c.proto = some p) (d : Proto) :
    c.settled d = c ∧ c.detect d = p := by
  cases c
  simp_all [Conn.settled, Conn.detect]

theorem step_eq_act (vr : Variant) (k : Nat) {c : Conn V} {p : Proto} (hp : c.proto = some p)
    (op : Op V) (hr : isRecv op = true) : step vr k c op = applyAct c (actOf vr p op) := by
  cases op with
  | recvSingle d m =>
    rw [step_recvSingle, (settled_eq hp d).1, (settled_eq hp d).2, recvResponse_eq_act]; rfl
  | recvBatch d ms =>
    rw [step_recvBatch, (settled_eq hp d).1, (settled_eq hp d).2]
    simp only [actOf]
    split
    · rfl
    · exact recvResponseBatch_eq_act _ _ _
  | sendRequest _ => cases hr
  | sendBatch _ _ => cases hr
  | recvOther _ => cases hr
  | cancelAll => cases hr
  | extCancel _ => cases hr

theorem applyAct_inv {c : Conn V} (h : Inv c) (a : Act V) : Inv (applyAct c a).1 := by
  cases a with
  | reject e => exact h
  | single i f => exact complete_inv h _ _
  | batch ids f => exact complete_inv h _ _

/-- the request(s) an entry stands for, in the form of `Act.sig` -/
def Key.sig : Key → Bool × List (Option Int)
  | .single n => (false, [some (2 * (n : Int))])
  | .batch ns => (true, keyVals ns)

theorem sig_of_pred {a : Act V} {x : Key × Nat} (h : a.pred x = true) : a.sig = some x.1.sig := by
  obtain ⟨key, t⟩ := x
  cases a with
  | reject e => cases h
  | single i f =>
    cases key with
    | single n => exact congrArg (fun v => some (false, [v])) ((pyEq_int_iff i n).1 h)
    | batch ns => cases h
  | batch ids f =>
    cases key with
    | single n => cases h
    | batch ns => exact congrArg (fun v => some (true, v)) ((tupleEq_iff ids ns).1 h)

theorem pred_disjoint (a b : Act V) (h : a.sig ≠ b.sig) :
    ∀ x : Key × Nat, ¬ (a.pred x = true ∧ b.pred x = true) :=
  fun _ ⟨ha, hb⟩ => h ((sig_of_pred ha).trans (sig_of_pred hb).symm)

theorem exists_complete (a : Act V) (ha : a.sig ≠ none) :
    ∃ f, ∀ c : Conn V, applyAct c a = complete c a.pred f := by
  cases a with
  | reject e => exact absurd rfl ha
  | single i f => exact ⟨f, fun _ => rfl⟩
  | batch ids f => exact ⟨f, fun _ => rfl⟩

theorem applyAct_eq_complete (c : Conn V) (a : Act V) (ha : a.sig ≠ none) :
    ∃ f, applyAct c a = complete c a.pred f :=
  let ⟨f, h⟩ := exists_complete a ha
  ⟨f, h c⟩

theorem Conn.ext' {a b : Conn V} (h1 : a.proto = b.proto) (h2 : a.next = b.next)
    (h3 : a.out = b.out) (h4 : a.futs = b.futs) : a = b := by
  cases a; cases b; simp_all

def setIf (futs : List (Fut V)) (e : Option (Key × Nat)) (f : Fut V) : List (Fut V) :=
  match e with
  | some e => if isPending futs e.2 then futs.set e.2 f else futs
  | none => futs

def obsIf (futs : List (Fut V)) (e : Option (Key × Nat)) : Obs :=
  match e with
  | some e => if isPending futs e.2 then .done [e.2] else .done []
  | none => .raised .protocolError

theorem isPending_set_ne (futs : List (Fut V)) (t t' : Nat) (f : Fut V) (h : t ≠ t') :
    isPending (futs.set t f) t' = isPending futs t' := by
  simp [isPending, h]

theorem complete_fields (c : Conn V) (p : Key × Nat → Bool) (f : Fut V) :
    (complete c p f).1.proto = c.proto ∧ (complete c p f).1.next = c.next ∧
    (complete c p f).1.out = c.out.eraseP p ∧
    (complete c p f).1.futs = setIf c.futs (c.out.find? p) f ∧
    (complete c p f).2 = obsIf c.futs (c.out.find? p) := by
  unfold complete setIf obsIf
  cases h : c.out.find? p with
  | none => exact ⟨rfl, rfl, (eraseP_of_forall_not (find?_eq_none.1 h)).symm, rfl, rfl⟩
  | some e =>
    dsimp only
    split <;> exact ⟨rfl, rfl, rfl, rfl, rfl⟩

theorem applyAct_proto (c : Conn V) (a : Act V) : (applyAct c a).1.proto = c.proto := by
  cases a with
  | reject e => rfl
  | single i f => exact (complete_fields c _ f).1
  | batch ids f => exact (complete_fields c _ f).1

theorem setIf_comm (futs : List (Fut V)) (o1 o2 : Option (Key × Nat)) (f g : Fut V)
    (hne : ∀ e1 ∈ o1, ∀ e2 ∈ o2, e1.2 ≠ e2.2) :
    setIf (setIf futs o1 f) o2 g = setIf (setIf futs o2 g) o1 f := by
  cases o1 with
  | none => rfl
  | some e1 =>
    cases o2 with
    | none => rfl
    | some e2 =>
      have hne := hne e1 rfl e2 rfl
      simp only [setIf]
      by_cases h1 : isPending futs e1.2 = true <;> by_cases h2 : isPending futs e2.2 = true <;>
        simp [h1, h2, isPending_set_ne, hne, Ne.symm hne, List.set_comm _ _ hne]

theorem obsIf_setIf (futs : List (Fut V)) (o1 o2 : Option (Key × Nat)) (f : Fut V)
    (hne : ∀ e1 ∈ o1, ∀ e2 ∈ o2, e1.2 ≠ e2.2) : obsIf (setIf futs o1 f) o2 = obsIf futs o2 := by
  cases o1 with
  | none => rfl
  | some e1 =>
    cases o2 with
    | none => rfl
    | some e2 =>
      simp only [setIf, obsIf]
      by_cases h1 : isPending futs e1.2 = true <;> simp [h1, isPending_set_ne, hne e1 rfl e2 rfl]

theorem complete_comm {c : Conn V} (hinv : Inv c) (p q : Key × Nat → Bool) (f g : Fut V)
    (hd : ∀ x : Key × Nat, ¬ (p x = true ∧ q x = true)) :
    (complete (complete c p f).1 q g).1 = (complete (complete c q g).1 p f).1 ∧
    (complete (complete c p f).1 q g).2 = (complete c q g).2 ∧
    (complete (complete c q g).1 p f).2 = (complete c p f).2 := by
  have hfq : (c.out.eraseP p).find? q = c.out.find? q :=
    find?_eraseP_of_disjoint p q _ fun x _ => hd x
  have hfp : (c.out.eraseP q).find? p = c.out.find? p :=
    find?_eraseP_of_disjoint q p _ fun x _ h => hd x ⟨h.2, h.1⟩
  have hcomm : (c.out.eraseP p).eraseP q = (c.out.eraseP q).eraseP p :=
    eraseP_comm fun x _ => Decidable.not_and_iff_not_or_not.1 (hd x)
  obtain ⟨p1, p2, p3, p4, p5⟩ := complete_fields c p f
  obtain ⟨q1, q2, q3, q4, q5⟩ := complete_fields c q g
  obtain ⟨a1, a2, a3, a4, a5⟩ := complete_fields (complete c p f).1 q g
  obtain ⟨b1, b2, b3, b4, b5⟩ := complete_fields (complete c q g).1 p f
  rw [p3, hfq, p4] at a4 a5
  rw [q3, hfp, q4] at b4 b5
  -- the two selected entries (if both exist) have different tickets
  have ht : ∀ e1 ∈ c.out.find? p, ∀ e2 ∈ c.out.find? q, e1.2 ≠ e2.2 := by
    intro e1 hp e2 hq h
    cases hinv.ticket_unique (mem_of_find?_eq_some hp) (mem_of_find?_eq_some hq) h
    exact hd e1 ⟨find?_some hp, find?_some hq⟩
  refine ⟨Conn.ext' (by rw [a1, p1, b1, q1]) (by rw [a2, p2, b2, q2])
    (by rw [a3, p3, b3, q3, hcomm]) ?_, ?_, ?_⟩
  · rw [a4, b4]
    exact setIf_comm _ _ _ _ _ ht
  · rw [a5, q5]
    exact obsIf_setIf _ _ _ _ ht
  · rw [b5, p5]
    exact obsIf_setIf _ _ _ _ fun e2 h2 e1 h1 => (ht e1 h1 e2 h2).symm

/-- two actions may be swapped: they are the same action, or one of them can address nothing,
    or they address different requests -/
def Compatible (a b : Act V) : Prop := a = b ∨ a.sig = none ∨ b.sig = none ∨ a.sig ≠ b.sig

theorem applyAct_fst_of_sig_none (c : Conn V) (a : Act V) (h : a.sig = none) :
    (applyAct c a).1 = c := by
  cases a with
  | reject e => rfl
  | single i f => cases h
  | batch ids f => cases h

theorem applyAct_comm {c : Conn V} (hinv : Inv c) (a b : Act V) (h : Compatible a b) :
    (applyAct (applyAct c a).1 b).1 = (applyAct (applyAct c b).1 a).1 := by
  by_cases ha : a.sig = none
  · rw [applyAct_fst_of_sig_none c a ha, applyAct_fst_of_sig_none _ a ha]
  by_cases hb : b.sig = none
  · rw [applyAct_fst_of_sig_none c b hb, applyAct_fst_of_sig_none _ b hb]
  rcases h with rfl | h | h | h
  · rfl
  · exact absurd h ha
  · exact absurd h hb
  · obtain ⟨f, hf⟩ := exists_complete a ha
    obtain ⟨g, hg⟩ := exists_complete b hb
    simp only [hf, hg]
    exact (complete_comm hinv _ _ f g (pred_disjoint a b h)).1

/-- apply a stream of response actions -/
def runActs (c : Conn V) (acts : List (Act V)) : Conn V :=
  acts.foldl (fun c a => (applyAct c a).1) c

theorem runActs_inv {c : Conn V} (h : Inv c) (acts : List (Act V)) : Inv (runActs c acts) := by
  induction acts generalizing c with
  | nil => exact h
  | cons a as ih => exact ih (applyAct_inv h a)

theorem runActs_perm {c : Conn V} (hinv : Inv c) {l₁ l₂ : List (Act V)} (hp : l₁ ~ l₂)
    (hc : l₁.Pairwise Compatible) : runActs c l₁ = runActs c l₂ := by
  -- fold over the subtype of states satisfying the invariant
  let f : {c : Conn V // Inv c} → Act V → {c : Conn V // Inv c} :=
    fun z a => ⟨(applyAct z.1 a).1, applyAct_inv z.2 a⟩
  have hval : ∀ (l : List (Act V)) (z : {c : Conn V // Inv c}),
      (l.foldl f z).1 = runActs z.1 l := by
    intro l
    induction l with
    | nil => intro z; rfl
    | cons a as ih => intro z; simp only [foldl_cons, runActs]; exact ih (f z a)
  have hall : ∀ x ∈ l₁, ∀ y ∈ l₁, Compatible x y := by
    intro x hx y hy
    by_cases hxy : x = y
    · exact Or.inl hxy
    · exact pairwise_of_mem_ne (R := Compatible) (by
        rintro a b (h | h | h | h)
        · exact Or.inl h.symm
        · exact Or.inr (Or.inr (Or.inl h))
        · exact Or.inr (Or.inl h)
        · exact Or.inr (Or.inr (Or.inr (Ne.symm h)))) hc hx hy hxy
  have := Perm.foldl_eq' (f := f) hp (by
    intro x hx y hy z
    exact Subtype.ext (applyAct_comm z.2 x y (hall x hx y hy))) ⟨c, hinv⟩
  have h2 := congrArg Subtype.val this
  rwa [hval, hval] at h2

theorem run_eq_runActs (vr : Variant) (k : Nat) (p : Proto) (ops : List (Op V))
    (hr : ∀ op ∈ ops, isRecv op = true) {c : Conn V} (hp : c.proto = some p) :
    (run vr k c ops).1 = runActs c (ops.map (actOf vr p)) := by
  induction ops generalizing c with
  | nil => rfl
  | cons op ops ih =>
    simp only [run, map_cons, runActs, foldl_cons]
    rw [step_eq_act vr k hp op (hr op (by simp))]
    exact ih (fun o ho => hr o (by simp [ho])) (by rw [applyAct_proto]; exact hp)

end Aiorpcx.C01
