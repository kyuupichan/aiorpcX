import Aiorpcx.C01.Sort
/-! C01 — a received response or response batch is refused, or pops one entry. -/
namespace Aiorpcx.C01
open List

variable {V : Type}

theorem step_recvSingle (vr : Variant) (k : Nat) (c : Conn V) (d : Proto) (m : RawResp V) :
    step vr k c (.recvSingle d m) =
      recvResponse vr (c.settled d) (processResponse vr (c.detect d) m).1
        (processResponse vr (c.detect d) m).2 := rfl

theorem step_recvBatch (vr : Variant) (k : Nat) (c : Conn V) (d : Proto) (ms : List (RawResp V)) :
    step vr k c (.recvBatch d ms) =
      if !(c.detect d).allowBatches then (c.settled d, .raised .protocolError)
      else recvResponseBatch vr (c.settled d) (ms.map (processResponse vr (c.detect d))) := rfl

theorem okPairs_map_ok (pairs : List (Id × Res V)) :
    okPairs (pairs.map fun x => (x.1, Body.ok x.2)) = pairs := by
  induction pairs with
  | nil => rfl
  | cons x xs ih => obtain ⟨i, r⟩ := x; simp [okPairs, ih]

theorem any_malformed_map_ok (pairs : List (Id × Res V)) :
    (pairs.map fun x => (x.1, Body.ok x.2)).any (·.2.isMalformed) = false :=
  any_eq_false.2 fun x hx => by
    obtain ⟨y, _, rfl⟩ := mem_map.1 hx
    exact Bool.false_ne_true

theorem eq_map_ok_of_no_malformed : ∀ (items : List (Id × Body V)),
    items.any (·.2.isMalformed) = false →
      items = (okPairs items).map fun x => (x.1, Body.ok x.2)
  | [], _ => rfl
  | (i, .ok r) :: rest, h =>
    congrArg ((i, Body.ok r) :: ·)
      (eq_map_ok_of_no_malformed rest (Bool.or_eq_false_iff.1 h).2)
  | (_, .malformed) :: _, h => nomatch (Bool.or_eq_false_iff.1 h).1

theorem recvResponseBatch_ok (vr : Variant) (c : Conn V) {pairs s : List (Id × Res V)}
    (hne : pairs ≠ []) (hs : pySorted pairs = .ok s) (hun : s.any (·.1.isUnhashable) = false) :
    recvResponseBatch vr c (pairs.map fun x => (x.1, Body.ok x.2)) =
      complete c (matchBatch (s.map Prod.fst)) (.batch (s.map Prod.snd)) := by
  unfold recvResponseBatch
  rw [if_neg (by simpa using hne), any_malformed_map_ok, okPairs_map_ok, hs]
  simp only [hun, Bool.false_eq_true, ↓reduceIte]

theorem processResponse_fst (vr : Variant) (p : Proto) (m : RawResp V) :
    (processResponse vr p m).1 = .null ∨ m.id = some (processResponse vr p m).1 := by
  unfold processResponse
  cases h : m.id with
  | none => exact Or.inl rfl
  | some i =>
    simp only
    split
    · exact Or.inl rfl
    · split <;> exact Or.inr rfl

theorem id_of_pyEq (vr : Variant) (p : Proto) (m : RawResp V) (n : Nat)
    (h : pyEq (processResponse vr p m).1 (.int n) = true) :
    m.id = some (processResponse vr p m).1 := by
  rcases processResponse_fst vr p m with h0 | h0
  · rw [h0] at h; simp [pyEq, Id.num2] at h
  · exact h0

theorem processResponse_ok (vr : Variant) (p : Proto) (m : RawResp V) (i : Id) (r : Res V)
    (h : processResponse vr p m = (i, .ok r)) : m.id = some i ∧ r = m.res := by
  unfold processResponse at h
  cases hid : m.id with
  | none => simp [hid] at h
  | some i' =>
    simp only [hid] at h
    split at h
    · simp at h
    · split at h
      · simp at h
      · simp only [Prod.mk.injEq, Body.ok.injEq] at h
        exact ⟨by rw [h.1], h.2.symm⟩

/-- where a guard decides between the two exceptions, `TypeError` means it is missing -/
theorem guard_typeError {g : Bool}
    (h : (if g = true then PyExc.protocolError else .typeError) = .typeError) : g = false := by
  cases g
  · rfl
  · cases h

theorem recvResponse_cases (vr : Variant) (c : Conn V) (i : Id) (b : Body V) :
    (∃ e, recvResponse vr c i b = (c, .raised e) ∧
      (e = .typeError → vr.lookupGuard = false ∧ i.isUnhashable = true)) ∨
    recvResponse vr c i b = complete c (matchSingle i) (settle b) := by
  unfold recvResponse
  by_cases h1 : (vr.rejectBool && i.isBool) = true
  · rw [if_pos h1]
    exact .inl ⟨_, rfl, nofun⟩
  by_cases h2 : i.isUnhashable = true
  · rw [if_neg h1, if_pos h2]
    exact .inl ⟨_, rfl, fun he => ⟨guard_typeError he, h2⟩⟩
  · rw [if_neg h1, if_neg h2]
    exact .inr rfl

/-- no request has the id `null` -/
theorem recvResponse_null (vr : Variant) (c : Conn V) (b : Body V) :
    recvResponse vr c .null b = (c, .raised .protocolError) := by
  unfold recvResponse
  rw [if_neg (by simp [Id.isBool]), if_neg (by simp [Id.isUnhashable])]
  exact complete_none _ _ fun ⟨key, _⟩ _ => by cases key <;> rfl

/-- A single response either raises and leaves everything as it was, or pops an outstanding
    single request whose id it equals and settles that request's future with what it carries. -/
theorem recvSingle_cases (vr : Variant) (k : Nat) (c : Conn V) (d : Proto) (m : RawResp V) :
    (∃ e, step vr k c (.recvSingle d m) = (c.settled d, .raised e) ∧
      (e = .typeError → vr.lookupGuard = false ∧
        (processResponse vr (c.detect d) m).1.isUnhashable = true)) ∨
    ∃ n t, (Key.single n, t) ∈ c.out ∧
      pyEq (processResponse vr (c.detect d) m).1 (.int n) = true ∧
      step vr k c (.recvSingle d m) =
        popped (c.settled d) (.single n, t) (settle (processResponse vr (c.detect d) m).2) := by
  rw [step_recvSingle]
  rcases recvResponse_cases vr (c.settled d) (processResponse vr (c.detect d) m).1
    (processResponse vr (c.detect d) m).2 with hr | hr
  · exact .inl hr
  · rcases complete_cases (c.settled d) (matchSingle (processResponse vr (c.detect d) m).1)
        (settle (processResponse vr (c.detect d) m).2) with ⟨_, hc⟩ | ⟨⟨key, t⟩, he, hp, hc⟩
    · exact .inl ⟨_, hr.trans hc, nofun⟩
    · cases key with
      | batch ns => cases hp
      | single n => exact .inr ⟨n, t, he, hp, hr.trans hc⟩

theorem recvResponseBatch_cases (vr : Variant) (c : Conn V) (items : List (Id × Body V)) :
    (∃ e, recvResponseBatch vr c items = (c, .raised e) ∧
      (e = .typeError → vr.lookupGuard = false ∨ vr.sortGuard = false)) ∨
    ∃ s, items.any (·.2.isMalformed) = false ∧ pySorted (okPairs items) = .ok s ∧
      recvResponseBatch vr c items =
        complete c (matchBatch (s.map Prod.fst)) (.batch (s.map Prod.snd)) := by
  unfold recvResponseBatch
  by_cases h1 : items.isEmpty = true
  · rw [if_pos h1]
    exact .inl ⟨_, rfl, nofun⟩
  by_cases h2 : items.any (·.2.isMalformed) = true
  · rw [if_neg h1, if_pos h2]
    exact .inl ⟨_, rfl, nofun⟩
  rw [if_neg h1, if_neg h2]
  cases pySorted (okPairs items) with
  | error e => exact .inl ⟨_, rfl, fun he => .inr (guard_typeError he)⟩
  | ok s =>
    by_cases h3 : s.any (·.1.isUnhashable) = true
    · exact .inl ⟨_, if_pos h3, fun he => .inl (guard_typeError he)⟩
    · exact .inr ⟨s, Bool.eq_false_iff.2 h2, rfl, if_neg h3⟩

/-- A response batch either raises and leaves everything as it was (`TypeError` only with one of
    the guards F4/F5 missing), or every member is well-formed and the ids, sorted, are as numbers
    the key of an outstanding batch: that entry is popped and its future receives the results in
    sorted order. -/
theorem recvBatch_cases (vr : Variant) (k : Nat) (c : Conn V) (d : Proto) (ms : List (RawResp V)) :
    (∃ e, step vr k c (.recvBatch d ms) = (c.settled d, .raised e) ∧
      (e = .typeError → vr.lookupGuard = false ∨ vr.sortGuard = false)) ∨
    ∃ ns t s, (Key.batch ns, t) ∈ c.out ∧ (c.detect d).allowBatches = true ∧
      (ms.map (processResponse vr (c.detect d))).any (·.2.isMalformed) = false ∧
      pySorted (okPairs (ms.map (processResponse vr (c.detect d)))) = .ok s ∧
      s.map (fun x => x.1.num2) = keyVals ns ∧
      step vr k c (.recvBatch d ms) =
        popped (c.settled d) (.batch ns, t) (.batch (s.map Prod.snd)) := by
  rw [step_recvBatch]
  by_cases hb : (c.detect d).allowBatches = true
  · rw [if_neg (by simp [hb])]
    rcases recvResponseBatch_cases vr (c.settled d) (ms.map (processResponse vr (c.detect d)))
      with hr | ⟨s, hmal, hs, hr⟩
    · exact .inl hr
    · rcases complete_cases (c.settled d) (matchBatch (s.map Prod.fst))
          (.batch (s.map Prod.snd)) with ⟨_, hc⟩ | ⟨⟨key, t⟩, he, hp, hc⟩
      · exact .inl ⟨_, hr.trans hc, nofun⟩
      · cases key with
        | single n => cases hp
        | batch ns =>
          have h := (tupleEq_iff _ _).1 hp
          rw [map_map] at h
          exact .inr ⟨ns, t, s, he, hb, hmal, hs, h, hr.trans hc⟩
  · rw [if_pos (by simp [hb])]
    exact .inl ⟨_, rfl, nofun⟩

end Aiorpcx.C01
