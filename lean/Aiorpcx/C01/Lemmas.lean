import Aiorpcx.C01.Model
import Aiorpcx.C01.ListLemmas
/-! C01 — the connection invariant, and what popping an entry of `_requests` does. -/
namespace Aiorpcx.C01
open List

variable {V : Type}

/-- The invariant of `JSONRPCConnection._requests` / `_id_counter`. -/
structure Inv (c : Conn V) : Prop where
  /-- ids outstanding at the same time, flattened over batches, are pairwise distinct -/
  ids_nodup : c.outIds.Nodup
  /-- and were all drawn from the counter already -/
  ids_lt : ∀ n ∈ c.outIds, n < c.next
  /-- a batch key is a non-empty strictly increasing tuple -/
  key_ok : ∀ e ∈ c.out, e.1.ids ≠ [] ∧ e.1.ids.Pairwise (· < ·)
  /-- every entry has its own future -/
  tickets_nodup : (c.out.map Prod.snd).Nodup
  tickets_lt : ∀ e ∈ c.out, e.2 < c.futs.length

theorem Inv.init (p : Option Proto) (s : Nat) : Inv (Conn.init (V := V) p s) := by
  constructor <;> simp [Conn.init, Conn.outIds]

theorem Inv.of_sublist {c c' : Conn V} (h : Inv c) (hs : c'.out <+ c.out)
    (hn : c.next ≤ c'.next) (hf : c.futs.length ≤ c'.futs.length) : Inv c' := by
  have hsub : c'.outIds <+ c.outIds := sublist_flatMap _ hs
  constructor
  · exact hsub.nodup h.ids_nodup
  · intro n hn'; exact Nat.lt_of_lt_of_le (h.ids_lt n (hsub.subset hn')) hn
  · intro e he; exact h.key_ok e (hs.subset he)
  · exact (hs.map Prod.snd).nodup h.tickets_nodup
  · intro e he; exact Nat.lt_of_lt_of_le (h.tickets_lt e (hs.subset he)) hf

theorem Inv.push {c : Conn V} (h : Inv c) (key : Key) (next' : Nat)
    (hne : key.ids ≠ []) (hinc : key.ids.Pairwise (· < ·))
    (hb : ∀ n ∈ key.ids, c.next ≤ n ∧ n < next') :
    Inv { c with next := next', out := c.out ++ [(key, c.futs.length)],
                 futs := c.futs ++ [Fut.pending] } := by
  have hnn : c.next ≤ next' := by
    obtain ⟨n, hn⟩ := exists_mem_of_ne_nil _ hne
    have := hb n hn
    omega
  have hids : Conn.outIds { c with next := next', out := c.out ++ [(key, c.futs.length)],
                                   futs := c.futs ++ [Fut.pending] } = c.outIds ++ key.ids := by
    show flatMap _ (c.out ++ [_]) = _
    rw [flatMap_append, flatMap_singleton]
    rfl
  refine ⟨?_, fun n hn => ?_, fun e he => ?_, ?_, fun e he => ?_⟩
  · rw [hids, nodup_append]
    refine ⟨h.ids_nodup, hinc.imp Nat.ne_of_lt, fun a ha b hb' => ?_⟩
    have := h.ids_lt a ha
    have := (hb b hb').1
    omega
  · rw [hids] at hn
    rcases mem_append.1 hn with h1 | h1
    · exact Nat.lt_of_lt_of_le (h.ids_lt n h1) hnn
    · exact (hb n h1).2
  · rcases mem_append.1 he with he | he
    · exact h.key_ok e he
    · cases mem_singleton.1 he
      exact ⟨hne, hinc⟩
  · show (map Prod.snd (c.out ++ [_])).Nodup
    rw [map_append, nodup_append]
    refine ⟨h.tickets_nodup, pairwise_singleton _ _, fun a ha b hb' => ?_⟩
    obtain ⟨e, he, rfl⟩ := mem_map.1 ha
    cases mem_singleton.1 hb'
    exact Nat.ne_of_lt (h.tickets_lt e he)
  · show e.2 < (c.futs ++ [_]).length
    rw [length_append]
    rcases mem_append.1 he with he | he
    · exact Nat.lt_add_right _ (h.tickets_lt e he)
    · cases mem_singleton.1 he
      exact Nat.lt_succ_self _

theorem Inv.with_proto {c : Conn V} (h : Inv c) (p : Option Proto) : Inv { c with proto := p } :=
  ⟨h.ids_nodup, h.ids_lt, h.key_ok, h.tickets_nodup, h.tickets_lt⟩

theorem Inv.out_nodup {c : Conn V} (h : Inv c) : c.out.Nodup :=
  Pairwise.of_map Prod.snd (fun _ _ hne heq => hne (heq ▸ rfl)) h.tickets_nodup

theorem Inv.ticket_unique {c : Conn V} (h : Inv c) {e1 e2 : Key × Nat} (h1 : e1 ∈ c.out)
    (h2 : e2 ∈ c.out) (ht : e1.2 = e2.2) : e1 = e2 :=
  eq_of_nodup_map Prod.snd h.tickets_nodup h1 h2 ht

theorem Inv.entry_unique {c : Conn V} (h : Inv c) {e1 e2 : Key × Nat} (h1 : e1 ∈ c.out)
    (h2 : e2 ∈ c.out) {n : Nat} (hn1 : n ∈ e1.1.ids) (hn2 : n ∈ e2.1.ids) : e1 = e2 :=
  Classical.byContradiction fun hne =>
    pairwise_of_mem_ne (R := fun a b : Key × Nat => ∀ x ∈ a.1.ids, ∀ y ∈ b.1.ids, x ≠ y)
      (fun _ _ hab x hx y hy => (hab y hy x hx).symm) (pairwise_flatMap.1 h.ids_nodup).2
      h1 h2 hne n hn1 n hn2 rfl

/-- the connection after the protocol has been settled by a received message -/
def Conn.settled (c : Conn V) (d : Proto) : Conn V := { c with proto := some (c.detect d) }

theorem Inv.settled {c : Conn V} (h : Inv c) (d : Proto) : Inv (c.settled d) := h.with_proto _

theorem isPending_iff {futs : List (Fut V)} {t : Nat} :
    isPending futs t = true ↔ futs[t]? = some .pending := by
  unfold isPending
  split <;> simp_all

theorem isPending_lt {futs : List (Fut V)} {t : Nat} (h : isPending futs t = true) :
    t < futs.length :=
  (List.getElem?_eq_some_iff.1 (isPending_iff.1 h)).1

/-- result of popping entry `e` and completing its future with `f` if it is still pending -/
def popped (c : Conn V) (e : Key × Nat) (f : Fut V) : Conn V × Obs :=
  if isPending c.futs e.2 then
    ({ c with out := c.out.erase e, futs := c.futs.set e.2 f }, .done [e.2])
  else ({ c with out := c.out.erase e }, .done [])

theorem complete_cases (c : Conn V) (p : Key × Nat → Bool) (f : Fut V) :
    ((∀ x ∈ c.out, p x = false) ∧ complete c p f = (c, .raised .protocolError)) ∨
      ∃ e ∈ c.out, p e = true ∧ complete c p f = popped c e f := by
  unfold complete popped
  cases h : c.out.find? p with
  | none => exact .inl ⟨fun x hx => by simpa using find?_eq_none.1 h x hx, rfl⟩
  | some e =>
    refine .inr ⟨e, mem_of_find?_eq_some h, find?_some h, ?_⟩
    rw [eraseP_eq_erase_of_find p e _ h]

theorem complete_found {c : Conn V} (p : Key × Nat → Bool) (f : Fut V) (e : Key × Nat)
    (he : e ∈ c.out) (hp : p e = true) (hu : ∀ x ∈ c.out, p x = true → x = e) :
    complete c p f = popped c e f := by
  rcases complete_cases c p f with ⟨hno, _⟩ | ⟨e', he', hp', hc⟩
  · rw [hno e he] at hp; cases hp
  · rw [hc, hu e' he' hp']

theorem complete_none {c : Conn V} (p : Key × Nat → Bool) (f : Fut V)
    (h : ∀ x ∈ c.out, p x = false) : complete c p f = (c, .raised .protocolError) := by
  rcases complete_cases c p f with ⟨_, hc⟩ | ⟨e, he, hp, _⟩
  · exact hc
  · rw [h e he] at hp; cases hp

/-- every other entry and every other future is untouched by the response that pops `e` -/
theorem popped_others (c : Conn V) (e : Key × Nat) (f : Fut V) :
    (∀ x ∈ c.out, x ≠ e → x ∈ (popped c e f).1.out) ∧
    (∀ x ∈ (popped c e f).1.out, x ∈ c.out) ∧
    (∀ t, t ≠ e.2 → (popped c e f).1.futs[t]? = c.futs[t]?) ∧
    (popped c e f).1.next = c.next := by
  unfold popped
  split
  · refine ⟨?_, ?_, ?_, rfl⟩
    · intro x hx hne; exact (mem_erase_of_ne hne).2 hx
    · intro x hx; exact mem_of_mem_erase hx
    · intro t ht; simp [Ne.symm ht]
  · refine ⟨?_, ?_, fun _ _ => rfl, rfl⟩
    · intro x hx hne; exact (mem_erase_of_ne hne).2 hx
    · intro x hx; exact mem_of_mem_erase hx

theorem popped_out (c : Conn V) (e : Key × Nat) (f : Fut V) :
    (popped c e f).1.out = c.out.erase e := by
  unfold popped
  split <;> rfl

/-- the popped entry is gone (so a replayed response finds nothing) -/
theorem popped_gone {c : Conn V} (h : Inv c) (e : Key × Nat) (f : Fut V) :
    e ∉ (popped c e f).1.out := by
  rw [popped_out]
  exact fun hm => ((Nodup.mem_erase_iff h.out_nodup).1 hm).1 rfl

theorem popped_ticket_gone {c : Conn V} (h : Inv c) {e : Key × Nat} (he : e ∈ c.out) (f : Fut V) :
    e.2 ∉ (popped c e f).1.out.map Prod.snd := by
  intro hm
  obtain ⟨x, hx, hxe⟩ := mem_map.1 hm
  have hxo := (popped_others c e f).2.1 x hx
  exact popped_gone h e f (h.ticket_unique hxo he hxe ▸ hx)

theorem popped_obs {c : Conn V} {e : Key × Nat} {f : Fut V} {o : Obs} (h : (popped c e f).2 = o) :
    ∃ ts, o = .done ts ∧ (ts = [] ∨ ts = [e.2] ∧ (popped c e f).1.futs[e.2]? = some f) := by
  subst h
  unfold popped
  split
  · rename_i hp
    exact ⟨_, rfl, .inr ⟨rfl, getElem?_set_self (isPending_lt hp)⟩⟩
  · exact ⟨_, rfl, .inl rfl⟩

theorem popped_futs_length (c : Conn V) (e : Key × Nat) (f : Fut V) :
    (popped c e f).1.futs.length = c.futs.length := by
  unfold popped
  split
  · exact length_set
  · rfl

theorem popped_final (c : Conn V) (e : Key × Nat) (f : Fut V) {t : Nat} {g : Fut V}
    (h : c.futs[t]? = some g) (hg : g ≠ .pending) : (popped c e f).1.futs[t]? = some g := by
  by_cases ht : t = e.2
  · subst ht
    unfold popped
    rw [if_neg (fun hp => hg (Option.some.inj (h.symm.trans (isPending_iff.1 hp))))]
    exact h
  · rw [(popped_others c e f).2.2.1 t ht, h]

theorem popped_inv {c : Conn V} (h : Inv c) (e : Key × Nat) (f : Fut V) : Inv (popped c e f).1 :=
  h.of_sublist (by rw [popped_out]; exact erase_sublist)
    (Nat.le_of_eq (popped_others c e f).2.2.2.symm) (Nat.le_of_eq (popped_futs_length c e f).symm)

theorem complete_inv {c : Conn V} (h : Inv c) (p : Key × Nat → Bool) (f : Fut V) :
    Inv (complete c p f).1 := by
  rcases complete_cases c p f with ⟨_, hc⟩ | ⟨e, _, _, hc⟩ <;> rw [hc]
  · exact h
  · exact popped_inv h e f

theorem length_cancelTickets (futs : List (Fut V)) (ts : List Nat) :
    (cancelTickets futs ts).length = futs.length := by
  induction ts generalizing futs with
  | nil => rfl
  | cons t ts ih => simp [cancelTickets, ih]

theorem cancelFut_of_ne_pending {f : Fut V} (hf : f ≠ .pending) : cancelFut f = f := by
  cases f <;> first | rfl | exact absurd rfl hf

theorem getElem?_modify_cancelFut {futs : List (Fut V)} {t : Nat} {f : Fut V}
    (h : futs[t]? = some f) (hf : f ≠ .pending) (t' : Nat) :
    (futs.modify t' cancelFut)[t]? = some f := by
  rw [getElem?_modify, h]
  split
  · exact congrArg some (cancelFut_of_ne_pending hf)
  · rfl

theorem cancelTickets_done (futs : List (Fut V)) (ts : List Nat) (t : Nat) (f : Fut V)
    (h : futs[t]? = some f) (hf : f ≠ .pending) : (cancelTickets futs ts)[t]? = some f := by
  induction ts generalizing futs with
  | nil => exact h
  | cons t' ts ih => exact ih _ (getElem?_modify_cancelFut h hf t')

/-- a pending future among the tickets is cancelled (by its first occurrence, and stays so) -/
theorem cancelTickets_mem {futs : List (Fut V)} {ts : List Nat} {t : Nat}
    (h : futs[t]? = some .pending) (ht : t ∈ ts) :
    (cancelTickets futs ts)[t]? = some .cancelled := by
  induction ts generalizing futs with
  | nil => cases ht
  | cons t' ts ih =>
    show (cancelTickets (futs.modify t' cancelFut) ts)[t]? = _
    by_cases htt : t' = t
    · subst htt
      exact cancelTickets_done _ _ _ _ (by rw [getElem?_modify, h]; simp [cancelFut]) nofun
    · exact ih (by rw [getElem?_modify, h]; simp [htt])
        ((mem_cons.1 ht).resolve_left (Ne.symm htt))

end Aiorpcx.C01
