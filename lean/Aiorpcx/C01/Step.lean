import Aiorpcx.C01.Recv
/-! C01 — the three effects an operation can have, and what follows for every operation. -/
namespace Aiorpcx.C01
open List

variable {V : Type}

/-- an observation that hands out no id and no future and reports no completion -/
def Obs.quiet (o : Obs) : Prop :=
  o = .sent [] none ∨ o = .done [] ∨ (∃ e, o = .raised e) ∨ ∃ ts, o = .cancelled ts

theorem Obs.quiet.sent {o : Obs} (h : o.quiet) {ids : List Nat} {t : Option Nat}
    (ho : o = .sent ids t) : ids = [] ∧ t = none := by
  subst ho
  rcases h with h | h | ⟨_, h⟩ | ⟨_, h⟩ <;> cases h
  exact ⟨rfl, rfl⟩

theorem Obs.quiet.done {o : Obs} (h : o.quiet) {ts : List Nat} (ho : o = .done ts) : ts = [] := by
  subst ho
  rcases h with h | h | ⟨_, h⟩ | ⟨_, h⟩ <;> cases h
  rfl

theorem le_ite_add (b : Bool) (n m : Nat) : n ≤ if b = true then n + m else n := by
  split
  · exact Nat.le_add_right _ _
  · exact Nat.le_refl _

/-- Every operation has one of three effects.  A successful send of `n > 0` requests draws the
    next `n` ids, registers them under one new entry with a fresh pending future and reports
    both.  A received response that finds its request pops that entry.  Everything else adds no
    entry and settles no future: entries may go and pending futures may be cancelled, the
    counter does not go back, and the observation is quiet. -/
theorem step_cases (vr : Variant) (k : Nat) (c : Conn V) (op : Op V) :
    (∃ key n, 0 < n ∧ key.ids = List.range' c.next n k ∧
      step vr k c op =
        ({ c with next := c.next + n * k, out := c.out ++ [(key, c.futs.length)],
                  futs := c.futs ++ [.pending] }, .sent key.ids (some c.futs.length))) ∨
    (∃ c' o ts, step vr k c op = (c', o) ∧ c'.out <+ c.out ∧ c.next ≤ c'.next ∧
      c'.futs = cancelTickets c.futs ts ∧ o.quiet) ∨
    (∃ p e f, e ∈ c.out ∧ step vr k c op = popped { c with proto := p } e f) := by
  cases op with
  | sendRequest ok =>
    cases ok
    · exact .inr (.inl ⟨_, _, [], rfl, Sublist.refl _, le_ite_add _ _ _, rfl,
        .inr (.inr (.inl ⟨_, rfl⟩))⟩)
    · exact .inl ⟨.single c.next, 1, Nat.one_pos, rfl, by rw [Nat.one_mul]; rfl⟩
  | sendBatch ms ok =>
    by_cases h1 : (!((c.proto.getD .v2).allowBatches) || !ok || ms.isEmpty) = true
    · exact .inr (.inl ⟨_, _, [], if_pos h1, Sublist.refl _, le_ite_add _ _ _, rfl,
        .inr (.inr (.inl ⟨_, rfl⟩))⟩)
    · by_cases hn : reqCount ms = 0
      · exact .inr (.inl ⟨_, _, [], (if_neg h1).trans (if_pos hn), Sublist.refl _,
          Nat.le_add_right _ _, rfl, .inl rfl⟩)
      · exact .inl ⟨.batch (List.range' c.next (reqCount ms) k), _, Nat.pos_of_ne_zero hn, rfl,
          (if_neg h1).trans (if_neg hn)⟩
  | recvSingle d m =>
    rcases recvSingle_cases vr k c d m with ⟨e, hs, _⟩ | ⟨n, t, he, _, hs⟩
    · exact .inr (.inl ⟨_, _, [], hs, Sublist.refl _, Nat.le_refl _, rfl,
        .inr (.inr (.inl ⟨e, rfl⟩))⟩)
    · exact .inr (.inr ⟨_, _, _, he, hs⟩)
  | recvBatch d ms =>
    rcases recvBatch_cases vr k c d ms with ⟨e, hs, _⟩ | ⟨ns, t, s, he, _, _, _, _, hs⟩
    · exact .inr (.inl ⟨_, _, [], hs, Sublist.refl _, Nat.le_refl _, rfl,
        .inr (.inr (.inl ⟨e, rfl⟩))⟩)
    · exact .inr (.inr ⟨_, _, _, he, hs⟩)
  | recvOther d =>
    exact .inr (.inl ⟨_, _, [], rfl, Sublist.refl _, Nat.le_refl _, rfl, .inr (.inl rfl)⟩)
  | cancelAll =>
    exact .inr (.inl ⟨_, _, c.out.map Prod.snd, rfl, nil_sublist _, Nat.le_refl _, rfl,
      .inr (.inr (.inr ⟨_, rfl⟩))⟩)
  | extCancel t =>
    exact .inr (.inl ⟨_, _, [t], rfl, Sublist.refl _, Nat.le_refl _, rfl, .inr (.inl rfl)⟩)

theorem step_inv (vr : Variant) {k : Nat} (hk : 0 < k) {c : Conn V} (h : Inv c) (op : Op V) :
    Inv (step vr k c op).1 := by
  rcases step_cases vr k c op with ⟨key, n, hn, hkey, hs⟩ | ⟨c', o, ts, hs, hsub, hle, hf, _⟩ |
    ⟨p, e, f, _, hs⟩ <;> rw [hs]
  · obtain ⟨h1, h2, h3⟩ := range'_key (s := c.next) hn hk
    rw [← hkey] at h1 h2 h3
    exact h.push key _ h1 h2 h3
  · exact h.of_sublist hsub hle (by rw [hf, length_cancelTickets]; exact Nat.le_refl _)
  · exact popped_inv (h.with_proto p) e f

theorem run_inv (vr : Variant) {k : Nat} (hk : 0 < k) (ops : List (Op V)) {c : Conn V}
    (h : Inv c) : Inv (run vr k c ops).1 := by
  induction ops generalizing c with
  | nil => exact h
  | cons op ops ih => exact ih (step_inv vr hk h op)

theorem run_append (vr : Variant) (k : Nat) (c : Conn V) (a b : List (Op V)) :
    (run vr k c (a ++ b)).1 = (run vr k (run vr k c a).1 b).1 := by
  induction a generalizing c with
  | nil => rfl
  | cons op a ih => simp only [cons_append, run]; exact ih _

theorem step_next_le (vr : Variant) (k : Nat) (c : Conn V) (op : Op V) :
    c.next ≤ (step vr k c op).1.next := by
  rcases step_cases vr k c op with ⟨key, n, _, _, hs⟩ | ⟨c', o, ts, hs, _, hle, _, _⟩ |
    ⟨p, e, f, _, hs⟩ <;> rw [hs]
  · exact Nat.le_add_right _ _
  · exact hle
  · exact Nat.le_of_eq (popped_others { c with proto := p } e f).2.2.2.symm

theorem step_sent_bounds (vr : Variant) {k : Nat} (hk : 0 < k) (c : Conn V) (op : Op V)
    (ids : List Nat) (t : Option Nat) (h : (step vr k c op).2 = .sent ids t) :
    ids.Pairwise (· < ·) ∧ ∀ n ∈ ids, c.next ≤ n ∧ n < (step vr k c op).1.next := by
  rcases step_cases vr k c op with ⟨key, n, hn, hkey, hs⟩ | ⟨c', o, ts, hs, _, _, _, hq⟩ |
    ⟨p, e, f, _, hs⟩ <;> rw [hs] at h ⊢
  · cases h
    rw [hkey]
    exact (range'_key hn hk).2
  · rw [(hq.sent h).1]
    exact ⟨Pairwise.nil, nofun⟩
  · obtain ⟨_, ⟨⟩, _⟩ := popped_obs h

theorem step_sent_ticket (vr : Variant) (k : Nat) (c : Conn V) (op : Op V) (ids : List Nat)
    (t : Nat) (h : (step vr k c op).2 = .sent ids (some t)) :
    t = c.futs.length ∧ (step vr k c op).1.futs.length = t + 1 := by
  rcases step_cases vr k c op with ⟨key, n, _, _, hs⟩ | ⟨c', o, ts, hs, _, _, _, hq⟩ |
    ⟨p, e, f, _, hs⟩ <;> rw [hs] at h ⊢
  · cases h
    exact ⟨rfl, length_append⟩
  · cases (hq.sent h).2
  · obtain ⟨_, ⟨⟩, _⟩ := popped_obs h

theorem step_tickets (vr : Variant) (k : Nat) (c : Conn V) (op : Op V) :
    c.futs.length ≤ (step vr k c op).1.futs.length ∧
    ∀ t ∈ (step vr k c op).1.out.map Prod.snd, t ∈ c.out.map Prod.snd ∨ c.futs.length ≤ t := by
  rcases step_cases vr k c op with ⟨key, n, _, _, hs⟩ | ⟨c', o, ts, hs, hsub, _, hf, _⟩ |
    ⟨p, e, f, _, hs⟩ <;> rw [hs]
  · refine ⟨by simp, fun t ht => ?_⟩
    simp only [map_append, map_cons, map_nil, mem_append, mem_singleton] at ht
    exact ht.imp id fun h => Nat.le_of_eq h.symm
  · exact ⟨by rw [hf, length_cancelTickets]; exact Nat.le_refl _,
      fun t ht => .inl ((hsub.map _).subset ht)⟩
  · refine ⟨Nat.le_of_eq (popped_futs_length { c with proto := p } e f).symm, fun t ht => .inl ?_⟩
    obtain ⟨x, hx, rfl⟩ := mem_map.1 ht
    exact mem_map.2 ⟨x, (popped_others { c with proto := p } e f).2.1 x hx, rfl⟩

theorem step_done_mem (vr : Variant) (k : Nat) {c : Conn V} (hinv : Inv c) (op : Op V)
    (ts : List Nat) (h : (step vr k c op).2 = .done ts) :
    ts = [] ∨ ∃ t, ts = [t] ∧ t ∈ c.out.map Prod.snd ∧
      t ∉ (step vr k c op).1.out.map Prod.snd := by
  rcases step_cases vr k c op with ⟨key, n, _, _, hs⟩ | ⟨c', o, ts, hs, _, _, _, hq⟩ |
    ⟨p, e, f, he, hs⟩ <;> rw [hs] at h ⊢
  · cases h
  · exact .inl (hq.done h)
  · obtain ⟨_, ⟨⟩, rfl | ⟨rfl, _⟩⟩ := popped_obs h
    · exact .inl rfl
    · exact .inr ⟨e.2, rfl, mem_map.2 ⟨e, he, rfl⟩, popped_ticket_gone (hinv.with_proto p) he f⟩

end Aiorpcx.C01
