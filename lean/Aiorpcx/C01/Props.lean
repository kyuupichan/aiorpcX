import Aiorpcx.C01.Commute
import Aiorpcx.C01.SortExplicit
import Aiorpcx.Facts.C01
/-!
# C01 — a response completes exactly the request that caused it

Model: `Aiorpcx.C01.step` / `run` (`Model.lean`) mirror `JSONRPCConnection` in
`aiorpcx/jsonrpc.py` (after fixes/F07): `Conn.out` is `_requests`, `Conn.next` the id counter,
`Conn.futs[t]` the state of the `t`-th future created.  All theorems are quantified over every
operation history / connection state satisfying the invariant, every protocol, every counter
step `k > 0`, every result type `V`, and both settings of C05's guards (F4/F5); no bound.
-/
namespace Aiorpcx.C01
open List

variable {V : Type}

/-- **ids_fresh.**  After every history the ids outstanding (flattened over batches) are pairwise
    distinct and below the counter; batch keys are non-empty strictly increasing tuples and
    every entry has its own future. -/
theorem ids_fresh (vr : Variant) {k : Nat} (hk : 0 < k) (p : Option Proto) (start : Nat)
    (ops : List (Op V)) :
    let c := (run vr k (Conn.init p start) ops).1
    c.outIds.Nodup ∧ (∀ n ∈ c.outIds, n < c.next) ∧ Inv c := by
  have h := run_inv vr hk ops (Inv.init (V := V) p start)
  exact ⟨h.ids_nodup, h.ids_lt, h⟩

/-- ids drawn by the sends of a history, in order -/
def drawn : List Obs → List Nat
  | [] => []
  | .sent ids _ :: r => ids ++ drawn r
  | _ :: r => drawn r

/-- **ids_never_reused.**  Over a whole history the ids handed out are strictly increasing:
    an id is never drawn twice, not even after its request completed. -/
theorem ids_never_reused (vr : Variant) {k : Nat} (hk : 0 < k) (ops : List (Op V)) (c : Conn V) :
    (drawn (run vr k c ops).2).Pairwise (· < ·) ∧
      ∀ n ∈ drawn (run vr k c ops).2, c.next ≤ n := by
  induction ops generalizing c with
  | nil => simp [run, drawn]
  | cons op ops ih =>
    obtain ⟨ih1, ih2⟩ := ih (step vr k c op).1
    have later : ∀ n ∈ drawn (run vr k (step vr k c op).1 ops).2, c.next ≤ n :=
      fun n hn => Nat.le_trans (step_next_le vr k c op) (ih2 n hn)
    simp only [run]
    cases hobs : (step vr k c op).2 with
    | sent ids t =>
      obtain ⟨h1, h2⟩ := step_sent_bounds vr hk c op ids t hobs
      refine ⟨pairwise_append.2 ⟨h1, ih1, fun a ha b hb => ?_⟩, fun n hn => ?_⟩
      · have := (h2 a ha).2
        have := ih2 b hb
        omega
      · rcases mem_append.1 hn with hn | hn
        · exact (h2 n hn).1
        · exact later n hn
    | done _ => exact ⟨ih1, later⟩
    | raised _ => exact ⟨ih1, later⟩
    | cancelled _ => exact ⟨ih1, later⟩

/-- **recv_single_exact.**  Let the received payload count under id `i` with body `b`.
    If `i` equals (Python `==`) the id `n` of an outstanding single request with future `t`, then
    exactly that entry is popped and — if the future is still pending — exactly that future is
    settled with exactly the carried result / error / protocol error; the counter, the
    other entries (`List.erase`) and the other futures (`List.set`) are as before.
    If `i` equals no outstanding single id, `ProtocolError` is raised and nothing changes. -/
theorem recv_single_exact (vr : Variant) (k : Nat) {c : Conn V} (hinv : Inv c) (d : Proto)
    (m : RawResp V) (i : Id) (b : Body V)
    (hproc : processResponse vr (c.detect d) m = (i, b))
    (hbool : (vr.rejectBool && i.isBool) = false) (hhash : i.isUnhashable = false) :
    (∀ n t, (Key.single n, t) ∈ c.out → pyEq i (.int n) = true →
      step vr k c (.recvSingle d m) = popped (c.settled d) (.single n, t) (settle b)) ∧
    ((∀ n t, (Key.single n, t) ∈ c.out → pyEq i (.int n) = false) →
      step vr k c (.recvSingle d m) = (c.settled d, .raised .protocolError)) := by
  rw [step_recvSingle, hproc]
  simp only [recvResponse, hbool, hhash]
  constructor
  · intro n t he hi
    exact complete_found _ _ _ he (by simpa [matchSingle] using hi)
      (matchSingle_unique (hinv.settled d) he hi)
  · intro hno
    apply complete_none
    rintro ⟨key, t⟩ hx
    cases key with
    | single n => exact hno n t hx
    | batch ns => rfl

/-- non-vacuity of `recv_single_exact`: two singles and a 3-batch outstanding; the response
    `1.0` settles request 1 (ticket 1) and nothing else. -/
example :
    let c : Conn Nat := (run (repaired true true) 1 (Conn.init (some .v2) 0)
      [.sendRequest true, .sendRequest true, .sendBatch [.req, .notif, .req, .req] true]).1
    c.out = [(.single 0, 0), (.single 1, 1), (.batch [2, 3, 4], 2)] ∧
    step (repaired true true) 1 c (.recvSingle .v2 ⟨some (.half 2), true, .val 7⟩) =
      ({ c with out := [(.single 0, 0), (.batch [2, 3, 4], 2)],
                futs := [.pending, .result 7, .pending] }, .done [1]) := by
  decide +kernel

/-- **recv_batch_aligned.**  A batch with ids `ns` (member order) and future `t` is outstanding
    and a response batch arrives whose members are well-formed and whose ids are, as numbers,
    **any permutation** of `ns`.  Then the batch entry is popped and its future (if pending)
    receives `rs` where `rs[j]` is the result the peer sent under member `j`'s id — results in
    the order the members were added, for every permutation — and it is the only such result. -/
theorem recv_batch_aligned (vr : Variant) (k : Nat) {c : Conn V} (hinv : Inv c) (d : Proto)
    (ms : List (RawResp V)) (ns : List Nat) (t : Nat)
    (hb : (c.detect d).allowBatches = true) (he : (Key.batch ns, t) ∈ c.out)
    (pairs : List (Id × Res V))
    (hok : ms.map (processResponse vr (c.detect d)) = pairs.map fun x => (x.1, Body.ok x.2))
    (hperm : pairs.map (fun x => x.1.num2) ~ keyVals ns) :
    ∃ rs : List (Res V), rs.length = ns.length ∧
      (∀ j (hj : j < ns.length) (hj' : j < rs.length),
        (∃ i, (i, rs[j]) ∈ pairs ∧ pyEq i (.int ns[j]) = true) ∧
        (∀ i r, (i, r) ∈ pairs → pyEq i (.int ns[j]) = true → r = rs[j])) ∧
      step vr k c (.recvBatch d ms) = popped (c.settled d) (.batch ns, t) (.batch rs) := by
  obtain ⟨hne, hinc⟩ : ns ≠ [] ∧ ns.Pairwise (· < ·) := hinv.key_ok _ he
  obtain ⟨s, hs, hsp, hsk⟩ := sorted_aligned ns hinc pairs hperm
  have hlen : s.length = ns.length := by simpa [keyVals] using congrArg List.length hsk
  refine ⟨s.map Prod.snd, by rw [length_map, hlen], fun j hj hj' => ?_, ?_⟩
  · have hjs : j < s.length := hlen ▸ hj
    rw [getElem_map]
    refine ⟨⟨s[j].1, hsp.subset (getElem_mem hjs),
      (pyEq_int_iff _ _).2 (num2_getElem_of_keyVals hsk j hjs hj)⟩, fun i r hir hi => ?_⟩
    -- `(i, r)` sits at some position `j'` of the sorted list; its id equals member `j`'s id
    obtain ⟨j', hj's, hsj⟩ := getElem_of_mem (hsp.symm.subset hir)
    have h1 := num2_getElem_of_keyVals hsk j' hj's (hlen ▸ hj's)
    rw [hsj, (pyEq_int_iff i _).1 hi, Option.some.injEq] at h1
    have hjj : j = j' := (getElem_inj (hinc.imp Nat.ne_of_lt)).1 (by omega)
    subst hjj
    rw [hsj]
  · have hpne : pairs ≠ [] := by
      rintro rfl
      exact hne (length_eq_zero_iff.1 (by simpa [keyVals] using hperm.length_eq.symm))
    have hunh : s.any (·.1.isUnhashable) = false := by
      rw [any_eq_false]
      intro x hx
      have hn : x.1.num2 ∈ keyVals ns := hsk ▸ mem_map.2 ⟨x, hx, rfl⟩
      obtain ⟨n, _, hn⟩ := mem_map.1 hn
      simp [isUnhashable_of_num2 (i := x.1) (by rw [← hn]; rfl)]
    have htup : tupleEq (s.map Prod.fst) ns = true := by
      rw [tupleEq_iff, map_map]
      exact hsk
    rw [step_recvBatch, if_neg (by simp [hb]), hok, recvResponseBatch_ok vr _ hpne hs hunh]
    exact complete_found _ _ _ he htup (matchBatch_unique (hinv.settled d) he htup)

/-- non-vacuity of `recv_batch_aligned`: the members of the 3-batch answered in the order
    4, 2, 3 (one id as a float); the future gets the results in member order 2, 3, 4. -/
example :
    let c : Conn Nat := (run (repaired true true) 1 (Conn.init (some .v2) 0)
      [.sendRequest true, .sendRequest true, .sendBatch [.req, .notif, .req, .req] true]).1
    (step (repaired true true) 1 c (.recvBatch .v2
      [⟨some (.int 4), true, .val 40⟩, ⟨some (.half 4), true, .err 20⟩,
       ⟨some (.int 3), true, .val 30⟩])).1.futs
      = [.pending, .pending, .batch [.err 20, .val 30, .val 40]] := by
  decide +kernel

/-- **batch_mismatch** (converse).  If a response batch is accepted at all, then every member
    was well-formed and the received ids are a permutation of the ids of an outstanding batch —
    the one that is popped.  Duplicated, missing, foreign or single-request ids never select
    anything. -/
theorem batch_mismatch (vr : Variant) (k : Nat) (c : Conn V) (d : Proto)
    (ms : List (RawResp V)) (ts : List Nat)
    (h : (step vr k c (.recvBatch d ms)).2 = .done ts) :
    ∃ ns t, ∃ pairs : List (Id × Res V), (Key.batch ns, t) ∈ c.out ∧
      ms.map (processResponse vr (c.detect d)) = pairs.map (fun x => (x.1, Body.ok x.2)) ∧
      pairs.map (fun x => x.1.num2) ~ keyVals ns ∧ (ts = [t] ∨ ts = []) := by
  rcases recvBatch_cases vr k c d ms with ⟨e, hs, _⟩ | ⟨ns, t, s, hmem, _, hmal, hsort, hkey, hs⟩ <;>
    rw [hs] at h
  · cases h
  · obtain ⟨_, ⟨⟩, hts⟩ := popped_obs h
    exact ⟨ns, t, _, hmem, eq_map_ok_of_no_malformed _ hmal, sorted_mismatch ns _ s hsort hkey,
      hts.symm.imp And.left id⟩

/-- **malformed_member_refuses_batch.**  A response batch with a malformed member - whatever id
    that member carries: the id of an outstanding single request, of a member of an outstanding
    batch, of nothing - is refused as a whole with a protocol error, in every variant: no future
    moves, no entry leaves the table (in particular the single request whose id the bad member
    carries stays outstanding and is completed by its own response later). -/
theorem malformed_member_refuses_batch (vr : Variant) (k : Nat) (c : Conn V) (d : Proto)
    (ms : List (RawResp V))
    (hbad : ∃ m ∈ ms, (processResponse vr (c.detect d) m).2.isMalformed = true) :
    step vr k c (.recvBatch d ms) = (c.settled d, .raised .protocolError) := by
  rw [step_recvBatch]
  split
  · rfl
  · obtain ⟨m, hm, hmal⟩ := hbad
    have hne : (ms.map (processResponse vr (c.detect d))).isEmpty = false := by
      cases ms with
      | nil => cases hm
      | cons x xs => rfl
    have hany : (ms.map (processResponse vr (c.detect d))).any (·.2.isMalformed) = true := by
      rw [List.any_eq_true]
      exact ⟨_, List.mem_map.2 ⟨m, hm, rfl⟩, hmal⟩
    simp [recvResponseBatch, hne, hany]

/-- **raised_unchanged.**  Whenever receiving a response or response batch raises — whatever the
    exception — the table of outstanding requests, every future and the counter are exactly as
    before (`Conn.settled` only records the protocol AutoDetect has settled on). -/
theorem raised_unchanged (vr : Variant) (k : Nat) (c : Conn V) (d : Proto) (e : PyExc) :
    (∀ m : RawResp V, (step vr k c (.recvSingle d m)).2 = .raised e →
      (step vr k c (.recvSingle d m)).1 = c.settled d) ∧
    (∀ ms : List (RawResp V), (step vr k c (.recvBatch d ms)).2 = .raised e →
      (step vr k c (.recvBatch d ms)).1 = c.settled d) := by
  constructor
  · intro m h
    rcases recvSingle_cases vr k c d m with ⟨_, hs, _⟩ | ⟨n, t, _, _, hs⟩ <;> rw [hs] at h ⊢
    obtain ⟨_, ⟨⟩, _⟩ := popped_obs h
  · intro ms h
    rcases recvBatch_cases vr k c d ms with ⟨_, hs, _⟩ | ⟨ns, t, s, _, _, _, _, _, hs⟩ <;>
      rw [hs] at h ⊢
    obtain ⟨_, ⟨⟩, _⟩ := popped_obs h

/-- Whatever the variant: a single response whose id equals no outstanding single id, and a
    response batch whose sorted ids equal no outstanding batch key, raise and leave everything as
    it was; the exception is `ProtocolError` except where the guards F4/F5 are missing and the id is
    unhashable / the ids are unsortable (`unknown_id_pinned_witness`). -/
theorem unknown_id_raises (vr : Variant) (k : Nat) (c : Conn V) (d : Proto) :
    (∀ m : RawResp V,
      (∀ n t, (Key.single n, t) ∈ c.out →
        pyEq (processResponse vr (c.detect d) m).1 (.int n) = false) →
      ∃ e, step vr k c (.recvSingle d m) = (c.settled d, .raised e) ∧
        (e = .typeError → vr.lookupGuard = false ∧
          (processResponse vr (c.detect d) m).1.isUnhashable = true)) ∧
    (∀ ms : List (RawResp V),
      (∀ ns t, (Key.batch ns, t) ∈ c.out →
        ¬ (okPairs (ms.map (processResponse vr (c.detect d)))).map (fun x => x.1.num2)
            ~ keyVals ns) →
      ∃ e, step vr k c (.recvBatch d ms) = (c.settled d, .raised e) ∧
        (e = .typeError → vr.lookupGuard = false ∨ vr.sortGuard = false)) := by
  constructor
  · intro m hno
    rcases recvSingle_cases vr k c d m with ⟨e, hs, hte⟩ | ⟨n, t, hmem, hpy, _⟩
    · exact ⟨e, hs, hte⟩
    · rw [hno n t hmem] at hpy
      cases hpy
  · intro ms hno
    rcases recvBatch_cases vr k c d ms with ⟨e, hs, hte⟩ | ⟨ns, t, s, hmem, _, _, hsort, hkey, _⟩
    · exact ⟨e, hs, hte⟩
    · exact absurd (sorted_mismatch ns _ s hsort hkey) (hno ns t hmem)

/-- **unknown_id_harmless.**  In the tree as it is (both guards present: `facts_guards`), a single
    response whose id equals no outstanding single id — any JSON value, lists and dicts included —
    and a response batch whose ids are not a permutation of the ids of an outstanding batch —
    unsortable mixtures included — are rejected with `ProtocolError`, and nothing outstanding is
    disturbed: table, futures and counter are as before. -/
theorem unknown_id_harmless (vr : Variant) (hl : vr.lookupGuard = true) (hs : vr.sortGuard = true)
    (k : Nat) (c : Conn V) (d : Proto) :
    (∀ m : RawResp V,
      (∀ n t, (Key.single n, t) ∈ c.out →
        pyEq (processResponse vr (c.detect d) m).1 (.int n) = false) →
      step vr k c (.recvSingle d m) = (c.settled d, .raised .protocolError)) ∧
    (∀ ms : List (RawResp V),
      (∀ ns t, (Key.batch ns, t) ∈ c.out →
        ¬ (okPairs (ms.map (processResponse vr (c.detect d)))).map (fun x => x.1.num2)
            ~ keyVals ns) →
      step vr k c (.recvBatch d ms) = (c.settled d, .raised .protocolError)) := by
  obtain ⟨h1, h2⟩ := unknown_id_raises vr k c d
  constructor
  · intro m hno
    obtain ⟨e, he, hte⟩ := h1 m hno
    cases e with
    | protocolError => exact he
    | typeError => have := (hte rfl).1; simp [hl] at this
  · intro ms hno
    obtain ⟨e, he, hte⟩ := h2 ms hno
    cases e with
    | protocolError => exact he
    | typeError => rcases hte rfl with h | h <;> simp_all

/-- **F4/F5 missing** (the guards `facts_guards` ties to the tree): without them a 1.0 response
    whose id is a list, and a response batch with ids `0` and `"x"`, end in `TypeError` — the
    counter-example that a regression removing either repair brings back. -/
theorem unknown_id_pinned_witness :
    let vr : Variant := repaired false false
    (step vr 1 ((run vr 1 (Conn.init (some .v1) 0) [.sendRequest true]).1)
      (.recvSingle .v1 ⟨some (.unhashable 0), true, .val (4 : Nat)⟩)).2 = .raised .typeError ∧
    (step vr 1 ((run vr 1 (Conn.init (some .v2) 0) [.sendBatch [.req, .req] true]).1)
      (.recvBatch .v2 [⟨some (.int 0), true, .val (4 : Nat)⟩,
                       ⟨some (.str [120]), true, .val 7⟩])).2 = .raised .typeError := by
  decide +kernel

/-- non-vacuity of `batch_mismatch` / `unknown_id_harmless`: with requests 0, 1 and the batch
    (2, 3, 4) outstanding, the batch answered by ids 4, 2, 3 is accepted (ticket 2); a batch
    response with a member missing, one with a foreign member, a single response to the member id
    3 and a response to the unsent id 9 are all rejected with `ProtocolError`. -/
example :
    let vr := repaired true true
    let c : Conn Nat := (run vr 1 (Conn.init (some .v2) 0)
      [.sendRequest true, .sendRequest true, .sendBatch [.req, .notif, .req, .req] true]).1
    let r := fun (n : Int) => (⟨some (.int n), true, .val 1⟩ : RawResp Nat)
    (step vr 1 c (.recvBatch .v2 [r 4, r 2, r 3])).2 = .done [2] ∧
    (step vr 1 c (.recvBatch .v2 [r 4, ⟨some (.str [120]), true, .val 1⟩, r 3])).2
      = .raised .protocolError ∧
    (step vr 1 c (.recvBatch .v2 [r 4, r 2])).2 = .raised .protocolError ∧
    (step vr 1 c (.recvBatch .v2 [r 4, r 2, r 9])).2 = .raised .protocolError ∧
    (step vr 1 c (.recvSingle .v2 (r 3))).2 = .raised .protocolError ∧
    (step vr 1 c (.recvSingle .v2 (r 9))) = (c, .raised .protocolError) := by
  decide +kernel

/-- tickets completed by the receives of a history, in order -/
def completions : List Obs → List Nat
  | [] => []
  | .done ts :: r => ts ++ completions r
  | _ :: r => completions r

/-- **complete_once.**  Along every history from a state satisfying the invariant, the tickets
    completed by responses are pairwise distinct: no future is ever completed twice, whatever is
    replayed. -/
theorem complete_once (vr : Variant) {k : Nat} (hk : 0 < k) (ops : List (Op V)) {c : Conn V}
    (hinv : Inv c) :
    (completions (run vr k c ops).2).Nodup ∧
      ∀ t ∈ completions (run vr k c ops).2, t ∈ c.out.map Prod.snd ∨ c.futs.length ≤ t := by
  induction ops generalizing c with
  | nil => simp [run, completions]
  | cons op ops ih =>
    obtain ⟨ih1, ih2⟩ := ih (step_inv vr hk hinv op)
    obtain ⟨hlen, htk⟩ := step_tickets vr k c op
    have later : ∀ t ∈ completions (run vr k (step vr k c op).1 ops).2,
        t ∈ c.out.map Prod.snd ∨ c.futs.length ≤ t := by
      intro t ht
      rcases ih2 t ht with h | h
      · exact htk t h
      · exact Or.inr (by omega)
    simp only [run]
    cases hobs : (step vr k c op).2 with
    | done ts =>
      simp only [completions]
      rcases step_done_mem vr k hinv op ts hobs with rfl | ⟨t, rfl, hin, hout⟩
      · exact ⟨ih1, later⟩
      · refine ⟨nodup_cons.2 ⟨fun hmem => ?_, ih1⟩, fun t' ht' => ?_⟩
        · rcases ih2 t hmem with h | h
          · exact hout h
          · obtain ⟨e, he, rfl⟩ := mem_map.1 hin
            have := hinv.tickets_lt e he
            omega
        · rcases mem_cons.1 ht' with rfl | ht'
          · exact Or.inl hin
          · exact later t' ht'
    | sent _ _ => exact ⟨ih1, later⟩
    | raised _ => exact ⟨ih1, later⟩
    | cancelled _ => exact ⟨ih1, later⟩

/-- non-vacuity of `complete_once` / `fut_final`: request 0 answered, replayed (rejected),
    request 1 answered: tickets 0 and 1 complete once each and keep their outcome. -/
example :
    let vr := repaired true true
    let r := fun (n : Int) (v : Nat) => (⟨some (.int n), true, .val v⟩ : RawResp Nat)
    let h := run vr 1 (Conn.init (some .v2) 0)
      [.sendRequest true, .sendRequest true, .recvSingle .v2 (r 0 5), .recvSingle .v2 (r 0 6),
       .recvSingle .v2 (r 1 7), .cancelAll]
    completions h.2 = [0, 1] ∧ h.1.futs = [.result 5, .result 7] := by
  decide +kernel

/-- **fut_final.**  A future that has an outcome keeps it: no operation changes a future that is
    no longer pending. -/
theorem fut_final (vr : Variant) (k : Nat) (c : Conn V) (op : Op V) (t : Nat) (f : Fut V)
    (h : c.futs[t]? = some f) (hf : f ≠ .pending) : (step vr k c op).1.futs[t]? = some f := by
  rcases step_cases vr k c op with ⟨key, n, _, _, hs⟩ | ⟨c', o, ts, hs, _, _, hfu, _⟩ |
    ⟨p, e, g, _, hs⟩ <;> rw [hs]
  · obtain ⟨hlt, _⟩ := List.getElem?_eq_some_iff.1 h
    show (c.futs ++ [.pending])[t]? = some f
    rw [getElem?_append_left hlt, h]
  · rw [hfu]
    exact cancelTickets_done _ _ _ _ h hf
  · exact popped_final { c with proto := p } e g h hf

/-- the swap condition on two receive operations under protocol `p` -/
def CompatibleOps (vr : Variant) (p : Proto) (a b : Op V) : Prop :=
  Compatible (actOf vr p a) (actOf vr p b)

/-- **order_independent.**  With the protocol settled (`some p`: any fixed protocol, or
    AutoDetect after its first message), take any stream of received responses / response
    batches in which no two *different* messages address the same request(s) (identical
    replays are allowed).  Every permutation of the stream — and, inside each batch response,
    every permutation of its members (`recv_batch_aligned`) — leaves the connection in the same
    state: every future has the same outcome, the same requests remain outstanding. -/
theorem order_independent (vr : Variant) (k : Nat) (p : Proto) {c : Conn V} (hinv : Inv c)
    (hp : c.proto = some p) (ops ops' : List (Op V)) (hperm : ops ~ ops')
    (hr : ∀ op ∈ ops, isRecv op = true) (hc : ops.Pairwise (CompatibleOps vr p)) :
    (run vr k c ops).1 = (run vr k c ops').1 := by
  rw [run_eq_runActs vr k p ops hr hp,
    run_eq_runActs vr k p ops' (fun o ho => hr o (hperm.symm.subset ho)) hp]
  exact runActs_perm hinv (hperm.map _) (by rw [pairwise_map]; exact hc)

/-- responses carrying different numeric ids are always compatible -/
theorem compatible_of_ids_ne (vr : Variant) (p : Proto) (d d' : Proto) (m m' : RawResp V)
    (h : (processResponse vr p m).1.num2 ≠ (processResponse vr p m').1.num2) :
    CompatibleOps vr p (.recvSingle d m) (.recvSingle d' m') := by
  rcases respAct_sig vr (processResponse vr p m).1 (processResponse vr p m).2 with h1 | h1
  · exact .inr (.inl h1)
  · rcases respAct_sig vr (processResponse vr p m').1 (processResponse vr p m').2 with h2 | h2
    · exact .inr (.inr (.inl h2))
    · refine .inr (.inr (.inr ?_))
      rw [actOf, actOf, h1, h2]
      simpa using h

/-- non-vacuity of `order_independent`: answers to requests 0 and 1 and to the batch, in two
    different orders. -/
example :
    let a : Op Nat := .recvSingle .v2 ⟨some (.int 0), true, .val 5⟩
    let b : Op Nat := .recvSingle .v2 ⟨some (.int 1), true, .err 6⟩
    let e : Op Nat := .recvBatch .v2 [⟨some (.int 3), true, .val 8⟩, ⟨some (.int 2), true, .val 7⟩]
    [a, b, e] ~ [e, b, a] ∧ (∀ op ∈ [a, b, e], isRecv op = true) ∧
      [a, b, e].Pairwise (CompatibleOps (repaired true true) .v2) := by
  refine ⟨by decide +kernel, by decide +kernel, ?_⟩
  have h : ∀ x y : Op Nat,
      (actOf (repaired true true) .v2 x).sig ≠ (actOf (repaired true true) .v2 y).sig →
      CompatibleOps (repaired true true) .v2 x y := fun _ _ h => Or.inr (Or.inr (Or.inr h))
  refine Pairwise.cons ?_ (Pairwise.cons ?_ (Pairwise.cons (by simp) Pairwise.nil))
  · intro y hy
    simp only [mem_cons, not_mem_nil, or_false] at hy
    rcases hy with rfl | rfl <;> exact h _ _ (by decide +kernel)
  · intro y hy
    simp only [mem_cons, not_mem_nil, or_false] at hy
    subst hy
    exact h _ _ (by decide +kernel)

/-- **bool_id_distinct.**  In the repaired tree (`rejectBool`, F07; tied by `facts_admit_table`,
    `facts_process_table` and `facts_conn_rejects_bool`) a response whose id is `true`/`false` never
    completes anything, on any protocol and whatever is outstanding (in particular not requests
    1 / 0, although `True == 1` and `False == 0` in Python): it is rejected with `ProtocolError`
    and the connection is unchanged.  Likewise a response batch with a bool id among its
    members. -/
theorem bool_id_distinct (vr : Variant) (hr : vr.rejectBool = true) (k : Nat) (c : Conn V) (d : Proto) (b : Bool) :
    (∀ (wf : Bool) (r : Res V),
      step vr k c (.recvSingle d ⟨some (.bool b), wf, r⟩) =
        (c.settled d, .raised .protocolError)) ∧
    (∀ ms : List (RawResp V), (∃ m ∈ ms, m.id = some (.bool b)) →
      step vr k c (.recvBatch d ms) = (c.settled d, .raised .protocolError)) := by
  constructor
  · intro wf r
    rw [step_recvSingle]
    -- the id counts as the bool it is, or (not admitted by the protocol) as none at all
    rcases processResponse_fst vr (c.detect d) ⟨some (.bool b), wf, r⟩ with h | h
    · rw [h, recvResponse_null]
    · rw [← Option.some.inj h]
      unfold recvResponse
      rw [if_pos (by simp [hr, Id.isBool])]
  · rintro ms ⟨m, hm, hid⟩
    by_cases hb : (c.detect d).allowBatches = true
    · refine malformed_member_refuses_batch vr k c d ms ⟨m, hm, ?_⟩
      cases hp : c.detect d <;>
        simp_all [processResponse, admitId, Proto.allowBatches, Body.isMalformed]
    · rw [step_recvBatch, if_pos (by simpa using hb)]

/-- the state used by the pinned-tree witnesses: requests 0 and 1 and the batch (2, 3) -/
def witnessConn (vr : Variant) (p : Proto) : Conn Nat :=
  (run vr 1 (Conn.init (some p) 0)
    [.sendRequest true, .sendRequest true, .sendBatch [.req, .req] true]).1

/-- **F7 on the pinned tree** (`pinned`: no bool check anywhere): `"id": true` completes request
    1 and `"id": false` completes request 0, on 2.0 as on 1.0 … -/
theorem bool_id_pinned_witness :
    (step pinned 1 (witnessConn pinned .v2) (.recvSingle .v2 ⟨some (.bool true), true, .val 9⟩)).2
      = .done [1] ∧
    (step pinned 1 (witnessConn pinned .v2) (.recvSingle .v2 ⟨some (.bool false), true, .val 9⟩)).2
      = .done [0] ∧
    (step pinned 1 ((run pinned 1 (Conn.init (some .v1) 0) [.sendRequest true, .sendRequest true]).1)
      (.recvSingle .v1 ⟨some (.bool true), true, .val 9⟩)).2 = .done [1] := by
  decide +kernel

/-- … and a response batch with ids `[true, 0]` completes the batch sent with ids (0, 1). -/
theorem bool_id_batch_pinned_witness :
    (step pinned 1 ((run pinned 1 (Conn.init (some .v2) 0) [.sendBatch [.req, .req] true]).1)
      (.recvBatch .v2 [⟨some (.bool true), true, .val 8⟩, ⟨some (.int 0), true, .val 7⟩])).1.futs
      = [.batch [.val 7, .val 8]] := by
  decide +kernel

/-- the same inputs on the repaired model: rejected, nothing completes -/
example :
    (step (repaired true true) 1 (witnessConn (repaired true true) .v2)
      (.recvSingle .v2 ⟨some (.bool true), true, .val 9⟩)).2 = .raised .protocolError ∧
    (step (repaired true true) 1
      ((run (repaired true true) 1 (Conn.init (some .v1) 0) [.sendRequest true, .sendRequest true]).1)
      (.recvSingle .v1 ⟨some (.bool true), true, .val 9⟩)).2 = .raised .protocolError := by
  decide +kernel

/-- `cancel_pending_requests` empties the table and leaves every future that already had an
    outcome alone (`fut_final`); every future that was outstanding and pending is cancelled. -/
theorem cancel_all (vr : Variant) (k : Nat) {c : Conn V} (e : Key × Nat) (he : e ∈ c.out)
    (hp : isPending c.futs e.2 = true) :
    (step vr k c .cancelAll).1.out = [] ∧
      (step vr k c .cancelAll).1.futs[e.2]? = some .cancelled :=
  ⟨rfl, cancelTickets_mem (isPending_iff.1 hp) (mem_map.2 ⟨e, he, rfl⟩)⟩

/-- **notification_only_batch.**  A batch without request members draws no id, registers nothing
    and has no future (`event is None`), whatever the state of the connection; and with the
    behaviour the facts observed on a real `RPCSession` (`facts_notification_only_batch`: the
    `async with` block returns quietly with `results == ()`), `BatchRequest.__aexit__` awaits
    nothing after the batch was written. -/
theorem notification_only_batch (vr : Variant) (k : Nat) (c : Conn V) (ms : List Member)
    (hne : ms ≠ []) (hn : reqCount ms = 0) (hb : (c.proto.getD .v2).allowBatches = true) :
    step vr k c (.sendBatch ms true) = (c, .sent [] none) ∧
      ∀ t, (step vr k c (.sendBatch ms true)).2 = .sent [] t →
        batchExit Facts.C01.notifBatchQuiet t = .ok none := by
  have h1 : ms.isEmpty = false := by cases ms <;> simp_all
  have hs : step vr k c (.sendBatch ms true) = (c, .sent [] none) := by simp [step, hn, hb, h1]
  refine ⟨hs, ?_⟩
  intro t ht
  rw [hs] at ht
  simp only [Obs.sent.injEq, true_and] at ht
  subst ht
  rfl

/-- non-vacuity: a batch of two notifications on a connection with a request outstanding -/
example :
    let c : Conn Nat := (run (repaired true true) 1 (Conn.init none 0) [.sendRequest true]).1
    step (repaired true true) 1 c (.sendBatch [.notif, .notif] true) = (c, .sent [] none) := by
  decide +kernel

/-- F19 on the pinned tree: `await None` raises `TypeError` -/
theorem notification_only_batch_pinned_witness :
    batchExit false none = .error .typeError := rfl

/-! The constants of `Aiorpcx.Facts.C01` are regenerated from /repo on every run. -/

open Aiorpcx.Facts.C01 in
/-- the id counter advances by a positive step (the hypothesis of `ids_fresh`) -/
theorem facts_id_step_pos : 0 < idStep := by decide

open Aiorpcx.Facts.C01 in
/-- `_message_id` admits exactly the id types the (repaired) model admits:
    int, float, str, null, bool, list, dict × 1.0 / 2.0 / Loose -/
theorem facts_admit_table :
    let samples : List Id := [.int 1, .half 3, .str [97], .null, .bool true, .unhashable 0,
      .unhashable 1]
    samples.map (admitId (repaired lookupGuarded sortGuarded) .v1) = admitV1 ∧
    samples.map (admitId (repaired lookupGuarded sortGuarded) .v2) = admitV2 ∧
    samples.map (admitId (repaired lookupGuarded sortGuarded) .loose) = admitLoose := by
  decide +kernel

open Aiorpcx.Facts.C01 in
/-- a 1.0 response with a bool id cannot select request 1 (second hunk of F07) -/
theorem facts_conn_rejects_bool : connRejectsBool = true := by decide

open Aiorpcx.Facts.C01 in
/-- `allow_batches` of 1.0, 2.0, Loose, and of AutoDetect before detection (treated as 2.0) -/
theorem facts_allow_batches :
    allowBatches = [Proto.allowBatches .v1, Proto.allowBatches .v2, Proto.allowBatches .loose,
      Proto.allowBatches .v2] := by decide

open Aiorpcx.Facts.C01 in
/-- **facts_guards.**  Both repairs are present in the tree: an unhashable response id and an
    unsortable response batch end in `ProtocolError` (probed by running `receive_message`).
    `unknown_id_harmless` is stated for exactly this case; a regression that removes either
    guard breaks this theorem and the oracle reports the `TypeError` with its input. -/
theorem facts_guards : lookupGuarded = true ∧ sortGuarded = true := by decide

/-- the variant the facts describe: F7 applied, guards as probed -/
def treeVariant : Variant :=
  { repaired Facts.C01.lookupGuarded Facts.C01.sortGuarded with
    failDrawsSingle := Facts.C01.failDrawsSingle, failDrawsBatch := Facts.C01.failDrawsBatch }

/-- `bool_id_distinct` applies to the variant the driver runs -/
theorem facts_variant_rejects_bool : treeVariant.rejectBool = true := rfl

/-- hence `unknown_id_harmless` applies to the tree as probed -/
theorem facts_guards_variant :
    treeVariant.lookupGuard = true ∧ treeVariant.sortGuard = true := facts_guards

/-- the id samples of the process table: int, float, str, null, bool, list, dict -/
def idSamples : List Id :=
  [.int 1, .half 3, .str [97], .null, .bool true, .unhashable 0, .unhashable 1]

/-- what the model's `processResponse` answers for a response with id `i` that carries a result,
    an error, is malformed, or has no id: (is it a response?, the id it counts under) -/
def processRow (vr : Variant) (p : Proto) (i : Id) : List (Bool × Id) :=
  let cell := fun (m : RawResp Nat) =>
    let r := processResponse vr p m
    ((match r.2 with | .ok _ => true | .malformed => false), r.1)
  [cell ⟨some i, true, .val 0⟩, cell ⟨some i, true, .err 0⟩, cell ⟨some i, false, .val 0⟩,
   cell ⟨none, true, .val 0⟩]

open Aiorpcx.Facts.C01 in
/-- **facts_process_table.**  `message_to_item`, run on 3 protocols x 7 id types x
    {result, error, malformed, no id}, classifies every response as the model's
    `processResponse` does: same "is a response", same id it counts under (so a malformed
    response with an admissible id keeps its id, one with an inadmissible or missing id has none). -/
theorem facts_process_table :
    idSamples.map (processRow treeVariant .v1) = processV1 ∧
    idSamples.map (processRow treeVariant .v2) = processV2 ∧
    idSamples.map (processRow treeVariant .loose) = processLoose := by
  decide +kernel

/-- the model's answer to a sort probe: only the batch with ids `ns` is outstanding; the response
    batch lists the members in the order `order` (member `j` carries the result `j`); the member
    indices in the order the future holds them, `none` if the batch was not completed -/
def probeOrder (vr : Variant) (ns order : List Nat) : Option (List Nat) :=
  let c : Conn Nat := { proto := some .v2, next := 0, out := [(.batch ns, 0)], futs := [.pending] }
  let ms := order.map fun j => (⟨some (.int (ns.getD j 0)), true, .val j⟩ : RawResp Nat)
  match (step vr 1 c (.recvBatch .v2 ms)).1.futs with
  | [.batch rs] => some (rs.map fun r => match r with | .val v => v | .err e => e)
  | _ => none

open Aiorpcx.Facts.C01 in
/-- **facts_sort_probes.**  Real batches (ids read from the wire; also ids straddling 9/10 and
    99/100) answered in permuted member orders with results that cannot be compared with `<`:
    the real future delivers the results in exactly the order the model computes - member order. -/
theorem facts_sort_probes :
    sortProbes.all (fun p => probeOrder treeVariant p.1 p.2.1 == p.2.2) = true ∧
    sortProbes.all (fun p => p.2.2 == some (List.range p.1.length)) = true ∧
    sortProbes.length ≥ 18 := by
  decide +kernel

open Aiorpcx.Facts.C01 in
/-- a batch answer with a duplicated, missing or foreign member id, and a single response to a
    member id, are rejected by the real connection with `ProtocolError` and leave the batch
    untouched - as `batch_mismatch` / `unknown_id_harmless` prove for the model -/
theorem facts_mismatch_rejected : mismatchRejected = [true, true, true, true] := by decide

open Aiorpcx.Facts.C01 in
/-- F19 is repaired in the tree: a notification-only batch sent through a real `RPCSession`
    returns quietly with `results == ()` (the second half of `notification_only_batch`) -/
theorem facts_notification_only_batch :
    notifBatchQuiet = true ∧ batchExit notifBatchQuiet none = .ok none := ⟨by decide, rfl⟩

end Aiorpcx.C01
