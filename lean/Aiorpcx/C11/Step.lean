import Aiorpcx.C11.Model
/-!
# C11/C12 — the primitive steps of the semantics

Each function `run` is built from is characterised here, once: `minL` (the least element),
`clampT`, one suspension (`doSleep_cases`: exactly one of wake-up, timer, external cancel, each
with the condition under which it happens), entering and leaving a block (`enter`, `unset`, the
case equations of `aexit`), leaving a group (`sweep`, `gexit`: nothing but suspensions).
-/
namespace Aiorpcx.C11

theorem TS.ext' : ∀ {s t : TS}, s.now = t.now → s.deadlines = t.deadlines → s.armed = t.armed →
    s.marker = t.marker → s.cancelAt = t.cancelAt → s = t
  | ⟨_, _, _, _, _⟩, ⟨_, _, _, _, _⟩, rfl, rfl, rfl, rfl, rfl => rfl

theorem minL_cons (x : Int) (xs : List Int) :
    minL (x :: xs) = match minL xs with
      | none => some x
      | some m => some (if x < m then x else m) := rfl

theorem minL_eq_none {ds : List Int} : minL ds = none ↔ ds = [] := by
  cases ds with
  | nil => exact ⟨fun _ => rfl, fun _ => rfl⟩
  | cons x xs =>
    rw [minL_cons]
    cases minL xs <;> exact ⟨nofun, nofun⟩

theorem minL_mem {ds : List Int} {m : Int} (h : minL ds = some m) : m ∈ ds := by
  induction ds generalizing m with
  | nil => nomatch h
  | cons x xs ih =>
    rw [minL_cons] at h
    cases hx : minL xs with
    | none => rw [hx] at h; cases h; exact List.mem_cons_self
    | some m' =>
      rw [hx] at h
      cases h
      split
      · exact List.mem_cons_self
      · exact List.mem_cons_of_mem _ (ih hx)

theorem minL_le_mem {ds : List Int} {m x : Int} (h : minL ds = some m) (hx : x ∈ ds) : m ≤ x := by
  induction ds generalizing m with
  | nil => nomatch hx
  | cons y ys ih =>
    rw [minL_cons] at h
    cases hy : minL ys with
    | none =>
      rw [hy] at h; cases h
      rw [minL_eq_none.1 hy] at hx
      cases hx with
      | head => exact Int.le_refl _
      | tail _ h' => nomatch h'
    | some m' =>
      rw [hy] at h; cases h
      cases hx with
      | head =>
        split
        · exact Int.le_refl _
        · exact Int.not_lt.1 ‹_›
      | tail _ h' =>
        split
        · exact Int.le_trans (Int.le_of_lt ‹_›) (ih hy h')
        · exact ih hy h'

theorem minL_eq_some {ds : List Int} {m : Int} (hm : m ∈ ds) (hle : ∀ x ∈ ds, m ≤ x) :
    minL ds = some m := by
  cases h : minL ds with
  | none => rw [minL_eq_none.1 h] at hm; nomatch hm
  | some m' =>
    have h1 := hle m' (minL_mem h)
    have h2 := minL_le_mem h hm
    rw [Int.le_antisymm h1 h2]

theorem minL_le {ds : List Int} {x : Int} (hx : x ∈ ds) : ∃ m, minL ds = some m ∧ m ≤ x := by
  cases h : minL ds with
  | none => rw [minL_eq_none.1 h] at hx; nomatch hx
  | some m => exact ⟨m, rfl, minL_le_mem h hx⟩

theorem minL_append_single (ds : List Int) (d : Int) :
    minL (ds ++ [d]) = match minL ds with
      | none => some d
      | some m => some (if d < m then d else m) := by
  cases h : minL ds with
  | none => rw [minL_eq_none.1 h]; rfl
  | some m =>
    have hle : ∀ x ∈ ds ++ [d], x = d ∨ m ≤ x := fun x hx =>
      (List.mem_append.1 hx).elim (fun h' => Or.inr (minL_le_mem h h'))
        (fun h' => Or.inl (List.mem_singleton.1 h'))
    show _ = some (if d < m then d else m)
    split
    · exact minL_eq_some (List.mem_append_right _ List.mem_cons_self) fun x hx =>
        (hle x hx).elim (fun h' => h' ▸ Int.le_refl _) (Int.le_trans (Int.le_of_lt ‹_›))
    · exact minL_eq_some (List.mem_append_left _ (minL_mem h)) fun x hx =>
        (hle x hx).elim (fun h' => h' ▸ Int.not_lt.1 ‹_›) id

theorem clampT_ge (now x : Int) : now ≤ clampT now x ∧ x ≤ clampT now x := by
  unfold clampT
  split
  · exact ⟨Int.le_refl _, Int.le_of_lt ‹_›⟩
  · exact ⟨Int.not_lt.1 ‹_›, Int.le_refl _⟩

theorem clampT_eq (now x : Int) : clampT now x = now ∨ clampT now x = x := by
  unfold clampT
  split
  · exact .inl rfl
  · exact .inr rfl

theorem clampT_of_le {now x : Int} (h : x ≤ now) : clampT now x = now := by
  unfold clampT
  split
  · rfl
  · exact Int.le_antisymm h (Int.not_lt.1 ‹_›)

theorem clampT_of_ge {now x : Int} (h : now ≤ x) : clampT now x = x :=
  if_neg (Int.not_lt.2 h)

theorem clampT_mono (now : Int) {x y : Int} (h : x ≤ y) : clampT now x ≤ clampT now y := by
  by_cases hx : x < now
  · rw [clampT_of_le (Int.le_of_lt hx)]; exact (clampT_ge now y).1
  · rw [clampT_of_ge (Int.not_lt.1 hx), clampT_of_ge (Int.le_trans (Int.not_lt.1 hx) h)]; exact h

theorem clampT_le {now x B : Int} (h1 : now ≤ B) (h2 : x ≤ B) : clampT now x ≤ B := by
  unfold clampT; split <;> assumption

theorem doSleep_cases (s : TS) (d : Nat) :
    (doSleep s d = wakeUp s d ∧ (∀ a, s.armed = some a → s.now + d < clampT s.now a) ∧
      ∀ c, s.cancelAt = some c → s.now + d < clampT s.now c) ∨
    (∃ a, s.armed = some a ∧ doSleep s d = timerFire s a ∧ clampT s.now a ≤ s.now + d ∧
      ∀ c, s.cancelAt = some c → clampT s.now a ≤ clampT s.now c) ∨
    (∃ c, s.cancelAt = some c ∧ doSleep s d = cancelFire s c ∧ clampT s.now c ≤ s.now + d ∧
      ∀ a, s.armed = some a → clampT s.now c < clampT s.now a) := by
  cases ha : s.armed with
  | none =>
    cases hc : s.cancelAt with
    | none => exact .inl ⟨by unfold doSleep; rw [ha, hc], nofun, nofun⟩
    | some c =>
      have e : doSleep s d = if clampT s.now c ≤ s.now + d then cancelFire s c else wakeUp s d := by
        unfold doSleep; rw [ha, hc]
      by_cases h : clampT s.now c ≤ s.now + d
      · exact .inr (.inr ⟨c, rfl, by rw [e, if_pos h], h, nofun⟩)
      · exact .inl ⟨by rw [e, if_neg h], nofun, fun _ h' => by cases h'; exact Int.not_le.1 h⟩
  | some a =>
    cases hc : s.cancelAt with
    | none =>
      have e : doSleep s d = if clampT s.now a ≤ s.now + d then timerFire s a else wakeUp s d := by
        unfold doSleep; rw [ha, hc]
      by_cases h : clampT s.now a ≤ s.now + d
      · exact .inr (.inl ⟨a, rfl, by rw [e, if_pos h], h, nofun⟩)
      · exact .inl ⟨by rw [e, if_neg h], fun _ h' => by cases h'; exact Int.not_le.1 h, nofun⟩
    | some c =>
      have e : doSleep s d = if clampT s.now a ≤ clampT s.now c then
            (if clampT s.now a ≤ s.now + d then timerFire s a else wakeUp s d)
          else (if clampT s.now c ≤ s.now + d then cancelFire s c else wakeUp s d) := by
        unfold doSleep; rw [ha, hc]
      by_cases h1 : clampT s.now a ≤ clampT s.now c
      · by_cases h2 : clampT s.now a ≤ s.now + d
        · exact .inr (.inl ⟨a, rfl, by rw [e, if_pos h1, if_pos h2], h2,
            fun _ h => by cases h; exact h1⟩)
        · exact .inl ⟨by rw [e, if_pos h1, if_neg h2], fun _ h => by cases h; exact Int.not_le.1 h2,
            fun _ h => by cases h; exact Int.lt_of_lt_of_le (Int.not_le.1 h2) h1⟩
      · by_cases h2 : clampT s.now c ≤ s.now + d
        · exact .inr (.inr ⟨c, rfl, by rw [e, if_neg h1, if_pos h2], h2,
            fun _ h => by cases h; exact Int.not_le.1 h1⟩)
        · exact .inl ⟨by rw [e, if_neg h1, if_neg h2],
            fun _ h => by cases h; exact Int.lt_trans (Int.not_le.1 h2) (Int.not_le.1 h1),
            fun _ h => by cases h; exact Int.not_le.1 h2⟩

theorem doSleep_deadlines (s : TS) (d : Nat) : (doSleep s d).2.deadlines = s.deadlines := by
  rcases doSleep_cases s d with ⟨h, _⟩ | ⟨_, _, h, _⟩ | ⟨_, _, h, _⟩ <;> rw [h] <;> rfl

theorem doSleep_mono (s : TS) (d : Nat) : s.now ≤ (doSleep s d).2.now := by
  rcases doSleep_cases s d with ⟨h, _⟩ | ⟨_, _, h, _⟩ | ⟨_, _, h, _⟩ <;> rw [h]
  · exact Int.le_add_of_nonneg_right (Int.natCast_nonneg d)
  · exact (clampT_ge _ _).1
  · exact (clampT_ge _ _).1

theorem doSleep_of_none {s : TS} {d : Nat} (h : (doSleep s d).1 = none) :
    doSleep s d = wakeUp s d := by
  rcases doSleep_cases s d with ⟨h', _⟩ | ⟨_, _, h', _⟩ | ⟨_, _, h', _⟩
  · exact h'
  · rw [h'] at h; nomatch h
  · rw [h'] at h; nomatch h

theorem doSleep_of_noCancel {s : TS} (d : Nat) (hc : s.cancelAt = none) :
    doSleep s d = wakeUp s d ∨ ∃ a, s.armed = some a ∧ doSleep s d = timerFire s a := by
  rcases doSleep_cases s d with ⟨h, _⟩ | ⟨a, ha, h, _⟩ | ⟨c, hc', _⟩
  · exact .inl h
  · exact .inr ⟨a, ha, h⟩
  · rw [hc] at hc'; nomatch hc'

theorem doSleep_armed {s : TS} {a : Int} (d : Nat) (ha : s.armed = some a) (hc : s.cancelAt = none) :
    doSleep s d = if clampT s.now a ≤ s.now + d then timerFire s a else wakeUp s d := by
  unfold doSleep; rw [ha, hc]

theorem doSleep_unarmed {s : TS} (d : Nat) (ha : s.armed = none) (hc : s.cancelAt = none) :
    doSleep s d = wakeUp s d := by
  unfold doSleep; rw [ha, hc]

theorem wakeUp_zero (s : TS) : wakeUp s 0 = (none, s) :=
  congrArg (Prod.mk none) (TS.ext' (Int.add_zero _) rfl rfl rfl rfl)

theorem unset_fields (s : TS) : (unset s).2.2.marker = s.marker ∧
    (unset s).2.2.cancelAt = s.cancelAt ∧ (unset s).2.2.deadlines = s.deadlines.dropLast :=
  ⟨rfl, rfl, rfl⟩

theorem aexit_state (fixed ig : Bool) (self : Int) (r : Res) (s : TS) :
    (aexit fixed ig self r s).2.2 = (unset s).2.2 := by
  unfold aexit
  simp only [apply_ite (fun x : Res × Bool × TS => x.2.2), ite_self]

theorem aexit_state_eq {fixed ig : Bool} {self : Int} {r r' : Res} {s s' : TS} {x : Bool}
    (h : aexit fixed ig self r s = (r', x, s')) : s' = (unset s).2.2 := by
  rw [← aexit_state fixed ig self r s, h]

/-- the decision of `__aexit__` reads the task only through the marker and whether the marker is
still an active deadline -/
theorem aexit_congr (fixed ig : Bool) (self : Int) (r : Res) {s t : TS}
    (hm : s.marker = t.marker)
    (hd : ∀ m, s.marker = some m → s.deadlines.contains m = t.deadlines.contains m) :
    (aexit fixed ig self r s).1 = (aexit fixed ig self r t).1 ∧
    (aexit fixed ig self r s).2.1 = (aexit fixed ig self r t).2.1 := by
  have hu : (unset s).2.1 = (unset t).2.1 := by
    unfold unset
    dsimp only
    rw [← hm]
    cases h : s.marker with
    | none => rfl
    | some m => exact congrArg (!·) (hd m h)
  have hm' : (unset s).1 = (unset t).1 := hm
  unfold aexit
  simp only [apply_ite (fun x : Res × Bool × TS => x.1),
    apply_ite (fun x : Res × Bool × TS => x.2.1), hu, hm']
  exact ⟨trivial, trivial⟩

theorem aexit_nofam (fixed ig : Bool) (d : Int) (s : TS) (r : Res)
    (hf : isCancelFamily r = false) : aexit fixed ig d r s = (r, false, (unset s).2.2) := by
  simp [aexit, hf]

theorem aexit_self (fixed ig : Bool) (d : Int) (s : TS) (r : Res) (hf : isCancelFamily r = true)
    (hm : s.marker = some d) :
    aexit fixed ig d r s = (if ig then none else some .taskTimeout, true, (unset s).2.2) := by
  simp [aexit, unset, hm, hf]

theorem aexit_none (fixed ig : Bool) (d : Int) (s : TS) (r : Res) (hm : s.marker = none) :
    aexit fixed ig d r s = (r, false, (unset s).2.2) := by
  cases hf : isCancelFamily r <;> simp [aexit, unset, hm, hf]

theorem aexit_stale (ig : Bool) (d m : Int) (s : TS) (r : Res) (hf : isCancelFamily r = true)
    (hm : s.marker = some m) (hmd : m ≠ d) (hmem : m ∉ s.deadlines) :
    aexit true ig d r s =
      (if r = some .taskTimeout then some .uncaught else r, false, (unset s).2.2) := by
  cases r with
  | none => simp [isCancelFamily] at hf
  | some e => cases e <;> simp [aexit, unset, hm, hmd, hmem, isCancelFamily] at hf ⊢

theorem aexit_active (ig : Bool) (d m : Int) (s : TS) (r : Res) (hf : isCancelFamily r = true)
    (hm : s.marker = some m) (hmd : m ≠ d) (hmem : m ∈ s.deadlines) :
    aexit true ig d r s = (some .tce, false, (unset s).2.2) := by
  cases r with
  | none => simp [isCancelFamily] at hf
  | some e => cases e <;> simp [aexit, unset, hm, hmd, hmem, isCancelFamily] at hf ⊢

theorem aexit_expired_eq (fixed ig : Bool) (self : Int) (r : Res) (s : TS) :
    (aexit fixed ig self r s).2.1 = (isCancelFamily r && s.marker == some self) := by
  unfold aexit
  simp only [apply_ite (fun x : Res × Bool × TS => x.2.1), ite_self]
  show (if (!isCancelFamily r) = true then false
    else if (s.marker == some self) = true then true else false) = _
  cases isCancelFamily r <;> cases s.marker == some self <;> rfl

theorem aexit_expired (fixed ig : Bool) (self : Int) (r : Res) (s : TS)
    (h : (aexit fixed ig self r s).2.1 = true) :
    s.marker = some self ∧ isCancelFamily r = true ∧
    (aexit fixed ig self r s).1 = (if ig then none else some .taskTimeout) := by
  rw [aexit_expired_eq, Bool.and_eq_true, beq_iff_eq] at h
  exact ⟨h.2, h.1, by rw [aexit_self _ _ _ _ _ h.1 h.2]⟩

theorem sweep_cases (R : List (Nat × Nat)) (r : Res) (s : TS) :
    sweep R r s = (r, s, 0) ∨
    ((doSleep s (maxNat (R.map (·.2)))).1 = none ∧
      sweep R r s = (r, (doSleep s (maxNat (R.map (·.2)))).2, 0)) ∨
    ∃ e, (doSleep s (maxNat (R.map (·.2)))).1 = some e ∧
      sweep R r s = (some e, (doSleep s (maxNat (R.map (·.2)))).2,
        (R.filter (fun m => (doSleep s (maxNat (R.map (·.2)))).2.now < s.now + m.2)).length) := by
  by_cases hR : R.isEmpty = true
  · exact .inl (by unfold sweep; exact if_pos hR)
  · have e : sweep R r s = match doSleep s (maxNat (R.map (·.2))) with
        | (none, s') => (r, s', 0)
        | (some e, s') => (some e, s', (R.filter (fun m => s'.now < s.now + m.2)).length) := by
      unfold sweep; exact if_neg hR
    rw [e]
    cases doSleep s (maxNat (R.map (·.2))) with
    | mk r' s' =>
      cases r' with
      | none => exact .inr (.inl ⟨rfl, rfl⟩)
      | some e => exact .inr (.inr ⟨e, rfl, rfl⟩)

/-- leaving a group: nothing to wait for, a sweep at once, or the join - one suspension `j` -
followed by a sweep (of what interrupted it, or for wait = any of the others) or, for wait = all,
by nothing -/
theorem gexit_cases (anyp : Bool) (T : Int) (ms : List (Nat × Nat)) (r : Res) (s : TS) :
    let j := doSleep s
      (T + (if anyp then minNat (ms.map (·.1)) else maxNat (ms.map (·.1))) - s.now).toNat
    gexit anyp T ms r s = sweep (runningAt T ms s.now) r s ∨
    r = none ∧ (gexit anyp T ms r s = (none, s, 0) ∨
      gexit anyp T ms r s = sweep (runningAt T ms j.2.now) j.1 j.2 ∨
      j.1 = none ∧ gexit anyp T ms r s = (none, j.2, 0)) := by
  intro j
  cases r with
  | some e => exact .inl rfl
  | none =>
    by_cases h1 : (runningAt T ms s.now).isEmpty = true
    · exact .inr ⟨rfl, .inl (by unfold gexit; exact if_pos h1)⟩
    · by_cases h2 : (anyp && decide ((runningAt T ms s.now).length < ms.length)) = true
      · exact .inl (by unfold gexit; exact (if_neg h1).trans (if_pos h2))
      · have e : gexit anyp T ms none s = match j with
            | (none, s') => if anyp then sweep (runningAt T ms s'.now) none s' else (none, s', 0)
            | (some e, s') => sweep (runningAt T ms s'.now) (some e) s' := by
          unfold gexit; exact (if_neg h1).trans (if_neg h2)
        refine .inr ⟨rfl, .inr ?_⟩
        rw [e]
        cases j with
        | mk r' s' =>
          cases r' with
          | some e => exact .inl rfl
          | none =>
            cases anyp with
            | true => exact .inl rfl
            | false => exact .inr ⟨rfl, rfl⟩

theorem gexit_preserves (Q : TS → Prop) (h : ∀ s d, Q s → Q (doSleep s d).2) (anyp : Bool)
    (T : Int) (ms : List (Nat × Nat)) (r : Res) (s : TS) (hs : Q s) :
    Q (gexit anyp T ms r s).2.1 := by
  have sw : ∀ R r s, Q s → Q (sweep R r s).2.1 := by
    intro R r s hs
    rcases sweep_cases R r s with e | ⟨_, e⟩ | ⟨_, _, e⟩ <;> rw [e]
    · exact hs
    · exact h _ _ hs
    · exact h _ _ hs
  rcases gexit_cases anyp T ms r s with e | ⟨_, e | e | ⟨_, e⟩⟩ <;> rw [e]
  · exact sw _ _ _ hs
  · exact hs
  · exact sw _ _ _ (h _ _ hs)
  · exact h _ _ hs

theorem run_block (fixed ig rel : Bool) (t : Int) (body : Prog) (s : TS) (d : Int)
    (hd : d = if rel then s.now + t else t) :
    run fixed (.block ig rel t body) s =
      ((aexit fixed ig d (run fixed body (enter s d)).1 (run fixed body (enter s d)).2.1).1,
       (unset (run fixed body (enter s d)).2.1).2.2,
       (run fixed body (enter s d)).2.2 ++
         [Ev.exit d (aexit fixed ig d (run fixed body (enter s d)).1 (run fixed body (enter s d)).2.1).1
           (aexit fixed ig d (run fixed body (enter s d)).1 (run fixed body (enter s d)).2.1).2.1
           (run fixed body (enter s d)).2.1.now]) := by
  subst hd
  rw [run]
  dsimp only
  generalize run fixed body (enter s (if rel then s.now + t else t)) = R
  obtain ⟨r, s1, e1⟩ := R
  dsimp only
  generalize hX : aexit fixed ig (if rel then s.now + t else t) r s1 = X
  obtain ⟨r', x, s2⟩ := X
  cases aexit_state_eq hX
  rfl

theorem run_seq_some {fixed : Bool} {a : Prog} {s : TS} {e : Exc} (b : Prog)
    (h : (run fixed a s).1 = some e) : run fixed (.seq a b) s = run fixed a s := by
  rw [run]
  generalize run fixed a s = R at h ⊢
  obtain ⟨r, s1, e1⟩ := R
  cases h
  rfl

theorem run_seq_none {fixed : Bool} {a : Prog} {s : TS} (b : Prog) (h : (run fixed a s).1 = none) :
    run fixed (.seq a b) s =
      ((run fixed b (run fixed a s).2.1).1, (run fixed b (run fixed a s).2.1).2.1,
       (run fixed a s).2.2 ++ (run fixed b (run fixed a s).2.1).2.2) := by
  rw [run]
  generalize run fixed a s = R at h ⊢
  obtain ⟨r, s1, e1⟩ := R
  cases h
  rfl

theorem run_try_caught {fixed : Bool} {b : Prog} {s : TS} {e : Exc} {cs : List Exc} (hd : Prog)
    (h : (run fixed b s).1 = some e) (hin : cs.contains e = true) :
    run fixed (.tryCatch b cs hd) s =
      ((run fixed hd (run fixed b s).2.1).1, (run fixed hd (run fixed b s).2.1).2.1,
       (run fixed b s).2.2 ++ (run fixed hd (run fixed b s).2.1).2.2) := by
  rw [run]
  generalize run fixed b s = R at h ⊢
  obtain ⟨r, s1, e1⟩ := R
  cases h
  exact if_pos hin

theorem run_try_pass {fixed : Bool} {b : Prog} {s : TS} {cs : List Exc} (hd : Prog)
    (h : ∀ e, (run fixed b s).1 = some e → cs.contains e = false) :
    run fixed (.tryCatch b cs hd) s = run fixed b s := by
  rw [run]
  generalize run fixed b s = R at h ⊢
  obtain ⟨r, s1, e1⟩ := R
  cases r with
  | none => rfl
  | some e => exact if_neg (by rw [h e rfl]; nofun)

end Aiorpcx.C11
