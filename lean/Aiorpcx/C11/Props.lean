import Aiorpcx.C11.NotEarly
import Aiorpcx.Facts.C11
/-!
# C11 — property theorems for `timeout_after` / `timeout_at` / `ignore_after` / `ignore_at`

Model (`Model.lean`): programs `Prog` (sleep / seq / try-except / raise / timeout block in the
relative, absolute, raising and ignoring forms / task group) run by the big-step semantics `run fixed p s` over
integer virtual time; the task state `TS` carries exactly what `curio.py` keeps on the task:
the deadline stack (`task._deadlines`), the one live loop timer (`task._deadline_handle`,
`armed`), the marker `task._timed_out`, plus a pending external `cancel()` (C12).
`fixed = true` is `__aexit__` as in `/repo`, with the repair of F13; `fixed = false` is
`__aexit__` without it, kept only for the counter-witness in C12.

All theorems are for every program, every start state satisfying the stated invariant, every
external-cancel instant; no bound on depth or time.
-/
namespace Aiorpcx.C11

/-! ## The model behaves as the code does (generated scenario table)

`Aiorpcx.Facts.C11.scenarios` is regenerated on every run by executing the real
`timeout_after` / `timeout_at` / `ignore_after` / `ignore_at` blocks (public API only) on a grid
of small programs: every (exception kind leaving the body x ignore x which deadline fired) in two
stack shapes, block entry below / at / above the armed deadline, marker reset on entry, relative
forms with zero and past deadlines.  The theorem evaluates the model on the same programs. -/

def codeOfRes : Res → Nat
  | none => 0 | some .cancelled => 1 | some .taskTimeout => 2 | some .tce => 3
  | some .uncaught => 4 | some .other => 5

/-- the enclosing `timeout_at` blocks of a scenario, wrapped around its program -/
def wrapPrefix (pre : List Int) (p : Prog) : Prog :=
  pre.foldr (fun d q => .block false false d q) p

/-- what the model predicts for one scenario, in the format of the generated table -/
def modelObs (pre : List Int) (p : Prog) :
    Nat × Int × List (Int × Nat × Bool × Int) × List Int × Bool :=
  let s0 := pre.foldl enter ({ now := 0 } : TS)
  let r := run true p s0
  (codeOfRes r.1, r.2.1.now,
   r.2.2.map (fun e => match e with
     | .exit d res x t => (d, codeOfRes res, x, t)
     | .gexit res left t => (t, 100 + codeOfRes res, left != 0, t)),
   r.2.1.armed.toList,
   (run true (wrapPrefix pre p) { now := 0 }).2.1.armed.isSome)

/-- **tie to the source**: on every scenario of the grid the real blocks did exactly what the
model says - result, time, every block's exit (exception kind, `expired`, time), the timers still
pending afterwards, nothing left at the end.  Regenerated from /repo on every run; a behavioural
change of `__aenter__` / `__aexit__` / the deadline bookkeeping changes a row and this theorem
fails, a rewrite that preserves behaviour cannot make it fail. -/
theorem facts_scenarios :
    Facts.C11.scenarios.all (fun row => modelObs row.1 row.2.1 == row.2.2) = true := by
  decide +kernel

/-- the table is not trivial: it has rows, and rows in which a deadline fired -/
example : Facts.C11.scenarios.length ≥ 100 ∧
    (Facts.C11.scenarios.filter (fun row => row.2.2.2.2.1.any (fun e => e.2.2.1))).length ≥ 40 := by
  decide +kernel

/-- the exception hierarchy the model's `isCancelFamily` relies on -/
theorem facts_hierarchy : Facts.C11.tceIsCancelled = true ∧
    Facts.C11.taskTimeoutIsCancelled = false ∧ Facts.C11.uncaughtIsCancelled = false := by decide

/-- **A sleep cannot run past an armed deadline.**  If a timer is armed for `a`, a suspension
that would last beyond `a` ends exactly at `a` (or at once if `a` is already past) with a
cancellation attributed to `a` — unless an external cancel request comes strictly first. -/
theorem interrupted_at_deadline (s : TS) (d : Nat) (a : Int) (ha : s.armed = some a)
    (hc : ∀ c, s.cancelAt = some c → clampT s.now a ≤ clampT s.now c)
    (hlong : clampT s.now a ≤ s.now + d) :
    doSleep s d = (some .cancelled,
      { s with now := clampT s.now a, armed := none, marker := some a }) := by
  rcases doSleep_cases s d with ⟨_, hw, _⟩ | ⟨a', ha', e, _⟩ | ⟨c, hc', _, _, hf⟩
  · exact absurd hlong (Int.not_le.2 (hw a ha))
  · cases ha.symm.trans ha'; exact e
  · exact absurd (hc c hc') (Int.not_le.2 (hf a ha))

/-- ... and a sleep that ends before the armed deadline (and before any cancel) is untouched. -/
theorem early_sleep_unaffected (s : TS) (d : Nat)
    (ha : ∀ a, s.armed = some a → s.now + d < clampT s.now a)
    (hc : ∀ c, s.cancelAt = some c → s.now + d < clampT s.now c) :
    doSleep s d = (none, { s with now := s.now + d }) := by
  rcases doSleep_cases s d with ⟨e, _⟩ | ⟨a, ha', _, h, _⟩ | ⟨c, hc', _, h, _⟩
  · exact e
  · exact absurd h (Int.not_le.2 (ha a ha'))
  · exact absurd h (Int.not_le.2 (hc c hc'))

/-- **not earlier, and reported as TaskTimeout / quietly**: in every run from a task whose marker
is clean, every block that reports `expired` exited no earlier than its deadline, raising
`TaskTimeout` (timeout forms) or nothing (ignore forms). -/
theorem expired_not_early (fixed : Bool) (p : Prog) (now : Int) (c : Option Int) :
    ∀ ev ∈ (run fixed p { now := now, cancelAt := c }).2.2, ExitOK ev :=
  run_exitOK fixed p { now := now, cancelAt := c } nofun

/-- the block whose deadline fired reports it: `TaskTimeout` + `expired` (or quiet for ignore) -/
theorem attribution_self (ig : Bool) (d : Int) (s : TS) (r : Res)
    (hf : isCancelFamily r = true) (hm : s.marker = some d) :
    (aexit true ig d r s).1 = (if ig then none else some .taskTimeout) ∧
    (aexit true ig d r s).2.1 = true := by
  rw [aexit_self true ig d s r hf hm]; exact ⟨rfl, rfl⟩

/-- a block *inside* the one whose deadline fired sees `TimeoutCancellationError` and does not
report expiry -/
theorem attribution_inner (ig : Bool) (d m : Int) (s : TS) (r : Res)
    (hf : isCancelFamily r = true) (hm : s.marker = some m) (hmd : m ≠ d)
    (hmem : m ∈ s.deadlines) :
    (aexit true ig d r s).1 = some .tce ∧ (aexit true ig d r s).2.1 = false := by
  rw [aexit_active ig d m s r hf hm hmd hmem]; exact ⟨rfl, rfl⟩

/-- an inner `TaskTimeout` nobody handled surfaces as `UncaughtTimeoutError` in the enclosing
block (the marker is that inner block's deadline, which has left the stack) -/
theorem uncaught_inner (ig : Bool) (d m : Int) (s : TS)
    (hm : s.marker = some m) (hmd : m ≠ d) (hmem : m ∉ s.deadlines) :
    (aexit true ig d (some .taskTimeout) s).1 = some .uncaught ∧
    (aexit true ig d (some .taskTimeout) s).2.1 = false := by
  rw [aexit_stale ig d m s _ rfl hm hmd hmem]; exact ⟨rfl, rfl⟩

/-- anything that is not a cancellation-family exception (normal completion included) passes
through a block exit untouched, never marked expired -/
theorem other_results_untouched (fixed ig : Bool) (d : Int) (s : TS) (r : Res)
    (hf : isCancelFamily r = false) :
    (aexit fixed ig d r s).1 = r ∧ (aexit fixed ig d r s).2.1 = false := by
  rw [aexit_nofam fixed ig d s r hf]; exact ⟨rfl, rfl⟩

/-- the relative forms (`timeout_after`, `ignore_after`) are the absolute forms
(`timeout_at`, `ignore_at`) with the deadline counted from the clock at entry -/
theorem absolute_relative_agree (fixed ig : Bool) (t : Int) (body : Prog) (s : TS) :
    run fixed (.block ig true t body) s = run fixed (.block ig false (s.now + t) body) s := by
  rfl

/-- inner shorter: inner reports, outer unaffected, nothing armed -/
example : (run true (.block false true 10 (.seq
      (.tryCatch (.block false true 2 (.sleep 100)) [.taskTimeout] .skip) (.sleep 3))) {}).1 = none
    ∧ (run true (.block false true 10 (.seq
      (.tryCatch (.block false true 2 (.sleep 100)) [.taskTimeout] .skip) (.sleep 3))) {}).2.1.now = 5 := by
  decide
/-- outer shorter: outer reports TaskTimeout at 2, inner saw TCE and is not expired -/
example : (run true (.block false true 2 (.block false true 10 (.sleep 100))) {}).1 = some .taskTimeout
    ∧ (run true (.block false true 2 (.block false true 10 (.sleep 100))) {}).2.2 =
      [.exit 10 (some .tce) false 2, .exit 2 (some .taskTimeout) true 2] := by decide
/-- uncaught inner timeout -/
example : (run true (.block false true 10 (.block false true 2 (.sleep 100))) {}).1 = some .uncaught := by
  decide
/-- ignore form ends quietly with expired -/
example : (run true (.block true true 2 (.sleep 100)) {}).2.2 = [.exit 2 none true 2] := by decide

end Aiorpcx.C11
