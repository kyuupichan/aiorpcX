import Aiorpcx.C11.Early
/-!
# C11 — a block still running at its deadline is interrupted then and reports the timeout

By the simulation `run_sim'` a body that on its own is still running strictly after
`max (entry, deadline)` cannot stay in lock-step under the block (the time bound `run_TB` forbids
it), so it ends doomed; this gives the forward direction of the property: the block ends at
exactly that instant, expired, with `TaskTimeout` (timeout forms) or quietly (ignore forms).
-/
namespace Aiorpcx.C11

/-- **Still running at the deadline: interrupted then, and the block reports the timeout.**
For an outermost timeout block (any of the four forms) entered at `t0` with deadline `d`, around
any body that does not itself catch or raise the cancellation family (and has no task group),
with no external cancel: if the body, run on its own from `t0`, would still be running strictly
after `max t0 d` (the deadline, or the entry if the deadline was already past - a body that never
suspends is never interrupted, see `instant_body_unaffected`), then under the block it is
interrupted: the block ends at exactly `max t0 d`, reports `expired`, and raises `TaskTimeout`
(timeout forms) or ends quietly (ignore forms); nothing is left armed.  Strictness is needed: a
body ending at `d` itself - e.g. after handling an inner block with the same deadline - leaves
the outer block unexpired. -/
theorem still_running_times_out (ig rel : Bool) (t t0 : Int) (body : Prog) (hp : NoCatch body)
    (hf : Flat body) :
    let d := if rel then t0 + t else t
    let alone := run true body { now := t0 }
    let under := run true (.block ig rel t body) { now := t0 }
    max t0 d < alone.2.1.now →
    under.1 = (if ig then none else some .taskTimeout) ∧ under.2.1.now = max t0 d ∧
    under.2.2.getLast? = some (Ev.exit d under.1 true (max t0 d)) ∧
    under.2.1.armed = none ∧ under.2.1.deadlines = [] := by
  intro d alone under hlt
  have hTB := run_TB (max t0 d) d body (enter { now := t0 } d) hp hf rfl rfl
    List.mem_cons_self (Int.le_max_left ..) (Int.le_max_right ..)
  have hK := (run_frame true body (enter { now := t0 } d)).kk (enter_kk _ _)
  have hu : under = _ := run_block true ig rel t body { now := t0 } d rfl
  rw [enter_top] at hTB hK hu
  rcases run_sim' d body { now := t0 } hp hf rfl nofun rfl with hs | ⟨⟨hcx, hm, _⟩, _⟩
  · -- lock-step is impossible: the body would run past the deadline
    have hb := hTB.bound
    rw [hs] at hb
    exact absurd hlt (Int.not_lt.2 hb)
  · have hnow : (run true body (lift d { now := t0 })).2.1.now = max t0 d :=
      Int.le_antisymm hTB.bound (Int.max_le.2 ⟨hTB.mono, hK d hm⟩)
    have hnla := nothing_left_armed true (.block ig rel t body) t0 none
    rw [aexit_self true ig d _ _ hcx.family hm, hnow] at hu
    refine ⟨?_, ?_, ?_, hnla.2, hnla.1⟩ <;> rw [hu]
    · exact hnow
    · exact List.getLast?_concat

/-- non-vacuity, including the strictness boundary: the body alone ends at 5 > 2: interrupted at
2 ... -/
example : (run true (.block false true 2 (.seq (.tryCatch (.block false false 2 (.sleep 100))
      [.taskTimeout] .skip) (.sleep 3))) {}).2.2.getLast? =
    some (Ev.exit 2 (some .taskTimeout) true 2) := by decide
/-- ... and ends at exactly 2 = the deadline: not interrupted, not expired -/
example : (run true (.block false true 2 (.tryCatch (.block false false 2 (.sleep 100))
      [.taskTimeout] .skip)) {}).2.2.getLast? = some (Ev.exit 2 none false 2) := by decide

/-- programs that never suspend (no sleep, no group join) -/
def Instant : Prog → Prop
  | .skip => True
  | .sleep _ => False
  | .raise _ => True
  | .seq a b => Instant a ∧ Instant b
  | .block _ _ _ b => Instant b
  | .tryCatch b _ h => Instant b ∧ Instant h
  | .group _ _ _ => False

theorem instant_run (p : Prog) (s : TS) : Instant p →
    (run true p s).2.1.now = s.now ∧
    ((run true p s).2.1.marker = none ∨ (run true p s).2.1.marker = s.marker) ∧
    ∀ ev ∈ (run true p s).2.2, ∀ dd r x tt, ev = Ev.exit dd r x tt → x = false := by
  fun_induction run true p s with
  | case1 | case3 => exact fun _ => ⟨rfl, .inr rfl, fun _ h => nomatch h⟩
  | case2 | case10 => exact fun h => h.elim
  | case4 a b s s1 e1 e ha iha => rw [ha] at iha; exact fun h => iha h.1
  | case5 a b s s1 e1 r s2 e2 hb ha iha ihb =>
    rw [ha] at iha; rw [hb] at ihb
    intro h
    obtain ⟨a1, a2, a3⟩ := iha h.1
    obtain ⟨b1, b2, b3⟩ := ihb h.2
    exact ⟨b1.trans a1, b2.elim .inl fun h2 => a2.imp h2.trans h2.trans,
      fun ev hev => (List.mem_append.1 hev).elim (a3 ev) (b3 ev)⟩
  | case6 b cs hd s s1 e1 e _ r s2 e2 hh hb ihb ihh =>
    rw [hb] at ihb; rw [hh] at ihh
    intro h
    obtain ⟨a1, a2, a3⟩ := ihb h.1
    obtain ⟨b1, b2, b3⟩ := ihh h.2
    exact ⟨b1.trans a1, b2.elim .inl fun h2 => a2.imp h2.trans h2.trans,
      fun ev hev => (List.mem_append.1 hev).elim (a3 ev) (b3 ev)⟩
  | case7 b cs hd s s1 e1 e _ hb ihb => rw [hb] at ihb; exact fun h => ihb h.1
  | case8 b cs hd s s1 e1 hb ihb => rw [hb] at ihb; exact fun h => ihb h.1
  | case9 ig rel t body s d s0 r s1 e1 hb r' x s2 hx ih =>
    rw [hb] at ih
    intro h
    obtain ⟨a1, a2, a3⟩ := ih h
    -- the marker was reset on entry and nothing in the body could set it
    have hmn : s1.marker = none := a2.elim id id
    rw [aexit_none true ig d s1 r hmn] at hx
    cases hx
    refine ⟨a1, .inl hmn, fun ev hev => (List.mem_append.1 hev).elim (a3 ev) fun h1 => ?_⟩
    cases List.mem_singleton.1 h1
    exact fun _ _ _ _ he => by cases he; rfl

/-- **A body that never suspends is never interrupted, whatever the deadline** - zero and
already-past deadlines included: no time passes, no block (this one or any inside) reports
expiry, the body's own outcome passes through the block unchanged, nothing is left armed. -/
theorem instant_body_unaffected (ig rel : Bool) (t t0 : Int) (body : Prog) (hi : Instant body) :
    let d := if rel then t0 + t else t
    let under := run true (.block ig rel t body) { now := t0 }
    under.2.1.now = t0 ∧
    under.1 = (run true body (enter { now := t0 } d)).1 ∧
    (∀ ev ∈ under.2.2, ∀ dd r x tt, ev = Ev.exit dd r x tt → x = false) ∧
    under.2.1.armed = none ∧ under.2.1.deadlines = [] := by
  intro d under
  have hrun := instant_run (.block ig rel t body) { now := t0 } hi
  have hbody := instant_run body (enter { now := t0 } d) hi
  have hnla := nothing_left_armed true (.block ig rel t body) t0 none
  refine ⟨hrun.1, ?_, hrun.2.2, hnla.2, hnla.1⟩
  show (aexit true ig d _ _).1 = _
  rw [aexit_none true ig d _ _ (hbody.2.1.elim id id)]

/-- non-vacuity: a zero and a past deadline around non-suspending bodies -/
example : (run true (.block false true 0 (.raise .other)) { now := 7 }).1 = some .other ∧
    (run true (.block true false (-5) (.block false true 0 .skip)) { now := 7 }).2.2 =
      [.exit 7 none false 7, .exit (-5) none false 7] := by decide

end Aiorpcx.C11
