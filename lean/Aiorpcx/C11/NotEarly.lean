import Aiorpcx.C11.Stack
/-! Every exit event of the trace that reports expiry happened at or after the block's deadline:
the marker invariant `Kk` read at the block exits. -/
namespace Aiorpcx.C11

/-- Every block exit recorded in the trace with `expired = true` happened at or after the
block's deadline (**not earlier**), and left the block as `TaskTimeout` — or quietly for the
ignore forms. -/
def ExitOK : Ev → Prop
  | .exit d r expired t => expired = true → d ≤ t ∧ (r = some .taskTimeout ∨ r = none)
  | .gexit _ _ _ => True

theorem run_exitOK (fixed : Bool) (p : Prog) (s : TS) :
    Kk s → ∀ ev ∈ (run fixed p s).2.2, ExitOK ev := by
  fun_induction run fixed p s with
  | case1 | case2 | case3 => exact fun _ _ h => nomatch h
  | case4 a b s s1 e1 e ha iha => rwa [ha] at iha
  | case5 a b s s1 e1 r s2 e2 hb ha iha ihb =>
    have hk := (run_frame fixed a s).kk
    rw [ha] at iha hk; rw [hb] at ihb
    exact fun h ev hev => (List.mem_append.1 hev).elim (iha h ev) (ihb (hk h) ev)
  | case6 b cs h s s1 e1 e _ r s2 e2 hh hb ihb ihh =>
    have hk := (run_frame fixed b s).kk
    rw [hb] at ihb hk; rw [hh] at ihh
    exact fun h ev hev => (List.mem_append.1 hev).elim (ihb h ev) (ihh (hk h) ev)
  | case7 b cs h s s1 e1 e _ hb ihb => rwa [hb] at ihb
  | case8 b cs h s s1 e1 hb ihb => rwa [hb] at ihb
  | case9 ig rel t body s d s0 r s1 e1 hb r' x s2 hx ih =>
    have hk := (run_frame fixed body s0).kk (enter_kk s d)
    rw [hb] at ih hk
    intro _ ev hev
    rcases List.mem_append.1 hev with h1 | h1
    · exact ih (enter_kk s d) ev h1
    · cases List.mem_singleton.1 h1
      intro hexp
      have hs2 : s2 = (unset s1).2.2 := by rw [← aexit_state fixed ig d r s1, hx]
      obtain ⟨hm, _, hr⟩ := aexit_expired fixed ig d r s1 (by rw [hx]; exact hexp)
      rw [hx] at hr
      refine ⟨by rw [hs2]; exact hk d hm, ?_⟩
      cases ig
      · exact .inl hr
      · exact .inr hr
  | case10 anyp ms body s r s1 e1 hb r' s2 left hg ih =>
    rw [hb] at ih
    intro h ev hev
    rcases List.mem_append.1 hev with h1 | h1
    · exact ih h ev h1
    · cases List.mem_singleton.1 h1
      trivial

end Aiorpcx.C11
