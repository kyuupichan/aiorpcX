import Aiorpcx.C12.Inv
import Aiorpcx.C11.NotEarly
/-!
# C11 — whole-program theorems: a block never runs past its deadline, and reports expiry
exactly at it

For programs that do not themselves catch or raise the cancellation family (`NoCatch`), contain
no task group (`Flat`: a group's clean-up awaits its members' reactions while the cancellation is
in flight, so the block is left later) and without an external `cancel()`.
-/
namespace Aiorpcx.C11

/-- postcondition used for the time bound -/
structure TB (B : Int) (s s' : TS) (r : Res) : Prop where
  deadlines : s'.deadlines = s.deadlines
  bound : s'.now ≤ B
  mono : s.now ≤ s'.now
  noCancel : s'.cancelAt = none
  strong : Continues r → Strong s'

/-- whenever execution can continue the timer is armed exactly: only a fired timer breaks
`Strong`, and the cancellation it raises is not caught -/
theorem run_strong (p : Prog) (s : TS) : NoCatch p → Flat p → Strong s →
    Continues (run true p s).1 → Strong (run true p s).2.1 := by
  fun_induction run true p s with
  | case1 s => exact fun _ _ h _ => h
  | case2 d s r s' h =>
    intro _ _ hst hr
    rcases doSleep_cases s d with ⟨e, _⟩ | ⟨_, _, e, _⟩ | ⟨_, _, e, _⟩ <;> rw [h] at e <;> cases e
    · exact hst
    · exact hr.elim
    · exact hr.elim
  | case3 e s => exact fun _ _ h _ => h
  | case4 a b s s1 e1 e ha iha => rw [ha] at iha; exact fun hp hf => iha hp.1 hf.1
  | case5 a b s s1 e1 r s2 e2 hb ha iha ihb =>
    rw [ha] at iha; rw [hb] at ihb
    exact fun hp hf hst => ihb hp.2 hf.2 (iha hp.1 hf.1 hst trivial)
  | case6 b cs hd s s1 e1 e hin r s2 e2 hh hb ihb ihh =>
    rw [hb] at ihb; rw [hh] at ihh
    exact fun hp hf hst => ihh hp.2.1 hf.2 (ihb hp.1 hf.1 hst (continues_of_caught hin hp.2.2))
  | case7 b cs hd s s1 e1 e _ hb ihb => rw [hb] at ihb; exact fun hp hf => ihb hp.1 hf.1
  | case8 b cs hd s s1 e1 hb ihb => rw [hb] at ihb; exact fun hp hf => ihb hp.1 hf.1
  | case9 ig rel t body s d s0 r s1 e1 hb r' x s2 hx ih =>
    intro _ _ _ _
    rw [← show (aexit true ig d r s1).2.2 = s2 by rw [hx], aexit_state]
    exact rfl
  | case10 => exact fun _ hf => hf.elim

theorem run_bound (B D : Int) (p : Prog) (s : TS) : NoCatch p → Flat p → Strong s →
    s.cancelAt = none → D ∈ s.deadlines → s.now ≤ B → D ≤ B → (run true p s).2.1.now ≤ B := by
  fun_induction run true p s with
  | case1 s => exact fun _ _ _ _ _ h _ => h
  | case2 d s r s' h =>
    intro _ _ hst hc hD hb hDB
    -- the timer is set for a deadline no later than `D`
    obtain ⟨a, ha, haD⟩ := minL_le hD
    have hcl : clampT s.now a ≤ B := clampT_le hb (Int.le_trans haD hDB)
    rw [← show (doSleep s d).2 = s' by rw [h]]
    rcases doSleep_cases s d with ⟨e, hw, _⟩ | ⟨a', ha', e, _⟩ | ⟨c, hc', _⟩
    · rw [e]; exact Int.le_trans (Int.le_of_lt (hw a (hst.trans ha))) hcl
    · cases ha'.symm.trans (hst.trans ha)
      rw [e]; exact hcl
    · rw [hc] at hc'; nomatch hc'
  | case3 e s => exact fun _ _ _ _ _ h _ => h
  | case4 a b s s1 e1 e ha iha => rw [ha] at iha; exact fun hp hf => iha hp.1 hf.1
  | case5 a b s s1 e1 r s2 e2 hb ha iha ihb =>
    have f := run_frame true a s
    have hs := run_strong a s
    rw [ha] at iha f hs; rw [hb] at ihb
    intro hp hf hst hc hD hB hDB
    exact ihb hp.2 hf.2 (hs hp.1 hf.1 hst trivial) (f.noCancel hc) (f.deadlines ▸ hD)
      (iha hp.1 hf.1 hst hc hD hB hDB) hDB
  | case6 b cs hd s s1 e1 e hin r s2 e2 hh hb ihb ihh =>
    have f := run_frame true b s
    have hs := run_strong b s
    rw [hb] at ihb f hs; rw [hh] at ihh
    intro hp hf hst hc hD hB hDB
    exact ihh hp.2.1 hf.2 (hs hp.1 hf.1 hst (continues_of_caught hin hp.2.2)) (f.noCancel hc)
      (f.deadlines ▸ hD) (ihb hp.1 hf.1 hst hc hD hB hDB) hDB
  | case7 b cs hd s s1 e1 e _ hb ihb => rw [hb] at ihb; exact fun hp hf => ihb hp.1 hf.1
  | case8 b cs hd s s1 e1 hb ihb => rw [hb] at ihb; exact fun hp hf => ihb hp.1 hf.1
  | case9 ig rel t body s d s0 r s1 e1 hb r' x s2 hx ih =>
    rw [hb] at ih
    intro hp hf hst hc hD hB hDB
    rw [← show (aexit true ig d r s1).2.2 = s2 by rw [hx], aexit_state]
    exact ih hp hf (enter_strong s d hst) hc (List.mem_append_left _ hD) hB hDB
  | case10 => exact fun _ hf => hf.elim

/-- **Time bound.**  Inside any active deadline `D` (with `B ≥ D` and `B ≥` the current time)
no program runs past `B`. -/
theorem run_TB (B D : Int) (p : Prog) : ∀ (s : TS), NoCatch p → Flat p → Strong s → s.cancelAt = none →
    D ∈ s.deadlines → s.now ≤ B → D ≤ B → TB B s (run true p s).2.1 (run true p s).1 :=
  fun s hp hf hst hc hD hb hDB =>
    have f := run_frame true p s
    ⟨f.deadlines, run_bound B D p s hp hf hst hc hD hb hDB, f.mono, f.noCancel hc,
     run_strong p s hp hf hst⟩

/-- **A block never runs past its deadline, and expiry is reported exactly at it.**  For an
outermost timeout block (any of the four forms) entered at `t0` with deadline `d`, around any
body that does not itself catch the cancellation family, with no external cancel: the block has
exited by `max t0 d`; and if it reports `expired`, it exited at exactly `max t0 d` - at `d` itself
unless the deadline was already past on entry - raising `TaskTimeout` (timeout forms) or
nothing (ignore forms). -/
theorem fires_at_deadline (ig rel : Bool) (t t0 : Int) (body : Prog) (hp : NoCatch body)
    (hf : Flat body) :
    let d := if rel then t0 + t else t
    let r := run true (.block ig rel t body) { now := t0 }
    r.2.1.now ≤ max t0 d ∧
    ∀ res tm, r.2.2.getLast? = some (Ev.exit d res true tm) →
      tm = max t0 d ∧ r.1 = (if ig then none else some .taskTimeout) := by
  intro d r
  have hbody := run_TB (max t0 d) d body (enter { now := t0 } d) hp hf rfl rfl
    List.mem_cons_self (Int.le_max_left ..) (Int.le_max_right ..)
  have hK := (run_frame true body (enter { now := t0 } d)).kk (enter_kk _ _)
  have hr : r = _ := run_block true ig rel t body { now := t0 } d rfl
  rw [hr]
  refine ⟨hbody.bound, fun res tm hlast => ?_⟩
  rw [List.getLast?_concat] at hlast
  injection hlast with hlast
  injection hlast with _ _ hexp htm
  obtain ⟨hm, _, hres⟩ := aexit_expired true ig d _ _ hexp
  exact ⟨htm.symm.trans (Int.le_antisymm hbody.bound (Int.max_le.2 ⟨hbody.mono, hK d hm⟩)), hres⟩

end Aiorpcx.C11
