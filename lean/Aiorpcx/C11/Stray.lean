import Aiorpcx.C12.Inv
/-!
# C11 — no cancellation caused by a deadline escapes its block

For every program that does not itself raise `CancelledError` / `TimeoutCancellationError`
(handlers for them, task groups and interrupted group clean-ups are all allowed) and without an
external `cancel()`: whenever a cancellation is in flight it is attributed to a deadline that is
still on the stack, i.e. to an enclosing block that has not exited - so nothing of the kind ever
comes out of the outermost block.  Together with `nothing_left_armed` this is the model-level
reading of "no cancellation caused by that deadline is ever delivered once the block has exited",
and it is what the harness's clause O6 (`c11:late-cancel`) checks on the real code.
-/
namespace Aiorpcx.C11

/-- programs that never raise the cancellation family by hand -/
def NoRaiseCX : Prog → Prop
  | .skip => True
  | .sleep _ => True
  | .raise e => e ≠ .cancelled ∧ e ≠ .tce
  | .seq a b => NoRaiseCX a ∧ NoRaiseCX b
  | .block _ _ _ b => NoRaiseCX b
  | .tryCatch b _ h => NoRaiseCX b ∧ NoRaiseCX h
  | .group _ _ b => NoRaiseCX b

def IsCX (r : Res) : Prop := r = some .cancelled ∨ r = some .tce

theorem IsCX.family {r : Res} (h : IsCX r) : isCancelFamily r = true := by
  rcases h with h | h <;> rw [h] <;> rfl

structure Attr (s s' : TS) (r : Res) : Prop where
  deadlines : s'.deadlines = s.deadlines
  inv : Inv s'
  noCancel : s'.cancelAt = none
  attr : IsCX r → Active s'

theorem Attr.trans {s s1 s2 : TS} {r1 r : Res} (h1 : Attr s s1 r1) (h2 : Attr s1 s2 r) :
    Attr s s2 r :=
  ⟨h2.deadlines.trans h1.deadlines, h2.inv, h2.noCancel, h2.attr⟩

/-- without an external cancel a suspension is interrupted only by the armed timer, which is set
for an active deadline -/
theorem Attr.sleep {s0 s : TS} {r : Res} (h : Attr s0 s r) (d : Nat) :
    Attr s0 (doSleep s d).2 (doSleep s d).1 := by
  have f := doSleep_frame s d
  refine ⟨f.deadlines.trans h.deadlines, f.inv h.inv, f.noCancel h.noCancel, ?_⟩
  rcases doSleep_of_noCancel d h.noCancel with e | ⟨a, ha, e⟩ <;> rw [e]
  · exact fun hcx => hcx.elim nofun nofun
  · exact fun _ => ⟨a, rfl, h.inv.armed_mem ha⟩

/-- a suspension that is not interrupted changes neither the marker nor the stack -/
theorem Attr.sleep_none {s0 s : TS} {r : Res} (h : Attr s0 s r) {d : Nat}
    (hn : (doSleep s d).1 = none) : Attr s0 (doSleep s d).2 r := by
  refine ⟨(h.sleep d).deadlines, (h.sleep d).inv, (h.sleep d).noCancel, ?_⟩
  rw [doSleep_of_none hn]
  exact h.attr

theorem sweep_attr (R : List (Nat × Nat)) (r : Res) (s0 s : TS) (h : Attr s0 s r) :
    Attr s0 (sweep R r s).2.1 (sweep R r s).1 := by
  rcases sweep_cases R r s with e | ⟨hn, e⟩ | ⟨e', he, e⟩ <;> rw [e]
  · exact h
  · exact h.sleep_none hn
  · exact he ▸ h.sleep _

theorem gexit_attr (anyp : Bool) (T : Int) (ms : List (Nat × Nat)) (r : Res) (s0 s : TS)
    (h : Attr s0 s r) : Attr s0 (gexit anyp T ms r s).2.1 (gexit anyp T ms r s).1 := by
  rcases gexit_cases anyp T ms r s with e | ⟨rfl, e | e | ⟨hn, e⟩⟩ <;> rw [e]
  · exact sweep_attr _ _ _ _ h
  · exact h
  · exact sweep_attr _ _ _ _ (h.sleep _)
  · exact hn ▸ h.sleep _

/-- leaving a block: a cancellation in flight either is this block's own (it becomes
`TaskTimeout` / a quiet end) or stays attributed to a deadline further out -/
theorem aexit_attr (ig : Bool) (d : Int) (s s1 : TS) (r : Res)
    (hds : s1.deadlines = s.deadlines ++ [d]) (hattr : IsCX r → Active s1) :
    IsCX (aexit true ig d r s1).1 → Active (aexit true ig d r s1).2.2 := by
  cases hf : isCancelFamily r with
  | false => rw [aexit_nofam _ _ _ _ _ hf]; exact fun hcx => nomatch hf.symm.trans hcx.family
  | true =>
    cases hm : s1.marker with
    | none =>
      rw [aexit_none _ _ _ _ _ hm]
      intro hcx
      obtain ⟨m, hm', _⟩ := hattr hcx
      rw [hm] at hm'; nomatch hm'
    | some m =>
      by_cases hmd : m = d
      · subst hmd
        rw [aexit_self _ _ _ _ _ hf hm]
        cases ig <;> exact fun hcx => hcx.elim nofun nofun
      · by_cases hmem : m ∈ s1.deadlines
        · rw [aexit_active _ _ _ _ _ hf hm hmd hmem]
          refine fun _ => ⟨m, hm, ?_⟩
          rw [(unset_fields s1).2.2, hds, List.dropLast_concat]
          exact mem_of_mem_append_single (hds ▸ hmem) hmd
        · -- a stale marker: only a `TaskTimeout` can be in flight, and it becomes `Uncaught`
          rw [aexit_stale _ _ _ _ _ hf hm hmd hmem]
          dsimp only
          split
          · exact fun hcx => hcx.elim nofun nofun
          · intro hcx
            obtain ⟨m', hm', hmem'⟩ := hattr hcx
            cases hm.symm.trans hm'
            exact absurd hmem' hmem

theorem run_attr (p : Prog) : ∀ (s : TS), NoRaiseCX p → Inv s → s.cancelAt = none →
    Attr s (run true p s).2.1 (run true p s).1 := by
  intro s
  fun_induction run true p s with
  | case1 s => exact fun _ hI hc => ⟨rfl, hI, hc, fun h => h.elim nofun nofun⟩
  | case2 d s r s' h =>
    intro _ hI hc
    have := (Attr.mk (r := none) rfl hI hc (fun h => h.elim nofun nofun)).sleep d
    rwa [h] at this
  | case3 e s =>
    refine fun hp hI hc => ⟨rfl, hI, hc, fun h => ?_⟩
    rcases h with h | h <;> cases h
    · exact absurd rfl hp.1
    · exact absurd rfl hp.2
  | case4 a b s s1 e1 e ha iha => rw [ha] at iha; exact fun hp => iha hp.1
  | case5 a b s s1 e1 r s2 e2 hb ha iha ihb =>
    rw [ha] at iha; rw [hb] at ihb
    intro hp hI hc
    have h1 := iha hp.1 hI hc
    exact h1.trans (ihb hp.2 h1.inv h1.noCancel)
  | case6 b cs hd s s1 e1 e _ r s2 e2 hh hb ihb ihh =>
    rw [hb] at ihb; rw [hh] at ihh
    intro hp hI hc
    have h1 := ihb hp.1 hI hc
    exact h1.trans (ihh hp.2 h1.inv h1.noCancel)
  | case7 b cs hd s s1 e1 e _ hb ihb => rw [hb] at ihb; exact fun hp => ihb hp.1
  | case8 b cs hd s s1 e1 hb ihb => rw [hb] at ihb; exact fun hp => ihb hp.1
  | case9 ig rel t body s d s0 r s1 e1 hb r' x s2 hx ih =>
    rw [hb] at ih
    intro hp hI hc
    have h1 := ih hp (enter_inv s d hI) hc
    have h2 := aexit_attr ig d s s1 r h1.deadlines h1.attr
    have hs2 : (unset s1).2.2 = s2 := by rw [← aexit_state true ig d r s1, hx]
    rw [hx] at h2
    rw [← hs2] at h2 ⊢
    exact ⟨by rw [(unset_fields s1).2.2, h1.deadlines]; exact List.dropLast_concat, .inr rfl,
      h1.noCancel, h2⟩
  | case10 anyp ms body s r s1 e1 hb r' s2 left hg ih =>
    rw [hb] at ih
    intro hp hI hc
    have := gexit_attr anyp s.now ms r s s1 (ih hp hI hc)
    rwa [hg] at this

/-- **No cancellation escapes the blocks.**  A program that raises no cancellation of its own,
run as a task that nobody cancels from outside, never ends with `CancelledError` or
`TimeoutCancellationError` - whatever it catches, with or without task groups.  (Every
cancellation in flight belongs to a deadline still on the stack; at top level the stack is
empty.) -/
theorem no_stray_cancellation (p : Prog) (hp : NoRaiseCX p) (now : Int) :
    (run true p { now := now }).1 ≠ some .cancelled ∧ (run true p { now := now }).1 ≠ some .tce := by
  have h := run_attr p { now := now } hp (Or.inl rfl) rfl
  have hno : ¬ IsCX (run true p { now := now }).1 := by
    intro hcx
    obtain ⟨m, _, hmem⟩ := h.attr hcx
    rw [h.deadlines] at hmem
    nomatch hmem
  exact ⟨fun h1 => hno (Or.inl h1), fun h2 => hno (Or.inr h2)⟩

/-- non-vacuity: a program that swallows a deadline's cancellation, goes on, and is interrupted
again by the re-armed past deadline - still nothing escapes -/
example : (run true (.block false true 10 (.seq
      (.tryCatch (.sleep 100) [.cancelled] (.block false true 2 .skip))
      (.group false [(50, 8)] (.sleep 100)))) {}).1 = some .taskTimeout := by decide

end Aiorpcx.C11
