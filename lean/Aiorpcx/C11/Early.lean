import Aiorpcx.C11.Deadline
import Aiorpcx.C11.Stray
/-!
# C11 — one more enclosing deadline

`run_sim'`: running a program under one more (outermost) deadline `D` either stays in lock-step
with the run without it, or - at the first suspension that would cross `D` outside any inner block
with the same deadline - is *doomed*: a cancellation attributed to `D` is in flight and nothing
inside can stop it; the run without `D` then lasts until `D` at least.  Hence the frame lemma
`run_lift` (a run that ends before `D` is not affected by it) and `early_finish_unaffected`.
-/
namespace Aiorpcx.C11

/-- the same task state with one more enclosing deadline `D` at the bottom of the stack -/
def lift (D : Int) (s : TS) : TS :=
  { s with deadlines := D :: s.deadlines,
           armed := if s.armed = none ∧ s.deadlines ≠ [] then none else minL (D :: s.deadlines) }

theorem lift_fields (D : Int) (s : TS) :
    (lift D s).now = s.now ∧ (lift D s).marker = s.marker ∧ (lift D s).cancelAt = s.cancelAt ∧
    (lift D s).deadlines = D :: s.deadlines := ⟨rfl, rfl, rfl, rfl⟩

theorem lift_strong (D : Int) (s : TS) (h : Strong s) : Strong (lift D s) :=
  if_neg fun h1 => h1.2 (minL_eq_none.1 (h.symm.trans h1.1))

theorem Strong.ext {s t : TS} (hs : Strong s) (ht : Strong t) (h1 : s.now = t.now)
    (h2 : s.deadlines = t.deadlines) (h3 : s.marker = t.marker) (h4 : s.cancelAt = t.cancelAt) :
    s = t :=
  TS.ext' h1 h2 (hs.trans (h2 ▸ ht.symm)) h3 h4

theorem enter_lift (D : Int) (s : TS) (d : Int) (hst : Strong s) :
    enter (lift D s) d = lift D (enter s d) :=
  (enter_strong _ d (lift_strong D s hst)).ext (lift_strong D _ (enter_strong s d hst))
    rfl rfl rfl rfl

theorem enter_top (t0 d : Int) : enter { now := t0 } d = lift d { now := t0 } :=
  TS.ext' rfl rfl (show some d = if (none : Option Int) = none ∧ ([] : List Int) ≠ [] then none
    else minL [d] from (if_neg fun h => h.2 rfl).symm) rfl rfl

theorem unset_lift (D : Int) (s : TS) (hne : s.deadlines ≠ []) :
    (unset (lift D s)).2.2 = lift D (unset s).2.2 :=
  Strong.ext rfl (lift_strong D _ rfl) rfl (List.dropLast_cons_of_ne_nil hne) rfl rfl

theorem timerFire_lift (D : Int) (s : TS) (m : Int) (hne : s.deadlines ≠ []) :
    timerFire (lift D s) m = ((timerFire s m).1, lift D (timerFire s m).2) :=
  congrArg (Prod.mk _) (TS.ext' rfl rfl (if_pos ⟨rfl, hne⟩).symm rfl rfl)

/-- one suspension under the extra deadline: in step, or `D` fires (no inner block has it, and
the suspension without it lasts until `D` at least) -/
theorem doSleep_sim (D : Int) (s : TS) (d : Nat) (hst : Strong s) (hc : s.cancelAt = none) :
    doSleep (lift D s) d = ((doSleep s d).1, lift D (doSleep s d).2) ∨
    (doSleep (lift D s) d = timerFire (lift D s) D ∧ D ∉ s.deadlines ∧ D ≤ (doSleep s d).2.now) := by
  have hl : (lift D s).armed = minL (D :: s.deadlines) := lift_strong D s hst
  rw [minL_cons] at hl
  have hn := (lift_fields D s).1
  have hD := (clampT_ge s.now D).2
  cases hm : minL s.deadlines with
  | none =>
    -- no timer without the extra deadline
    rw [hm] at hl
    rw [doSleep_armed d hl hc, hn, doSleep_unarmed d (hst.trans hm) hc]
    split
    · exact .inr ⟨rfl, by rw [minL_eq_none.1 hm]; nofun, Int.le_trans hD ‹_›⟩
    · exact .inl rfl
  | some m =>
    rw [hm] at hl
    dsimp only at hl
    have hne : s.deadlines ≠ [] := fun h0 => by rw [h0] at hm; nomatch hm
    rw [doSleep_armed d (hst.trans hm) hc]
    by_cases hDm : D < m
    · -- `D` is the least deadline, and no inner block has it
      rw [if_pos hDm] at hl
      rw [doSleep_armed d hl hc, hn]
      by_cases hfire : clampT s.now D ≤ s.now + d
      · rw [if_pos hfire]
        refine .inr ⟨rfl, fun hmem => Int.not_le.2 hDm (minL_le_mem hm hmem), ?_⟩
        split
        · exact Int.le_trans (Int.le_of_lt hDm) (clampT_ge s.now m).2
        · exact Int.le_trans hD hfire
      · rw [if_neg hfire,
          if_neg fun h => hfire (Int.le_trans (clampT_mono s.now (Int.le_of_lt hDm)) h)]
        exact .inl rfl
    · rw [if_neg hDm] at hl
      rw [doSleep_armed d hl hc, hn]
      refine .inl ?_
      split
      · exact timerFire_lift D s m hne
      · rfl

/-- leaving a block under the extra deadline: same decision, and the lifted state - unless a
cancellation arrives with a marker `D` that is stale without the extra deadline and active with it -/
theorem aexit_lift (D : Int) (ig : Bool) (self : Int) (r : Res) (s : TS) (hne : s.deadlines ≠ [])
    (h : isCancelFamily r = true → s.marker = some D → D ∈ s.deadlines) :
    aexit true ig self r (lift D s) =
      ((aexit true ig self r s).1, (aexit true ig self r s).2.1,
       lift D (aexit true ig self r s).2.2) := by
  cases hf : isCancelFamily r with
  | false => rw [aexit_nofam _ _ _ _ _ hf, aexit_nofam _ _ _ _ _ hf, unset_lift D s hne]
  | true =>
    obtain ⟨h1, h2⟩ := aexit_congr true ig self r (s := lift D s) (t := s) rfl fun m hm => by
      show (D :: s.deadlines).contains m = _
      rw [List.contains_cons]
      by_cases hmD : m = D
      · rw [List.contains_iff_mem.2 (hmD ▸ h hf (hmD ▸ hm)), Bool.or_true]
      · rw [beq_false_of_ne hmD, Bool.false_or]
    refine Prod.ext h1 (Prod.ext h2 ?_)
    show (aexit true ig self r (lift D s)).2.2 = _
    rw [aexit_state, aexit_state, unset_lift D s hne]

/-- leaving a block while no active deadline is marked (no marker, or the deadline of an inner
block that has exited): nothing is reported, an unhandled inner `TaskTimeout` becomes
`UncaughtTimeoutError` -/
theorem aexit_unmarked (ig : Bool) (d : Int) (s : TS) (r : Res)
    (h : ∀ m, s.marker = some m → m ≠ d ∧ m ∉ s.deadlines) :
    aexit true ig d r s =
      (if r = some .taskTimeout ∧ s.marker ≠ none then some .uncaught else r, false,
       (unset s).2.2) := by
  cases hf : isCancelFamily r with
  | false => rw [aexit_nofam _ _ _ _ _ hf, if_neg fun h' => by rw [h'.1] at hf; nomatch hf]
  | true =>
    cases hm : s.marker with
    | none => rw [aexit_none _ _ _ _ _ hm, if_neg fun h' => h'.2 rfl]
    | some m =>
      rw [aexit_stale _ _ _ _ _ hf hm (h m hm).1 (h m hm).2]
      by_cases hr : r = some .taskTimeout
      · rw [if_pos hr, if_pos ⟨hr, nofun⟩]
      · rw [if_neg hr, if_neg fun h' => hr h'.1]

/-- a cancellation attributed to the extra deadline `D` is in flight -/
def Doomed (D : Int) (s : TS) (U : Res × TS × List Ev) : Prop :=
  IsCX U.1 ∧ U.2.1.marker = some D ∧ U.2.1.deadlines = D :: s.deadlines ∧ D ∉ s.deadlines ∧
  U.2.1.cancelAt = none

/-- a doomed run reaching the exit of an inner block stays doomed -/
theorem aexit_doomed (D : Int) (ig : Bool) (d : Int) (s : TS) (r : Res) (s1 : TS)
    (hf : isCancelFamily r = true) (hm : s1.marker = some D)
    (hds : s1.deadlines = D :: (s.deadlines ++ [d]))
    (hnot : D ∉ s.deadlines ++ [d]) (hc : s1.cancelAt = none) (evs : List Ev) :
    Doomed D s ((aexit true ig d r s1).1, (aexit true ig d r s1).2.2, evs) := by
  have hmd : D ≠ d := fun h => hnot (h ▸ List.mem_append_right _ List.mem_cons_self)
  rw [aexit_active _ _ _ _ _ hf hm hmd (hds ▸ List.mem_cons_self)]
  refine ⟨.inr rfl, hm, ?_, fun h => hnot (List.mem_append_left _ h), hc⟩
  show s1.deadlines.dropLast = _
  rw [hds, ← List.cons_append, List.dropLast_concat]

theorem Doomed.seq_stop {D : Int} {s t : TS} {a : Prog} (h : Doomed D s (run true a t)) (b : Prog) :
    run true (.seq a b) t = run true a t :=
  h.1.elim (run_seq_some b) (run_seq_some b)

theorem Doomed.try_pass {D : Int} {s t : TS} {b : Prog} {cs : List Exc}
    (h : Doomed D s (run true b t)) (hcs : Exc.cancelled ∉ cs ∧ Exc.tce ∉ cs) (hd : Prog) :
    run true (.tryCatch b cs hd) t = run true b t := by
  refine run_try_pass hd fun e he => Bool.eq_false_iff.2 fun hc => ?_
  rcases h.1 with h' | h' <;> cases he.symm.trans h'
  · exact hcs.1 (List.contains_iff_mem.1 hc)
  · exact hcs.2 (List.contains_iff_mem.1 hc)

theorem Doomed.rebase {D : Int} {s s' : TS} {U : Res × TS × List Ev} (h : Doomed D s' U)
    (hd : s'.deadlines = s.deadlines) : Doomed D s U :=
  ⟨h.1, h.2.1, hd ▸ h.2.2.1, hd ▸ h.2.2.2.1, h.2.2.2.2⟩

/-- **Simulation.**  Under one more outermost deadline `D` a program runs in lock-step with the
run without it, or ends doomed - and then the run without `D` lasts until `D` at least. -/
theorem run_sim' (D : Int) (p : Prog) (s : TS) : NoCatch p → Flat p → Strong s → Kk s →
    s.cancelAt = none →
    run true p (lift D s) = ((run true p s).1, lift D (run true p s).2.1, (run true p s).2.2) ∨
    (Doomed D s (run true p (lift D s)) ∧ D ≤ (run true p s).2.1.now) := by
  fun_induction run true p s with
  | case1 s => exact fun _ _ _ _ _ => .inl rfl
  | case2 d s r s' h =>
    intro _ _ hst _ hc
    rw [run]
    rcases doSleep_sim D s d hst hc with e | ⟨e, hnot, hle⟩ <;> rw [h] at * <;> rw [e]
    · exact .inl rfl
    · exact .inr ⟨⟨.inl rfl, rfl, rfl, hnot, hc⟩, hle⟩
  | case3 e s => exact fun _ _ _ _ _ => .inl rfl
  | case4 a b s s1 e1 e ha iha =>
    rw [ha] at iha
    intro hp hf hst hk hc
    rcases iha hp.1 hf.1 hst hk hc with h | h
    · exact .inl (by rw [run_seq_some b (by rw [h]), h])
    · exact .inr (by rw [h.1.seq_stop b]; exact h)
  | case5 a b s s1 e1 r s2 e2 hb ha iha ihb =>
    have f := run_frame true a s
    have f2 := run_frame true b s1
    have hs := run_strong a s
    rw [ha] at iha f hs; rw [hb] at ihb f2
    intro hp hf hst hk hc
    rcases iha hp.1 hf.1 hst hk hc with h | h
    · rw [run_seq_none b (by rw [h]), h]
      rcases ihb hp.2 hf.2 (hs hp.1 hf.1 hst trivial) (f.kk hk) (f.noCancel hc) with h' | h'
      · exact .inl (by rw [h'])
      · exact .inr ⟨h'.1.rebase f.deadlines, h'.2⟩
    · exact .inr (by rw [h.1.seq_stop b]; exact ⟨h.1, Int.le_trans h.2 f2.mono⟩)
  | case6 b cs hd s s1 e1 e hin r s2 e2 hh hb ihb ihh =>
    have f := run_frame true b s
    have f2 := run_frame true hd s1
    have hs := run_strong b s
    rw [hb] at ihb f hs; rw [hh] at ihh f2
    intro hp hf hst hk hc
    rcases ihb hp.1 hf.1 hst hk hc with h | h
    · rw [run_try_caught hd (by rw [h]) hin, h]
      rcases ihh hp.2.1 hf.2 (hs hp.1 hf.1 hst (continues_of_caught hin hp.2.2)) (f.kk hk)
        (f.noCancel hc) with h' | h'
      · exact .inl (by rw [h'])
      · exact .inr ⟨h'.1.rebase f.deadlines, h'.2⟩
    · exact .inr (by rw [h.1.try_pass hp.2.2 hd]; exact ⟨h.1, Int.le_trans h.2 f2.mono⟩)
  | case7 b cs hd s s1 e1 e hin hb ihb =>
    rw [hb] at ihb
    intro hp hf hst hk hc
    rcases ihb hp.1 hf.1 hst hk hc with h | h
    · refine .inl ?_
      rw [run_try_pass hd fun e' he' => ?_, h]
      rw [h] at he'
      cases he'
      exact Bool.eq_false_iff.2 hin
    · exact .inr (by rw [h.1.try_pass hp.2.2 hd]; exact h)
  | case8 b cs hd s s1 e1 hb ihb =>
    rw [hb] at ihb
    intro hp hf hst hk hc
    rcases ihb hp.1 hf.1 hst hk hc with h | h
    · exact .inl (by rw [run_try_pass hd fun e' he' => (by rw [h] at he'; nomatch he'), h])
    · exact .inr (by rw [h.1.try_pass hp.2.2 hd]; exact h)
  | case9 ig rel t body s d s0 r s1 e1 hb r' x s2 hx ih =>
    have f := run_frame true body s0
    rw [hb] at ih f
    intro hp hf hst hk hc
    have hds : s1.deadlines = s.deadlines ++ [d] := f.deadlines
    have hk1 : Kk s1 := f.kk (enter_kk s d)
    cases aexit_state_eq hx
    rw [run_block true ig rel t body (lift D s) d rfl, enter_lift D s d hst]
    rcases ih hp hf (enter_strong s d hst) (enter_kk s d) hc with h | h
    · rw [h]
      by_cases hstale : isCancelFamily r = true ∧ s1.marker = some D ∧ D ∉ s1.deadlines
      · -- a marker `D` that was stale is active under the extra deadline
        have hd := aexit_doomed D ig d s r (lift D s1) hstale.1 hstale.2.1
          (congrArg (D :: ·) hds) (hds ▸ hstale.2.2) (f.noCancel hc)
        rw [aexit_state] at hd
        exact .inr ⟨hd _, hk1 D hstale.2.1⟩
      · refine .inl ?_
        rw [aexit_lift D ig d r s1 (hds ▸ List.concat_ne_nil d _) fun hf hm =>
          Decidable.by_contra fun hn => hstale ⟨hf, hm, hn⟩, hx, unset_lift D s1
          (hds ▸ List.concat_ne_nil d _)]
        rfl
    · have hd := aexit_doomed D ig d s _ _ h.1.1.family h.1.2.1 h.1.2.2.1 h.1.2.2.2.1 h.1.2.2.2.2
      rw [aexit_state] at hd
      exact .inr ⟨hd _, h.2⟩
  | case10 => exact fun _ hf => hf.elim

/-- `run_sim'` without the time clause; the hypothesis `Jj s` is not used. -/
theorem run_sim (D : Int) (p : Prog) : ∀ (s : TS), NoCatch p → Flat p → Strong s → Kk s → Jj s →
    s.cancelAt = none →
    run true p (lift D s) = ((run true p s).1, lift D (run true p s).2.1, (run true p s).2.2) ∨
    Doomed D s (run true p (lift D s)) :=
  fun s hp hf hst hk _ hc => (run_sim' D p s hp hf hst hk hc).imp id And.left

/-- **Frame lemma.**  A program that (run on its own) ends before `D` runs identically under
an additional enclosing deadline `D`: same result, same per-block trace, same times. -/
theorem run_lift (D : Int) (p : Prog) : ∀ (s : TS), NoCatch p → Flat p → Strong s → Kk s →
    s.cancelAt = none → (run true p s).2.1.now < D →
    run true p (lift D s) = ((run true p s).1, lift D (run true p s).2.1, (run true p s).2.2) :=
  fun s hp hf hst hk hc hlt =>
    (run_sim' D p s hp hf hst hk hc).resolve_right fun h => Int.not_le.2 hlt h.2

/-- what every run preserves (no external cancel, `NoCatch`): the deadline stack, the marker
invariant, and - whenever execution can continue - an exactly armed timer -/
structure Pres (s s' : TS) (r : Res) : Prop where
  deadlines : s'.deadlines = s.deadlines
  kk : Kk s'
  mono : s.now ≤ s'.now
  noCancel : s'.cancelAt = none
  strong : Continues r → Strong s'

theorem run_pres (p : Prog) : ∀ (s : TS), NoCatch p → Flat p → Strong s → Kk s → s.cancelAt = none →
    Pres s (run true p s).2.1 (run true p s).1 :=
  fun s hp hf hst hk hc =>
    have f := run_frame true p s
    ⟨f.deadlines, f.kk hk, f.mono, f.noCancel hc, run_strong p s hp hf hst⟩

/-- **Early finish unaffected.**  If the body of an outermost timeout block (any form), run on
its own from time `t0`, ends strictly before the block's deadline `d` - with whatever result -
then under the block it ends with the same result (an unhandled inner `TaskTimeout` surfacing as
`UncaughtTimeoutError`, as specified), at the same time, with the same inner trace, the block
does not report expiry, and nothing is left armed. -/
theorem early_finish_unaffected (ig rel : Bool) (t t0 : Int) (body : Prog) (hp : NoCatch body)
    (hf : Flat body) :
    let d := if rel then t0 + t else t
    let alone := run true body { now := t0 }
    let under := run true (.block ig rel t body) { now := t0 }
    alone.2.1.now < d →
    under.2.1.now = alone.2.1.now ∧
    under.1 = (if alone.1 = some .taskTimeout ∧ alone.2.1.marker ≠ none then some .uncaught else alone.1) ∧
    under.2.2 = alone.2.2 ++ [Ev.exit d under.1 false alone.2.1.now] ∧
    under.2.1.armed = none ∧ under.2.1.deadlines = [] := by
  intro d alone under hlt
  have hl : run true body (lift d { now := t0 }) = (alone.1, lift d alone.2.1, alone.2.2) :=
    run_lift d body { now := t0 } hp hf rfl nofun rfl hlt
  have p0 := run_pres body { now := t0 } hp hf rfl nofun rfl
  have hnla := nothing_left_armed true (.block ig rel t body) t0 none
  -- a marker left by the body names a deadline that was reached, so not `d`
  have hmk : ∀ m, alone.2.1.marker = some m → m ≠ d ∧ m ∉ (lift d alone.2.1).deadlines := by
    intro m hm
    have hmd : m ≠ d := fun h => Int.not_le.2 hlt (h ▸ p0.kk m hm)
    refine ⟨hmd, fun hmem => ?_⟩
    rw [(lift_fields d alone.2.1).2.2.2, show alone.2.1.deadlines = [] from p0.deadlines] at hmem
    exact hmd (List.mem_singleton.1 hmem)
  have hu : under = _ := run_block true ig rel t body { now := t0 } d rfl
  rw [enter_top, hl, aexit_unmarked ig d (lift d alone.2.1) alone.1 hmk] at hu
  refine ⟨?_, ?_, ?_, hnla.2, hnla.1⟩ <;> rw [hu] <;> rfl

end Aiorpcx.C11
