/-! C11/C12 — model of `TimeoutAfter` (aiorpcx/curio.py:331-407): a small program language over
integer virtual time with a deterministic big-step semantics.  No Mathlib imports. -/
namespace Aiorpcx.C11

inductive Exc where
  | cancelled | taskTimeout | tce | uncaught | other
  deriving Repr, DecidableEq

inductive Prog where
  | skip
  | sleep (d : Nat)
  | seq (a b : Prog)
  | block (ignore rel : Bool) (t : Int) (body : Prog)
  | tryCatch (body : Prog) (catches : List Exc) (handler : Prog)
  | raise (e : Exc)
  /-- `async with TaskGroup(wait=all|any) as g:` with members `(dur, react)` spawned on entry:
      a member sleeps `dur`; once cancelled it needs `react` more before it is dead -/
  | group (anyp : Bool) (members : List (Nat × Nat)) (body : Prog)
  deriving Repr

structure TS where
  now : Int := 0
  deadlines : List Int := []
  armed : Option Int := none
  marker : Option Int := none
  cancelAt : Option Int := none
  deriving Repr

def minL : List Int → Option Int
  | [] => none
  | x :: xs => match minL xs with
    | none => some x
    | some m => some (if x < m then x else m)

inductive Ev where
  | exit (deadline : Int) (res : Option Exc) (expired : Bool) (at_ : Int)
  /-- a task group was left: what left it, how many members were still running, when -/
  | gexit (res : Option Exc) (left : Nat) (at_ : Int)
  deriving Repr, DecidableEq

/-- result: none = completed normally -/
abbrev Res := Option Exc

def clampT (now x : Int) : Int := if x < now then now else x

def timerFire (s : TS) (a : Int) : Res × TS :=
  (some .cancelled, { s with now := clampT s.now a, armed := none, marker := some a })

def cancelFire (s : TS) (c : Int) : Res × TS :=
  (some .cancelled, { s with now := clampT s.now c, cancelAt := none })

def wakeUp (s : TS) (d : Nat) : Res × TS := (none, { s with now := s.now + d })

/-- suspension for `d` ticks: woken by the first of: armed timer, external cancel, own wake-up;
    an interrupt at the same instant as the wake-up wins; a timer at the same instant as the
    external cancel wins (the harness never generates that tie) -/
def doSleep (s : TS) (d : Nat) : Res × TS :=
  match s.armed, s.cancelAt with
  | none, none => wakeUp s d
  | some a, none => if clampT s.now a ≤ s.now + d then timerFire s a else wakeUp s d
  | none, some c => if clampT s.now c ≤ s.now + d then cancelFire s c else wakeUp s d
  | some a, some c =>
      if clampT s.now a ≤ clampT s.now c then
        (if clampT s.now a ≤ s.now + d then timerFire s a else wakeUp s d)
      else
        (if clampT s.now c ≤ s.now + d then cancelFire s c else wakeUp s d)

def enter (s : TS) (d : Int) : TS :=
  let armed' := match minL s.deadlines with
    | none => some d
    | some m => if d < m then some d else s.armed
  { s with deadlines := s.deadlines ++ [d], armed := armed', marker := none }

/-- returns (marker, uncaught, state) -/
def unset (s : TS) : Option Int × Bool × TS :=
  let uncaught := match s.marker with
    | none => true
    | some m => !(s.deadlines.contains m)
  let ds := s.deadlines.dropLast
  (s.marker, uncaught, { s with deadlines := ds, armed := minL ds })

def isCancelFamily : Res → Bool
  | some .cancelled | some .taskTimeout | some .tce => true
  | _ => false

/-- `fixed = true` models the candidate repair of F13 -/
def aexit (fixed ignore : Bool) (self : Int) (r : Res) (s : TS) : Res × Bool × TS :=
  let (marker, uncaught, s') := unset s
  if !isCancelFamily r then (r, false, s')
  else if marker == some self then
    (if ignore then none else some .taskTimeout, true, s')
  else if marker == none then (r, false, s')
  else if uncaught then
    if fixed && r != some .taskTimeout then (r, false, s') else (some .uncaught, false, s')
  else if r == some .tce then (r, false, s')
  else (some .tce, false, s')

/-! ### Task groups (the join / cancel semantics proved in C09, abstracted)

A group entered at `T` has members finishing by themselves at `T + dur`.  Leaving the group:
* body ended normally: `join()` - wait = all: one suspension until the last member has finished
  (none if all have); wait = any: until the first one has (none if one already has), then the
  others are swept; interrupted while waiting (deadline / external cancel) it *sweeps*;
* body raised (a cancellation included): `cancel_remaining()` sweeps at once, then `join()` finds
  everybody finished;
* a sweep cancels every member still running and awaits them: one suspension as long as the
  slowest reaction (none if nobody is running); the exception in flight then continues.  A sweep
  that is itself interrupted gives up: the new cancellation replaces what was in flight and the
  members not yet dead are left running (defect F11, mirrored as is). -/

def maxNat : List Nat → Nat
  | [] => 0
  | x :: xs => if maxNat xs < x then x else maxNat xs

def minNat : List Nat → Nat
  | [] => 0
  | [x] => x
  | x :: y :: ys => if x < minNat (y :: ys) then x else minNat (y :: ys)

/-- members (spawned at `T`) that have not finished by themselves at `now` -/
def runningAt (T : Int) (ms : List (Nat × Nat)) (now : Int) : List (Nat × Nat) :=
  ms.filter (fun m => now < T + m.1)

/-- cancel and await `R` (the members still running) while `r` is in flight -/
def sweep (R : List (Nat × Nat)) (r : Res) (s : TS) : Res × TS × Nat :=
  if R.isEmpty then (r, s, 0)
  else
    match doSleep s (maxNat (R.map (·.2))) with
    | (none, s') => (r, s', 0)
    | (some e, s') => (some e, s', (R.filter (fun m => s'.now < s.now + m.2)).length)

/-- leaving a group entered at `T`: returns (what leaves it, state, members left running) -/
def gexit (anyp : Bool) (T : Int) (ms : List (Nat × Nat)) (r : Res) (s : TS) : Res × TS × Nat :=
  match r with
  | some e => sweep (runningAt T ms s.now) (some e) s
  | none =>
    if (runningAt T ms s.now).isEmpty then (none, s, 0)
    else if anyp && decide ((runningAt T ms s.now).length < ms.length) then
      -- wait = any and somebody has finished already: stop the others at once
      sweep (runningAt T ms s.now) none s
    else
      match doSleep s (T + (if anyp then minNat (ms.map (·.1)) else maxNat (ms.map (·.1))) - s.now).toNat with
      | (none, s') => if anyp then sweep (runningAt T ms s'.now) none s' else (none, s', 0)
      | (some e, s') => sweep (runningAt T ms s'.now) (some e) s'

def run (fixed : Bool) : Prog → TS → Res × TS × List Ev
  | .skip, s => (none, s, [])
  | .sleep d, s => let (r, s') := doSleep s d; (r, s', [])
  | .raise e, s => (some e, s, [])
  | .seq a b, s =>
      let (r, s1, e1) := run fixed a s
      match r with
      | some _ => (r, s1, e1)
      | none => let (r2, s2, e2) := run fixed b s1; (r2, s2, e1 ++ e2)
  | .tryCatch b cs h, s =>
      let (r, s1, e1) := run fixed b s
      match r with
      | some e => if cs.contains e then
                    let (r2, s2, e2) := run fixed h s1; (r2, s2, e1 ++ e2)
                  else (r, s1, e1)
      | none => (none, s1, e1)
  | .block ig rel t body, s =>
      let d := if rel then s.now + t else t
      let s0 := enter s d
      let (r, s1, e1) := run fixed body s0
      let (r', expired, s2) := aexit fixed ig d r s1
      (r', s2, e1 ++ [Ev.exit d r' expired s2.now])
  | .group anyp ms body, s =>
      let (r, s1, e1) := run fixed body s
      let (r', s2, left) := gexit anyp s.now ms r s1
      (r', s2, e1 ++ [Ev.gexit r' left s2.now])

-- F13 witness
def f13 : Prog :=
  .block false true 10 (.seq (.tryCatch (.block false true 1 (.sleep 100)) [.taskTimeout] .skip) (.sleep 100))


end Aiorpcx.C11
