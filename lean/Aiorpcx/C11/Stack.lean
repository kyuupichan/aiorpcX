import Aiorpcx.C11.Step
/-! What every run preserves, whatever the program: the deadline stack, the clock's direction,
the timer invariant `Inv` and the marker invariant `Kk` (`run_frame`). -/
namespace Aiorpcx.C11

/-- the loop timer is either spent/cancelled or set for the least active deadline -/
def Inv (s : TS) : Prop :=
  (s.armed = none ∨ s.armed = minL s.deadlines)

/-- the loop timer is armed for exactly the least active deadline -/
def Strong (s : TS) : Prop := s.armed = minL s.deadlines

/-- the marker only ever names deadlines that have been reached -/
def Kk (s : TS) : Prop := ∀ m, s.marker = some m → m ≤ s.now

def Continues : Res → Prop
  | none => True
  | some .taskTimeout => True
  | some .uncaught => True
  | some .other => True
  | _ => False

theorem Inv.armed_mem {s : TS} (h : Inv s) {a : Int} (ha : s.armed = some a) : a ∈ s.deadlines :=
  h.elim (fun h0 => nomatch h0.symm.trans ha) (fun h0 => minL_mem (h0.symm.trans ha))

structure Frame (s s' : TS) : Prop where
  deadlines : s'.deadlines = s.deadlines
  mono : s.now ≤ s'.now
  noCancel : s.cancelAt = none → s'.cancelAt = none
  inv : Inv s → Inv s'
  kk : Kk s → Kk s'

theorem Frame.refl (s : TS) : Frame s s := ⟨rfl, Int.le_refl _, id, id, id⟩

theorem Frame.trans {s s1 s2 : TS} (h1 : Frame s s1) (h2 : Frame s1 s2) : Frame s s2 :=
  ⟨h2.deadlines.trans h1.deadlines, Int.le_trans h1.mono h2.mono, h2.noCancel ∘ h1.noCancel,
   h2.inv ∘ h1.inv, h2.kk ∘ h1.kk⟩

theorem doSleep_frame (s : TS) (d : Nat) : Frame s (doSleep s d).2 := by
  refine ⟨doSleep_deadlines s d, doSleep_mono s d, ?_, ?_, ?_⟩ <;>
    rcases doSleep_cases s d with ⟨h, _⟩ | ⟨a, _, h, _⟩ | ⟨c, _, h, _⟩ <;> rw [h]
  · exact id
  · exact id
  · exact fun _ => rfl
  · exact id
  · exact fun _ => .inl rfl
  · exact id
  · exact fun hk m hm => Int.le_trans (hk m hm) (Int.le_add_of_nonneg_right (Int.natCast_nonneg d))
  · intro _ m hm
    cases hm
    exact (clampT_ge _ _).2
  · exact fun hk m hm => Int.le_trans (hk m hm) (clampT_ge _ _).1

theorem enter_inv (s : TS) (d : Int) (h : Inv s) : Inv (enter s d) := by
  unfold Inv enter
  rw [minL_append_single]
  cases hm : minL s.deadlines with
  | none => exact .inr rfl
  | some m =>
    dsimp only
    split
    · exact .inr rfl
    · exact h.imp id (·.trans hm)

theorem enter_strong (s : TS) (d : Int) (h : Strong s) : Strong (enter s d) := by
  unfold Strong enter
  rw [minL_append_single]
  cases hm : minL s.deadlines with
  | none => rfl
  | some m =>
    dsimp only
    split
    · rfl
    · exact h.trans hm

theorem enter_kk (s : TS) (d : Int) : Kk (enter s d) := nofun

theorem Frame.block {s s1 : TS} {d : Int} (h : Frame (enter s d) s1) : Frame s (unset s1).2.2 :=
  ⟨by rw [(unset_fields s1).2.2, h.deadlines]; exact List.dropLast_concat, h.mono, h.noCancel,
   fun _ => .inr rfl, fun _ => h.kk (enter_kk s d)⟩

theorem run_frame (fixed : Bool) (p : Prog) (s : TS) : Frame s (run fixed p s).2.1 := by
  -- cases in the order of `run`'s equations: skip, sleep, raise, seq (first part raised /
  -- completed), tryCatch (caught / not caught / body completed), block, group
  fun_induction run fixed p s with
  | case1 s => exact .refl s
  | case2 d s r s' h => rw [← show (doSleep s d).2 = s' by rw [h]]; exact doSleep_frame s d
  | case3 e s => exact .refl s
  | case4 a b s s1 e1 e ha iha => rwa [ha] at iha
  | case5 a b s s1 e1 r s2 e2 hb ha iha ihb => rw [ha] at iha; rw [hb] at ihb; exact iha.trans ihb
  | case6 b cs h s s1 e1 e _ r s2 e2 hh hb ihb ihh =>
    rw [hb] at ihb; rw [hh] at ihh; exact ihb.trans ihh
  | case7 b cs h s s1 e1 e _ hb ihb => rwa [hb] at ihb
  | case8 b cs h s s1 e1 hb ihb => rwa [hb] at ihb
  | case9 ig rel t body s d s0 r s1 e1 hb r' x s2 hx ih =>
    rw [hb] at ih
    rw [← show (aexit fixed ig d r s1).2.2 = s2 by rw [hx], aexit_state]
    exact ih.block
  | case10 anyp ms body s r s1 e1 hb r' s2 left hg ih =>
    rw [hb] at ih
    rw [← show (gexit anyp s.now ms r s1).2.1 = s2 by rw [hg]]
    exact gexit_preserves (Frame s) (fun s' d h => h.trans (doSleep_frame s' d)) _ _ _ _ _ ih

/-- C11 `stack_discipline`: every program (task groups included), on every exit path (normal,
    exception, timeout, external cancellation, a group clean-up that is itself interrupted),
    restores the deadline stack and leaves the timer consistent. -/
theorem stack_discipline (fixed : Bool) (p : Prog) : ∀ (s : TS), Inv s →
    (run fixed p s).2.1.deadlines = s.deadlines ∧ Inv (run fixed p s).2.1 :=
  fun s h => ⟨(run_frame fixed p s).deadlines, (run_frame fixed p s).inv h⟩

/-- corollary: from a task with no active timeout nothing is left armed, whatever happened -/
theorem nothing_left_armed (fixed : Bool) (p : Prog) (now : Int) (c : Option Int) :
    let s' := (run fixed p { now := now, cancelAt := c }).2.1
    s'.deadlines = [] ∧ s'.armed = none := by
  obtain ⟨hd, hi⟩ := stack_discipline fixed p { now := now, cancelAt := c } (.inl rfl)
  refine ⟨hd, hi.elim id fun h => ?_⟩
  rw [h, hd]
  rfl

end Aiorpcx.C11
