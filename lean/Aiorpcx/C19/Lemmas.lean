import Aiorpcx.C19.Model
/-!
# C19 — closed form of `signature_info`, and the counting lemmas behind the theorems

The loop of `signature_info` (repaired) is summarised by `after st s`: counts and filtered name
lists of `s` added to the state `st`.  Where `step` does not raise it is `bump`, the loop body
without its failure branches (`step_eq`), and `after` folds `bump` (`after_bump`); in Python's kind
order `step` never raises (`loop_total`).  So on such lists `SignatureInfo` is `closedInfo`, and
`handler_invocation` is the one test `admits` on it.
-/
namespace Aiorpcx.C19

def nReqPos (s : Sig) : Nat := (s.filter (fun p => isPositional p && !p.dflt)).length
def nPos (s : Sig) : Nat := (positional s).length
/-- names `signature_info` (repaired) puts into `required_names` -/
def reqNames (s : Sig) : List Name := (s.filter (fun p => keywordable p && !p.dflt)).map (·.name)
/-- names it appends to `other_names` -/
def optNames (s : Sig) : List Name := (s.filter (fun p => keywordable p && p.dflt)).map (·.name)
/-- names it puts into `required_kwonly` -/
def reqKw (s : Sig) : List Name := (s.filter (fun p => isKO p && !p.dflt)).map (·.name)

def otherAfter (o : Other) (s : Sig) : Other :=
  if hasVK s then .any else
  match o with
  | .names l => .names (l ++ optNames s)
  | o => o

def maxAfter (m : Option Nat) (s : Sig) : Option Nat :=
  if hasVP s then none else m.map (· + nPos s)

/-- the loop's state after running over `s` from `st` -/
def after (st : St) (s : Sig) : St :=
  { minArgs := st.minArgs + nReqPos s
    maxArgs := maxAfter st.maxArgs s
    required := st.required ++ reqNames s
    other := otherAfter st.other s
    requiredKwonly := st.requiredKwonly ++ reqKw s
    noNames := st.noNames || hasPO s }

theorem nReqPos_cons (p : Param) (ps : Sig) :
    nReqPos (p :: ps) = if isPositional p && !p.dflt then nReqPos ps + 1 else nReqPos ps := by
  unfold nReqPos; rw [List.filter_cons]; split <;> rfl
theorem nPos_cons (p : Param) (ps : Sig) :
    nPos (p :: ps) = if isPositional p then nPos ps + 1 else nPos ps := by
  unfold nPos positional; rw [List.filter_cons]; split <;> rfl
theorem reqNames_cons (p : Param) (ps : Sig) :
    reqNames (p :: ps) = if keywordable p && !p.dflt then p.name :: reqNames ps else reqNames ps := by
  unfold reqNames; rw [List.filter_cons]; split <;> rfl
theorem optNames_cons (p : Param) (ps : Sig) :
    optNames (p :: ps) = if keywordable p && p.dflt then p.name :: optNames ps else optNames ps := by
  unfold optNames; rw [List.filter_cons]; split <;> rfl
theorem reqKw_cons (p : Param) (ps : Sig) :
    reqKw (p :: ps) = if isKO p && !p.dflt then p.name :: reqKw ps else reqKw ps := by
  unfold reqKw; rw [List.filter_cons]; split <;> rfl

theorem after_nil (st : St) : after st [] = st := by
  obtain ⟨mn, mx, rq, ot, rk, nn⟩ := st
  simp only [after, St.mk.injEq]
  refine ⟨rfl, ?_, List.append_nil _, ?_, List.append_nil _, Bool.or_false _⟩
  · cases mx <;> rfl
  · cases ot <;> first | rfl | exact congrArg Other.names (List.append_nil _)

/-- `other_names.append(name)` where it does not raise -/
def Other.push : Other → Name → Other
  | .names l, n => .names (l ++ [n])
  | o, _ => o

/-- the body of the loop in `signature_info` (repaired) without its failure branches -/
def bump (st : St) (p : Param) : St :=
  { minArgs := if isPositional p && !p.dflt then st.minArgs + 1 else st.minArgs
    maxArgs := if isVP p then none else if isPositional p then st.maxArgs.map (· + 1) else st.maxArgs
    required := if keywordable p && !p.dflt then st.required ++ [p.name] else st.required
    other := if isVK p then .any else if keywordable p && p.dflt then st.other.push p.name
      else st.other
    requiredKwonly := if isKO p && !p.dflt then st.requiredKwonly ++ [p.name] else st.requiredKwonly
    noNames := isPO p || st.noNames }

def Other.isNames : Other → Bool
  | .names _ => true
  | _ => false

/-- `step` does not raise: no `None += 1`, no `any.append` -/
def stepOK (st : St) (p : Param) : Bool :=
  (!isPositional p || st.maxArgs.isSome) && (!(keywordable p && p.dflt) || st.other.isNames)

/-- `step` (repaired) is `bump` unless it raises: for each kind, and each value of what the branch
of that kind looks at, both sides compute to the same result -/
theorem step_eq (st : St) (p : Param) :
    step .repaired st p =
      if stepOK st p then .ok (bump st p)
      else .error (if !isPositional p || st.maxArgs.isSome then .attributeError else .typeError) := by
  obtain ⟨k, nm, d⟩ := p
  obtain ⟨mn, mx, rq, ot, rk, nn⟩ := st
  cases k
  case vp | vk => rfl
  case po => cases d <;> cases mx <;> rfl
  case ko => cases d <;> first | rfl | (cases ot <;> rfl)
  case pk => cases d <;> cases mx <;> first | rfl | (cases ot <;> rfl)

/-- after `*args` the maximum is `None` whatever follows; otherwise the counts add up -/
theorem maxAfter_cons (m : Option Nat) (p : Param) (ps : Sig) :
    maxAfter (if isVP p then none else if isPositional p then m.map (· + 1) else m) ps =
      maxAfter m (p :: ps) := by
  unfold maxAfter
  rw [nPos_cons]
  show _ = if (isVP p || hasVP ps) = true then _ else _
  cases isVP p <;> cases hasVP ps <;> first | rfl | (cases isPositional p <;> cases m <;>
    first | rfl | exact congrArg some (Nat.add_right_comm ..))

/-- after `**kwargs` the other names are `any` whatever follows; otherwise the lists append -/
theorem otherAfter_cons (o : Other) (p : Param) (ps : Sig) :
    otherAfter (if isVK p then .any else if keywordable p && p.dflt then o.push p.name else o) ps =
      otherAfter o (p :: ps) := by
  unfold otherAfter
  rw [optNames_cons]
  show _ = if (isVK p || hasVK ps) = true then _ else _
  cases isVK p <;> cases hasVK ps <;> first | rfl | (cases (keywordable p && p.dflt) <;> cases o <;>
    first | rfl | exact congrArg Other.names (List.append_assoc ..))

theorem after_bump (st : St) (p : Param) (ps : Sig) : after (bump st p) ps = after st (p :: ps) := by
  simp only [after, bump, nReqPos_cons, reqNames_cons, reqKw_cons, St.mk.injEq]
  refine ⟨?_, maxAfter_cons .., ?_, otherAfter_cons .., ?_, ?_⟩
  · cases (isPositional p && !p.dflt) <;> first | rfl | exact Nat.add_right_comm ..
  · cases (keywordable p && !p.dflt) <;> first | rfl | exact List.append_assoc ..
  · cases (isKO p && !p.dflt) <;> first | rfl | exact List.append_assoc ..
  · show _ = (st.noNames || (isPO p || hasPO ps))
    cases isPO p <;> cases st.noNames <;> rfl

/-- whenever `signature_info`'s loop finishes, it has computed the summary -/
theorem loop_ok (s : Sig) : ∀ (st st' : St), loop .repaired st s = .ok st' → st' = after st s := by
  induction s with
  | nil => intro st st' h; cases h; exact (after_nil st).symm
  | cons p ps ih =>
    intro st st' h
    rw [loop, step_eq] at h
    by_cases hs : stepOK st p = true
    · rw [if_pos hs] at h
      rw [← after_bump]; exact ih _ st' h
    · rw [if_neg hs] at h
      cases h

/-- in Python's kind order the positional parameters come first -/
theorem positional_of_kindOrder {p q : Param} (h : kindOrder p q) (hq : isPositional q = true) :
    isPositional p = true := by
  obtain ⟨k, _, _⟩ := p
  obtain ⟨k', _, _⟩ := q
  have h1 : rank k ≤ rank k' := h.1
  cases k' <;> first | exact Bool.noConfusion hq | (cases k <;> first | rfl | exact absurd h1 (by decide))

theorem not_keywordable_after_vk {p q : Param} (hp : isVK p = true) (h : kindOrder p q) :
    keywordable q = false := by
  obtain ⟨k, _, _⟩ := p
  obtain ⟨k', _, _⟩ := q
  cases k <;> cases hp
  have h1 : 4 ≤ rank k' := h.1
  cases k' <;> first | rfl | exact absurd h1 (by decide)

/-- no parameter of `s` makes the loop raise from state `st` -/
def ready (st : St) (s : Sig) : Bool :=
  (st.maxArgs.isSome || !s.any isPositional) &&
    (st.other.isNames || !s.any (fun q => keywordable q && q.dflt))

theorem stepOK_of_ready {st : St} {p : Param} {ps : Sig} (h : ready st (p :: ps) = true) :
    stepOK st p = true := by
  simp only [ready, List.any_cons, Bool.and_eq_true, Bool.or_eq_true, Bool.not_eq_true',
    Bool.or_eq_false_iff] at h
  simp only [stepOK, Bool.and_eq_true, Bool.or_eq_true, Bool.not_eq_true']
  exact ⟨h.1.symm.imp_left And.left, h.2.symm.imp_left And.left⟩

theorem ready_bump {st : St} {p : Param} {ps : Sig} (hord : ∀ q ∈ ps, kindOrder p q)
    (h : ready st (p :: ps) = true) : ready (bump st p) ps = true := by
  simp only [ready, List.any_cons, Bool.and_eq_true, Bool.or_eq_true, Bool.not_eq_true',
    Bool.or_eq_false_iff] at h
  simp only [ready, Bool.and_eq_true, Bool.or_eq_true, Bool.not_eq_true', bump]
  constructor
  · -- `max_args` becomes `None` only at `*args`, after which nothing is positional
    by_cases hvp : isVP p = true
    · refine Or.inr (List.any_eq_false.mpr fun q hq hpos => ?_)
      have := positional_of_kindOrder (hord q hq) hpos
      obtain ⟨k, _, _⟩ := p
      cases k <;> first | exact Bool.noConfusion hvp | exact Bool.noConfusion this
    · rw [if_neg hvp]
      refine h.1.imp (fun hs => ?_) And.right
      split
      · rw [Option.isSome_map]; exact hs
      · exact hs
  · -- `other_names` becomes `any` only at `**kwargs`, which is last
    by_cases hvk : isVK p = true
    · refine Or.inr (List.any_eq_false.mpr fun q hq => ?_)
      rw [not_keywordable_after_vk hvk (hord q hq)]; exact Bool.noConfusion
    · rw [if_neg hvk]
      refine h.2.imp (fun hs => ?_) And.right
      split
      · revert hs; cases st.other <;> exact id
      · exact hs

/-- on a parameter list in Python's kind order the loop never raises -/
theorem loop_total (s : Sig) : ∀ (st : St), s.Pairwise kindOrder → ready st s = true →
    ∃ st', loop .repaired st s = .ok st' := by
  induction s with
  | nil => intro st _ _; exact ⟨st, rfl⟩
  | cons p ps ih =>
    intro st hord h
    rw [List.pairwise_cons] at hord
    simp only [loop, step_eq, stepOK_of_ready h, ↓reduceIte]
    exact ih _ hord.2 (ready_bump hord.1 h)

/-- closed form of `SignatureInfo` for a parameter list in Python's kind order -/
def closedInfo (s : Sig) : Info :=
  { minArgs := nReqPos s
    maxArgs := if hasVP s then none else some (nPos s)
    required := reqNames s
    other := if hasPO s then .none else if hasVK s then .any else .names (optNames s)
    requiredKwonly := reqKw s }

theorem signatureInfo_closed (s : Sig) (h : s.Pairwise kindOrder) :
    signatureInfo s = .ok (closedInfo s) := by
  obtain ⟨st', hst⟩ := loop_total s {} h rfl
  cases loop_ok s {} st' hst
  simp only [signatureInfo, signatureInfoV, hst, after, closedInfo, maxAfter, otherAfter,
    Nat.zero_add, List.nil_append, Option.map_some, Bool.false_or]

/-- defaults contiguous at the end: the slots left unfilled by `n` positional arguments all
    have defaults iff at least as many arguments as there are default-less slots were given -/
theorem drop_all_dflt_iff (ps : Sig) (hd : ps.Pairwise defaultOrder) :
    ∀ n, (ps.drop n).all (·.dflt) = true ↔ (ps.filter (fun p => !p.dflt)).length ≤ n := by
  induction ps with
  | nil => intro n; exact iff_of_true (by rw [List.drop_nil]; rfl) (Nat.zero_le n)
  | cons p ps ih =>
    rw [List.pairwise_cons] at hd
    intro n
    cases hp : p.dflt with
    | false =>
      rw [List.filter_cons_of_pos (by rw [hp]; rfl)]
      cases n with
      | zero =>
        refine iff_of_false ?_ (Nat.not_succ_le_zero _)
        rw [List.drop_zero, List.all_cons, hp]
        exact Bool.false_ne_true
      | succ k => exact (ih hd.2 k).trans Nat.succ_le_succ_iff.symm
    | true =>
      -- everything after a default has a default
      have hall : ∀ q ∈ p :: ps, q.dflt = true :=
        List.forall_mem_cons.mpr ⟨hp, fun q hq => hd.1 q hq hp⟩
      refine iff_of_true (List.all_eq_true.mpr fun q hq => hall q (List.mem_of_mem_drop hq)) ?_
      rw [List.filter_eq_nil_iff.mpr fun q hq => by rw [hall q hq]; exact Bool.false_ne_true]
      exact Nat.zero_le n

theorem nReqPos_eq (s : Sig) :
    nReqPos s = ((positional s).filter (fun p => !p.dflt)).length := by
  simp only [nReqPos, positional, List.filter_filter, Bool.and_comm]

theorem reqKw_nil_iff (s : Sig) : reqKw s = [] ↔ (s.filter isKO).all (·.dflt) = true := by
  simp only [reqKw, List.map_eq_nil_iff, List.filter_eq_nil_iff, List.all_eq_true, List.mem_filter,
    Bool.and_eq_true, Bool.not_eq_true', not_and, Bool.not_eq_false, and_imp]

theorem mem_reqNames (s : Sig) (a : Name) :
    a ∈ reqNames s ↔ ∃ p ∈ s, keywordable p = true ∧ p.dflt = false ∧ p.name = a := by
  simp only [reqNames, List.mem_map, List.mem_filter, Bool.and_eq_true, Bool.not_eq_true', and_assoc]

theorem mem_optNames (s : Sig) (a : Name) :
    a ∈ optNames s ↔ ∃ p ∈ s, keywordable p = true ∧ p.dflt = true ∧ p.name = a := by
  simp only [optNames, List.mem_map, List.mem_filter, Bool.and_eq_true, and_assoc]

theorem mem_req_or_opt (s : Sig) (a : Name) :
    (a ∈ reqNames s ∨ a ∈ optNames s) ↔ ∃ p ∈ s, keywordable p = true ∧ p.name = a := by
  rw [mem_reqNames, mem_optNames]
  constructor
  · rintro (⟨p, hp, hk, _, hn⟩ | ⟨p, hp, hk, _, hn⟩) <;> exact ⟨p, hp, hk, hn⟩
  · rintro ⟨p, hp, hk, hn⟩
    cases hd : p.dflt
    · exact Or.inl ⟨p, hp, hk, hd, hn⟩
    · exact Or.inr ⟨p, hp, hk, hd, hn⟩

theorem slot_not_po_keywordable (p : Param) (h1 : isSlot p = true) (h2 : isPO p = false) :
    keywordable p = true := by
  obtain ⟨k, nm, d⟩ := p
  cases k <;> first | rfl | exact Bool.noConfusion h1 | exact Bool.noConfusion h2

theorem keywordable_isSlot (p : Param) (h : keywordable p = true) : isSlot p = true := by
  obtain ⟨k, nm, d⟩ := p
  cases k <;> first | rfl | exact Bool.noConfusion h

/-- the test `handler_invocation` applies to the peer's arguments, given the `SignatureInfo` -/
def admits (info : Info) : Args → Prop
  | .pos n => info.minArgs ≤ n ∧ overMax info.maxArgs n = false ∧ info.requiredKwonly = []
  | .named ns => info.other ≠ .none ∧ (∀ r ∈ info.required, r ∈ ns) ∧
      (info.other = .any ∨ ∀ a ∈ ns, a ∈ info.required ∨ a ∈ otherList info.other)

instance (info : Info) : (args : Args) → Decidable (admits info args)
  | .pos _ => inferInstanceAs (Decidable (_ ∧ _ ∧ _))
  | .named _ => inferInstanceAs (Decidable (_ ∧ _ ∧ _))

theorem checkPos_eq (info : Info) (n : Nat) :
    checkPos info n = if admits info (.pos n) then .ok (.pos n) else .error invalidArgs := by
  unfold checkPos
  by_cases h0 : info.requiredKwonly = []
  · rw [h0, if_neg (show ¬ (!([] : List Name).isEmpty) = true from Bool.false_ne_true)]
    by_cases h1 : n < info.minArgs
    · rw [if_pos h1, if_neg fun h => Nat.not_le.mpr h1 h.1]
    · rw [if_neg h1]
      cases h2 : overMax info.maxArgs n
      · rw [if_neg Bool.false_ne_true, if_pos ⟨Nat.not_lt.mp h1, h2, h0⟩]
      · rw [if_pos rfl, if_neg fun h => Bool.noConfusion (h2.symm.trans h.2.1)]
  · rw [if_pos (by rwa [Bool.not_eq_true', List.isEmpty_eq_false_iff]), if_neg fun h => h0 h.2.2]

/-- emptiness of one of the code's set differences (`filter`, `isEmpty`), as a quantifier -/
theorem isEmpty_filter_iff {α : Type} (l : List α) (q : α → Bool) :
    (l.filter q).isEmpty = true ↔ ∀ x ∈ l, q x = false := by
  rw [List.isEmpty_iff, List.filter_eq_nil_iff]
  exact forall_congr' fun x => forall_congr' fun _ => Iff.of_eq (Bool.not_eq_true _)

theorem checkNamed_eq (info : Info) (ns : List Name) :
    checkNamed info ns =
      if admits info (.named ns) then .ok (.named ns) else .error invalidArgs := by
  have hmiss : (info.required.filter (fun r => !ns.contains r)).isEmpty = true ↔
      ∀ r ∈ info.required, r ∈ ns := by
    simp only [isEmpty_filter_iff, Bool.not_eq_false', List.contains_iff_mem]
  have hexc : (ns.filter (fun a => !info.required.contains a &&
        !(otherList info.other).contains a)).isEmpty = true ↔
      ∀ a ∈ ns, a ∈ info.required ∨ a ∈ otherList info.other := by
    simp only [isEmpty_filter_iff, Bool.and_eq_false_iff, Bool.not_eq_false', List.contains_iff_mem]
  simp only [checkNamed, Bool.not_eq_true', ← Bool.not_eq_true, hmiss, hexc]
  by_cases h0 : info.other = .none
  · rw [if_pos h0, if_neg fun h => h.1 h0]
  rw [if_neg h0]
  by_cases h1 : ∀ r ∈ info.required, r ∈ ns
  · rw [if_neg (not_not_intro h1)]
    by_cases h2 : info.other = .any ∨ ∀ a ∈ ns, a ∈ info.required ∨ a ∈ otherList info.other
    · rw [if_neg (not_and_of_not_or_not (h2.imp not_not_intro not_not_intro)), if_pos ⟨h0, h1, h2⟩]
    · rw [if_pos (not_or.mp h2), if_neg fun h => h2 h.2.2]
  · rw [if_pos h1, if_neg fun h => h1 h.2.1]

/-- once `signature_info` has returned, `handler_invocation` is that test: it returns the peer's
arguments or raises 'invalid params' -/
theorem handlerInvocationV_ok {v : Variant} {h : Handler} {info : Info}
    (hs : signatureInfoV v h.sig = .ok info) (args : Args) :
    handlerInvocationV v (some h) args =
      if admits info args then .ok args else .error invalidArgs := by
  simp only [handlerInvocationV, hs]
  cases args with
  | pos n => exact checkPos_eq info n
  | named ns => exact checkNamed_eq info ns

theorem handlerInvocation_closed (h : Handler) (hord : h.sig.Pairwise kindOrder) (args : Args) :
    handlerInvocation (some h) args =
      if admits (closedInfo h.sig) args then .ok args else .error invalidArgs :=
  handlerInvocationV_ok (signatureInfo_closed h.sig hord) args

theorem accepted_iff (h : Handler) (hord : h.sig.Pairwise kindOrder) (args : Args) :
    handlerInvocation (some h) args = .ok args ↔ admits (closedInfo h.sig) args := by
  rw [handlerInvocation_closed h hord]
  split
  · exact iff_of_true rfl ‹_›
  · exact iff_of_false nofun ‹_›

theorem refused_iff_not_accepted (h : Handler) (hord : h.sig.Pairwise kindOrder) (args : Args) :
    handlerInvocation (some h) args = .error (.rpc (-32602)) ↔
      ¬ handlerInvocation (some h) args = .ok args := by
  rw [handlerInvocation_closed h hord]
  split
  · exact iff_of_false nofun (not_not_intro rfl)
  · exact iff_of_true rfl nofun

theorem admits_pos_closed (s : Sig) (n : Nat) :
    admits (closedInfo s) (.pos n) ↔
      nReqPos s ≤ n ∧ (n ≤ nPos s ∨ hasVP s = true) ∧ reqKw s = [] := by
  have : overMax (closedInfo s).maxArgs n = false ↔ (n ≤ nPos s ∨ hasVP s = true) := by
    unfold closedInfo
    cases hasVP s
    · exact decide_eq_false_iff_not.trans (Nat.not_lt.trans (or_iff_left Bool.false_ne_true).symm)
    · exact iff_of_true rfl (Or.inr rfl)
  exact and_congr_right fun _ => and_congr_left fun _ => this

theorem admits_named_closed (s : Sig) (ns : List Name) :
    admits (closedInfo s) (.named ns) ↔
      hasPO s = false ∧ (∀ r ∈ reqNames s, r ∈ ns) ∧
        (hasVK s = true ∨ ∀ a ∈ ns, a ∈ reqNames s ∨ a ∈ optNames s) := by
  unfold admits closedInfo
  cases hasPO s
  · cases hasVK s
    · exact and_congr (iff_of_true nofun rfl)
        (and_congr_right' (or_congr (iff_of_false nofun nofun) Iff.rfl))
    · exact and_congr (iff_of_true nofun rfl) (and_congr_right' (iff_of_true (.inl rfl) (.inl rfl)))
  · exact iff_of_false (fun h => h.1 rfl) (fun h => Bool.noConfusion h.1)

/-! ## the pinned variant differs only on keyword-only parameters without default -/

theorem step_pinned_eq (st : St) (p : Param) (h : (isKO p && !p.dflt) = false) :
    step .pinned st p = step .repaired st p := by
  obtain ⟨k, nm, d⟩ := p
  cases k <;> cases d <;> first | rfl | cases h

theorem loop_pinned_eq (s : Sig) (h : reqKw s = []) :
    ∀ st, loop .pinned st s = loop .repaired st s := by
  induction s with
  | nil => intro st; rfl
  | cons p ps ih =>
    intro st
    rw [reqKw_cons] at h
    cases hp : (isKO p && !p.dflt) with
    | true => rw [hp, if_pos rfl] at h; cases h
    | false =>
      rw [hp, if_neg Bool.false_ne_true] at h
      simp only [loop, step_pinned_eq st p hp]
      cases step .repaired st p with
      | error e => rfl
      | ok st1 => exact ih h st1

end Aiorpcx.C19
