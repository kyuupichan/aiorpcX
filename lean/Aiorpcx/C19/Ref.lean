import Aiorpcx.C19.Lemmas
/-!
# C19 — the binding algorithm of the Language Reference, operationally, and `bindable`

`bindRef h n kws` runs §6.3.4 "Calls" literally for a call with `n` positional arguments and the
keyword arguments `kws` (in order): create the slots, put the positional arguments into the first
unfilled positional slots (surplus only with `*args`), then for each keyword find the slot of
that name (already filled → TypeError; no such slot → TypeError unless `**kwargs`), finally every
slot still unfilled must have a default.  Slots the wrapper (bound method / partial) has filled
are part of the initial state.

`bindRef_pos` / `bindRef_named`: on well-formed handlers this algorithm is the closed-form SPEC
`bindable` used by the property theorems (for the two call shapes `handler_invocation` produces).
This is where `WF.distinct` is needed: a keyword must determine *one* slot.
-/
namespace Aiorpcx.C19

/-- a formal-parameter slot and whether it is filled -/
abbrev Slots := List (Param × Bool)

def initSlots (h : Handler) : Slots :=
  h.prebound.map (fun k => (⟨.pk, k, false⟩, true)) ++ (h.sig.filter isSlot).map (fun p => (p, false))

/-- put `n` positional arguments into the first unfilled positional slots; `none` = TypeError -/
def fillPos (vp : Bool) : Slots → Nat → Option Slots
  | sl, 0 => some sl
  | [], _ + 1 => if vp then some [] else none
  | (p, f) :: rest, n + 1 =>
      if isPositional p then
        if f then (fillPos vp rest (n + 1)).map ((p, f) :: ·)
        else (fillPos vp rest n).map ((p, true) :: ·)
      else if vp then some ((p, f) :: rest) else none

/-- one keyword argument `k`; `none` = TypeError -/
def fillKw (vk : Bool) (k : Name) : Slots → Option Slots
  | [] => if vk then some [] else none
  | (p, f) :: rest =>
      if keywordable p && p.name == k then (if f then none else some ((p, true) :: rest))
      else (fillKw vk k rest).map ((p, f) :: ·)

def fillKws (vk : Bool) : List Name → Slots → Option Slots
  | [], sl => some sl
  | k :: ks, sl => (fillKw vk k sl).bind (fillKws vk ks)

/-- every slot is filled or has a default -/
def allFilled (sl : Slots) : Bool := sl.all (fun s => s.2 || s.1.dflt)

/-- Language Reference §6.3.4 for a call with `n` positional and `kws` keyword arguments -/
def bindRef (h : Handler) (n : Nat) (kws : List Name) : Bool :=
  match fillPos (hasVP h.sig) (initSlots h) n with
  | none => false
  | some sl =>
    match fillKws (hasVK h.sig) kws sl with
    | none => false
    | some sl' => allFilled sl'

/-- slot `s` is the slot keyword `k` designates -/
def designates (k : Name) (s : Param × Bool) : Bool := keywordable s.1 && s.1.name == k

def mark (k : Name) (s : Param × Bool) : Param × Bool := (s.1, s.2 || designates k s)

theorem mark_fst (k : Name) (s : Param × Bool) : (mark k s).1 = s.1 := rfl

/-- keyword `k` can be placed: no filled slot has its name, and some slot has it or `**kwargs`
takes it -/
def kwOK (vk : Bool) (sl : Slots) (k : Name) : Bool :=
  !sl.any (fun s => designates k s && s.2) && (sl.any (designates k) || vk)

theorem map_mark_of_not {k : Name} {sl : Slots} (h : sl.any (designates k) = false) :
    sl.map (mark k) = sl := by
  rw [List.any_eq_false] at h
  exact (List.map_congr_left fun s hs => by simp [mark, h s hs]).trans (List.map_id sl)

theorem fillKw_eq (vk : Bool) (k : Name) (sl : Slots) (hu : (sl.map (·.1.name)).Nodup) :
    fillKw vk k sl = if kwOK vk sl k then some (sl.map (mark k)) else none := by
  induction sl with
  | nil => cases vk <;> rfl
  | cons t rest ih =>
    obtain ⟨p, f⟩ := t
    rw [List.map_cons, List.nodup_cons] at hu
    rw [fillKw, ih hu.2]
    cases ht : designates k (p, f)
    · have hc : kwOK vk ((p, f) :: rest) k = kwOK vk rest k := by
        simp only [kwOK, List.any_cons, ht, Bool.false_and, Bool.false_or]
      rw [hc, if_neg (by rw [show (keywordable p && p.name == k) = false from ht]; decide)]
      cases kwOK vk rest k
      · rfl
      · simp only [↓reduceIte, Option.map_some, List.map_cons, mark, ht, Bool.or_false]
    · -- the head is the slot; no other slot has its name
      have hr : rest.any (designates k) = false := List.any_eq_false.mpr fun s hs hd =>
        hu.1 (List.mem_map.mpr ⟨s, hs, (eq_of_beq (Bool.and_eq_true_iff.mp hd).2).trans
          (eq_of_beq (Bool.and_eq_true_iff.mp ht).2).symm⟩)
      have hc : kwOK vk ((p, f) :: rest) k = !f := by
        have : rest.any (fun s => designates k s && s.2) = false :=
          List.any_eq_false.mpr fun s hs hd =>
            List.any_eq_false.mp hr s hs (Bool.and_eq_true_iff.mp hd).1
        simp only [kwOK, List.any_cons, ht, hr, this, Bool.true_and, Bool.or_false, Bool.true_or,
          Bool.and_true]
      rw [hc, if_pos (show (keywordable p && p.name == k) = true from ht), List.map_cons,
        map_mark_of_not hr]
      cases f
      · rw [mark, ht]; rfl
      · rfl

def markAll (ns : List Name) (s : Param × Bool) : Param × Bool :=
  (s.1, s.2 || (keywordable s.1 && ns.contains s.1.name))

theorem markAll_cons_mark (k : Name) (ks : List Name) (s : Param × Bool) :
    markAll ks (mark k s) = markAll (k :: ks) s := by
  obtain ⟨p, f⟩ := s
  simp only [markAll, mark, designates, List.contains_cons]
  cases f <;> cases keywordable p <;> cases (p.name == k) <;> rfl

/-- marking the slot of `k` does not change whether another keyword can be placed -/
theorem kwOK_mark (vk : Bool) {k k' : Name} (hne : k' ≠ k) (sl : Slots) :
    kwOK vk (sl.map (mark k)) k' = kwOK vk sl k' := by
  have h : ∀ s, (designates k' (mark k s) && (mark k s).2) = (designates k' s && s.2) := by
    intro s
    show (designates k' s && (s.2 || designates k s)) = (designates k' s && s.2)
    cases h1 : designates k' s
    · rfl
    · have h2 : designates k s = false := by
        simp only [designates, Bool.and_eq_true, beq_iff_eq] at h1
        simp only [designates, Bool.and_eq_false_iff, beq_eq_false_iff_ne]
        exact Or.inr fun e => hne (h1.2.symm.trans e)
      rw [h2, Bool.or_false]
  simp only [kwOK, List.any_map, Function.comp_def, h]
  rfl

/-- all keyword arguments (dict keys: distinct) -/
theorem fillKws_eq (vk : Bool) : ∀ (ns : List Name) (sl : Slots),
    (sl.map (·.1.name)).Nodup → ns.Nodup →
    fillKws vk ns sl = if ns.all (kwOK vk sl) then some (sl.map (markAll ns)) else none := by
  intro ns
  induction ns with
  | nil =>
    intro sl _ _
    exact congrArg some (List.map_id'' (f := markAll []) (fun s => by simp [markAll]) sl).symm
  | cons k ks ih =>
    intro sl hu hnd
    rw [List.nodup_cons] at hnd
    rw [fillKws, fillKw_eq vk k sl hu, List.all_cons]
    cases kwOK vk sl k
    · rfl
    · have hall : ks.all (kwOK vk (sl.map (mark k))) = ks.all (kwOK vk sl) := by
        rw [Bool.eq_iff_iff, List.all_eq_true, List.all_eq_true]
        exact forall_congr' fun k' => forall_congr' fun hk' => by
          rw [kwOK_mark vk (fun e : k' = k => hnd.1 (e ▸ hk')) sl]
      have hu' : ((sl.map (mark k)).map (·.1.name)).Nodup := by rw [List.map_map]; exact hu
      simp only [↓reduceIte, Option.bind_some, ih _ hu' hnd.2, hall,
        Bool.true_and, List.map_map]
      congr 2
      exact List.map_congr_left fun t _ => markAll_cons_mark k ks t

theorem fillPos_zero (vp : Bool) (sl : Slots) : fillPos vp sl 0 = some sl := by
  cases sl <;> rfl

/-- the slots a bound method / partial has filled, as slots -/
def preSlots (pre : List Name) : Slots := pre.map fun k => (⟨.pk, k, false⟩, true)

theorem initSlots_eq (h : Handler) :
    initSlots h = preSlots h.prebound ++ (h.sig.filter isSlot).map (fun p => (p, false)) := rfl

/-- the names of the initial slots are distinct: those the wrapper filled, those of the effective
signature, and none of the former among the latter -/
theorem nodup_initSlots (h : Handler) (hwf : HandlerWF h) :
    ((initSlots h).map (·.1.name)).Nodup := by
  have e : (initSlots h).map (·.1.name) = h.prebound ++ (h.sig.filter isSlot).map (·.name) := by
    simp only [initSlots, List.map_append, List.map_map]
    exact congrArg (· ++ _) (List.map_id _)
  rw [e, List.nodup_append]
  refine ⟨hwf.preboundDistinct, hwf.sig.distinct.sublist (List.filter_sublist.map _),
    fun a ha b hb hab => ?_⟩
  obtain ⟨p, hp, hn⟩ := List.mem_map.1 hb
  exact hwf.preboundGone a ha p (List.mem_filter.1 hp).1 (hn.trans hab.symm)

theorem kwOK_initSlots (h : Handler) (vk : Bool) (k : Name) :
    kwOK vk (initSlots h) k = (!h.prebound.contains k &&
      (h.sig.any (fun p => keywordable p && p.name == k) || vk)) := by
  have h1 : (preSlots h.prebound).any (fun s => designates k s && s.2) = h.prebound.contains k := by
    rw [preSlots, List.any_map, List.contains_eq_any_beq]
    exact List.any_congr rfl fun k' => (Bool.and_true _).trans Bool.beq_comm
  have h2 : (preSlots h.prebound).any (designates k) = h.prebound.contains k := by
    rw [preSlots, List.any_map, List.contains_eq_any_beq]
    exact List.any_congr rfl fun k' => Bool.beq_comm
  have h3 : ((h.sig.filter isSlot).map (fun p => (p, false))).any (fun s => designates k s && s.2)
      = false := by simp [List.any_map, Function.comp_def]
  have h4 : ((h.sig.filter isSlot).map (fun p => (p, false))).any (designates k) =
      h.sig.any (fun p => keywordable p && p.name == k) := by
    simp only [List.any_map, List.any_filter, Function.comp_def, designates]
    exact List.any_congr rfl fun p => by
      cases hk : keywordable p
      · simp
      · simp [keywordable_isSlot p hk]
  simp only [kwOK, initSlots_eq, List.any_append, h1, h2, h3, h4, Bool.or_false]
  cases h.prebound.contains k <;> simp

theorem allFilled_initSlots (h : Handler) (ns : List Name) :
    allFilled ((initSlots h).map (markAll ns)) =
      h.sig.all (fun p => !isSlot p || p.dflt || (keywordable p && ns.contains p.name)) := by
  simp only [allFilled, initSlots_eq, preSlots, List.map_append, List.all_append, List.map_map,
    List.all_map, List.all_filter, Function.comp_def, markAll, Bool.true_or, Bool.false_or,
    List.all_eq_true.mpr fun _ _ => rfl, Bool.true_and]
  exact List.all_congr rfl fun p => by rw [Bool.or_assoc, Bool.or_comm p.dflt]

/-- The reference algorithm on a purely named call is the SPEC `bindable` (dict keys are
    distinct, hence `ns.Nodup`). -/
theorem bindRef_named (h : Handler) (hwf : HandlerWF h) (ns : List Name) (hnd : ns.Nodup) :
    bindRef h 0 ns = bindable h (.named ns) := by
  simp only [bindRef, fillPos_zero, fillKws_eq _ ns _ (nodup_initSlots h hwf) hnd, bindable,
    funext (kwOK_initSlots h (hasVK h.sig))]
  generalize List.all ns _ = b
  cases b
  · rfl
  · exact allFilled_initSlots h ns

/-- in Python's kind order the slots are the positional ones followed by the keyword-only ones -/
theorem slots_split (s : Sig) (h : s.Pairwise kindOrder) :
    s.filter isSlot = positional s ++ s.filter isKO := by
  unfold positional
  induction s with
  | nil => rfl
  | cons p ps ih =>
    rw [List.pairwise_cons] at h
    have ih' := ih h.2
    obtain ⟨k, nm, d⟩ := p
    cases k
    case ko =>
      -- nothing positional follows a keyword-only parameter
      have hnone : ps.filter isPositional = [] := List.filter_eq_nil_iff.mpr fun q hq hpos =>
        Bool.noConfusion (positional_of_kindOrder (h.1 q hq) hpos)
      show _ :: ps.filter isSlot = ps.filter isPositional ++ _ :: ps.filter isKO
      rw [ih', hnone]; rfl
    case po | pk => exact congrArg (_ :: ·) ih'
    case vp | vk => exact ih'

theorem fillPos_skip (vp : Bool) (pre : List Name) (rest : Slots) (n : Nat) :
    fillPos vp (preSlots pre ++ rest) n = (fillPos vp rest n).map (preSlots pre ++ ·) := by
  induction pre with
  | nil => simp [preSlots]
  | cons a t ih =>
    cases n with
    | zero => simp [fillPos_zero]
    | succ m =>
      simp only [preSlots, List.map_cons, List.cons_append] at ih ⊢
      simp only [fillPos, isPositional, ↓reduceIte, ih, Option.map_map]
      rfl

/-- `n` positional arguments fill the first `n` of the unfilled positional slots `A`; more than
that only with `*args` -/
theorem fillPos_body (vp : Bool) (B : Slots) (hB : ∀ b ∈ B, isPositional b.1 = false) :
    ∀ (A : List Param), (∀ a ∈ A, isPositional a = true) → ∀ n,
    fillPos vp (A.map (fun p => (p, false)) ++ B) n =
      if decide (n ≤ A.length) || vp then
        some ((A.take n).map (fun p => (p, true)) ++ (A.drop n).map (fun p => (p, false)) ++ B)
      else none := by
  intro A
  induction A with
  | nil =>
    intro _ n
    cases n with
    | zero => exact fillPos_zero vp B
    | succ m =>
      cases B with
      | nil => cases vp <;> rfl
      | cons b B' =>
        obtain ⟨q, f⟩ := b
        have hq : isPositional q = false := hB _ List.mem_cons_self
        show fillPos vp ((q, f) :: B') (m + 1) = _
        rw [fillPos, if_neg (hq ▸ Bool.false_ne_true)]
        cases vp <;> rfl
  | cons a A' ih =>
    intro hA n
    rw [List.forall_mem_cons] at hA
    cases n with
    | zero => exact fillPos_zero vp _
    | succ m =>
      simp only [List.map_cons, List.cons_append, fillPos, hA.1, Bool.false_eq_true, ↓reduceIte,
        ih hA.2 m, List.length_cons, Nat.add_le_add_iff_right, List.take_succ_cons,
        List.drop_succ_cons]
      split <;> rfl

/-- The reference algorithm on a purely positional call is the SPEC `bindable`. -/
theorem bindRef_pos (h : Handler) (hwf : HandlerWF h) (n : Nat) :
    bindRef h n [] = bindable h (.pos n) := by
  have hB : ∀ b ∈ (h.sig.filter isKO).map (fun p => (p, false)), isPositional b.1 = false := by
    simp only [List.mem_map, List.mem_filter]
    rintro _ ⟨p, ⟨_, hp⟩, rfl⟩
    cases hk : p.kind <;> simp [isKO, isPositional, hk] at hp ⊢
  simp only [bindRef, initSlots_eq, slots_split h.sig hwf.sig.order, List.map_append, fillPos_skip,
    fillPos_body (hasVP h.sig) _ hB (positional h.sig) (fun a ha => (List.mem_filter.1 ha).2) n,
    bindable]
  cases (decide (n ≤ (positional h.sig).length) || hasVP h.sig)
  · rfl
  · -- pre-filled and newly filled slots count as filled; what is left are the two `all`s of `bindable`
    simp only [↓reduceIte, Option.map_some, fillKws, allFilled, List.all_append, List.all_map,
      Function.comp_def, Bool.true_or, Bool.false_or, Bool.true_and,
      List.all_eq_true.mpr fun _ _ => rfl, preSlots]

end Aiorpcx.C19
