import Aiorpcx.C19.Lemmas
import Aiorpcx.C19.Ref
import Aiorpcx.Facts.C19
/-!
# C19 — argument checking admits exactly the calls Python can bind

Property text: *for any handler signature and any argument list or name-to-value mapping,
argument checking either raises 'invalid params' (-32602) or returns an invocation that binds to
the handler without a TypeError, and it raises 'method not found' (-32601) when there is no
handler.  It refuses exactly the calls Python itself could not bind, except that named arguments
are always refused for handlers that have positional-only parameters.*

Model (`Model.lean`): `handlerInvocation : Option Handler → Args → Except Err Call` mirrors
`jsonrpc.handler_invocation` + `util.signature_info` **after** `fixes/F16-required-kwonly.diff`;
`handlerInvocationPinned` is the pinned code.  SPEC: `bindable` (slot filling of the Language
Reference §6.3.4).  Everything below is for **all** well-formed parameter lists (`WF`: Python's
kind order, one `*args`/`**kwargs`, defaults contiguous at the end of the positional part, no
default on `*`/`**`, distinct names), **all** positional counts and **all** name lists; proofs are
by induction over the parameter list (in `Lemmas.lean`), there is no bound.

One family is *not* covered by the repair and is a recorded known finding
(`c19:prebound-name-with-varkw`): a named call to a handler with `**kwargs` that names a parameter
a bound method / partial has already filled (`collides`).  `sound_full` is therefore false
(`sound_full_fails`), `sound_partial` has exactly that side-condition, and `sound` is the full
statement for every handler without pre-bound names (all plain functions).
-/
namespace Aiorpcx.C19

open Facts.C19 in
/-- the two codes the property fixes are the codes the code uses -/
theorem facts_codes : Facts.C19.invalidArgs = -32602 ∧ Facts.C19.methodNotFound = -32601 ∧
    Facts.C19.noHandlerCode = -32601 := by decide

/-- every exception OBSERVED leaving the real `handler_invocation` over the probe grid (all
    signatures with <= 2 parameters x all call shapes, no handler, a few larger calls) is an
    `RPCError` carrying one of the two codes (an exception of another class would show as code 1);
    which code in which situation is fixed by `noHandlerCode` above and by `facts_probes` below.
    `raise` statements no probe reached are listed in the facts (`unexercised_raises`), not here:
    they are not behaviour. -/
theorem facts_raise_codes :
    ∀ c ∈ Facts.C19.raiseCodes, c = Facts.C19.methodNotFound ∨ c = Facts.C19.invalidArgs := by
  decide

def probeKind : Nat → Kind
  | 0 => .po | 1 => .pk | 2 => .vp | 3 => .ko | _ => .vk

def probeSig (l : List (Nat × Nat × Bool)) : Sig := l.map fun p => ⟨probeKind p.1, p.2.1, p.2.2⟩

def probeArgs (a : Bool × Nat × List Nat) : Args := if a.1 then .named a.2.2 else .pos a.2.1

/-- 0 accepted, 1 RPCError invalidArgs, 2 RPCError methodNotFound, 3 anything else -/
def probeVerdict (r : Except Err Call) : Nat :=
  match r with
  | .ok _ => 0
  | .error (.rpc c) =>
      if c = Facts.C19.invalidArgs then 1 else if c = Facts.C19.methodNotFound then 2 else 3
  | .error (.py _) => 3

def probeAgrees (p : List (Nat × Nat × Bool) × (Bool × Nat × List Nat) × Nat) : Bool :=
  probeVerdict (handlerInvocation (some ⟨probeSig p.1, []⟩) (probeArgs p.2.1)) == p.2.2

/-- The model reproduces the real `handler_invocation` (current tree) on every well-formed
    signature with at most two parameters and every call shape - a behavioural change of the
    code at this level breaks this obligation. -/
theorem facts_probes : Facts.C19.probes.all probeAgrees = true := by decide +kernel

/-- the invocation passes exactly the peer's arguments (`partial(handler, *args)` /
    `partial(handler, **args)`) -/
theorem invocation_passes_args (v : Variant) (h : Option Handler) (args : Args) (c : Call)
    (hok : handlerInvocationV v h args = .ok c) : c = args := by
  cases h with
  | none => cases hok
  | some h =>
    cases hs : signatureInfoV v h.sig with
    | error e => simp only [handlerInvocationV, hs] at hok; cases hok
    | ok info =>
      rw [handlerInvocationV_ok hs] at hok
      split at hok
      · cases hok; rfl
      · cases hok

/-- no handler: 'method not found' (-32601), whatever the arguments -/
theorem no_handler (args : Args) : handlerInvocation none args = .error (.rpc (-32601)) := rfl

/-- With a handler whose parameter list is well formed, the only way not to return an invocation
    is `RPCError` with code -32602: nothing else (in particular no TypeError / AttributeError of
    `signature_info` itself) escapes. -/
theorem codes (h : Handler) (hwf : WF h.sig) (args : Args) (e : Err)
    (herr : handlerInvocation (some h) args = .error e) : e = .rpc (-32602) := by
  rw [handlerInvocation_closed h hwf.order] at herr
  split at herr
  · cases herr
  · cases herr; rfl

example : handlerInvocation (some ⟨[⟨.pk, 0, false⟩], []⟩) (.pos 0) = .error (.rpc (-32602)) := by
  decide +kernel

/-- `signature_info` itself never raises on a well-formed parameter list, and computes the
    closed form -/
theorem signatureInfo_total (s : Sig) (hwf : WF s) : signatureInfo s = .ok (closedInfo s) :=
  signatureInfo_closed s hwf.order

/-- outside well-formed lists the explicit failure modes are real: `def`-impossible
    `(*r, a)` makes `max_args += 1` hit `None`, `(**k, a=…)` makes `any.append` fail -/
example : signatureInfo [⟨.vp, 0, false⟩, ⟨.pk, 1, false⟩] = .error .typeError := by decide +kernel
example : signatureInfo [⟨.vk, 0, false⟩, ⟨.ko, 1, true⟩] = .error .attributeError := by decide +kernel

/-- positional calls: Python binds iff the count lies in the window, extra positionals only
    with `*args`, and no keyword-only parameter lacks a default.  (Uses that defaults are
    contiguous at the end.) -/
theorem bindable_pos_window (h : Handler) (hwf : WF h.sig) (n : Nat) :
    bindable h (.pos n) = true ↔
      nReqPos h.sig ≤ n ∧ (n ≤ nPos h.sig ∨ hasVP h.sig = true) ∧ reqKw h.sig = [] := by
  have hd := drop_all_dflt_iff (positional h.sig) hwf.defaults n
  rw [← nReqPos_eq] at hd
  simp only [bindable, Bool.and_eq_true, Bool.or_eq_true, decide_eq_true_eq, hd,
    ← reqKw_nil_iff, nPos]
  constructor
  · rintro ⟨⟨h1, h2⟩, h3⟩; exact ⟨h2, h1, h3⟩
  · rintro ⟨h2, h1, h3⟩; exact ⟨⟨h1, h2⟩, h3⟩

theorem bindable_named_iff (h : Handler) (ns : List Name) :
    bindable h (.named ns) = true ↔
      (∀ k ∈ ns, k ∉ h.prebound ∧
          ((∃ p ∈ h.sig, keywordable p = true ∧ p.name = k) ∨ hasVK h.sig = true)) ∧
      (∀ p ∈ h.sig, isSlot p = true → p.dflt = true ∨ (keywordable p = true ∧ p.name ∈ ns)) := by
  simp only [bindable, Bool.and_eq_true, List.all_eq_true, Bool.or_eq_true, List.any_eq_true,
    List.contains_iff_mem, beq_iff_eq, Bool.not_eq_true', ← Bool.not_eq_true]
  exact and_congr_right' (forall_congr' fun p => forall_congr' fun _ => by
    rw [or_assoc, ← Decidable.imp_iff_not_or])

/-- **The SPEC is the Language Reference's algorithm.**  `bindRef` (Ref.lean) executes §6.3.4
    literally - slots, positional filling, keyword look-up with "already filled" and "no such
    parameter" errors, defaults, `*args` / `**kwargs`, slots pre-filled by a bound method or
    partial; on every well-formed handler it agrees with the closed form `bindable` for the two
    call shapes `handler_invocation` produces (dict keys are distinct: `ns.Nodup`). -/
theorem spec_is_reference (h : Handler) (hwf : HandlerWF h) :
    (∀ n, bindRef h n [] = bindable h (.pos n)) ∧
    (∀ ns : List Name, ns.Nodup → bindRef h 0 ns = bindable h (.named ns)) :=
  ⟨bindRef_pos h hwf, bindRef_named h hwf⟩

/-- the algorithm is not trivial: with both positional and keyword arguments it reports the
    "multiple values" error of `f(1, a=2)` for `def f(a, b=…)` and accepts `f(1, b=2)` -/
example :
    let h : Handler := ⟨[⟨.pk, 0, false⟩, ⟨.pk, 1, true⟩], []⟩
    bindRef h 1 [0] = false ∧ bindRef h 1 [1] = true ∧ bindRef h 0 [1] = false := by decide +kernel

/-! ## the code's test against the SPEC -/

/-- **The test of the code is the SPEC**, up to the property's exception and outside the
    known-finding family: on a well-formed handler the closed form of `SignatureInfo` admits a
    call iff Python binds it and it is not a named call on a handler with a positional-only
    parameter. -/
theorem admits_iff (h : Handler) (hwf : HandlerWF h) (args : Args) (hnc : collides h args = false) :
    admits (closedInfo h.sig) args ↔
      (bindable h args = true ∧ ¬ (isNamed args = true ∧ hasPO h.sig = true)) := by
  cases args with
  | pos n =>
    rw [admits_pos_closed, ← bindable_pos_window h hwf.sig n]
    exact ⟨fun hb => ⟨hb, fun hx => Bool.noConfusion hx.1⟩, And.left⟩
  | named ns =>
    rw [admits_named_closed, bindable_named_iff]
    by_cases hpo : hasPO h.sig = true
    · exact iff_of_false (fun hx => Bool.noConfusion (hpo.symm.trans hx.1))
        (fun hx => hx.2 ⟨rfl, hpo⟩)
    rw [Bool.not_eq_true] at hpo
    have hkw : ∀ p ∈ h.sig, isSlot p = true → keywordable p = true := fun p hp hs =>
      slot_not_po_keywordable p hs (Bool.eq_false_iff.mpr (List.any_eq_false.mp hpo p hp))
    have hx : ¬ (isNamed (.named ns) = true ∧ hasPO h.sig = true) := fun hx =>
      Bool.noConfusion (hpo.symm.trans hx.2)
    rw [and_iff_right hpo, and_iff_left hx, and_comm]
    simp only [mem_req_or_opt]
    -- "no excess name" is "every name finds a slot": a name of the effective signature is not
    -- pre-bound; "no required name is missing" is "every slot without default is named": without
    -- positional-only parameters every slot is keyword-addressable
    refine and_congr ⟨fun hex k hk => ⟨fun hpre => ?_, ?_⟩, fun hb => ?_⟩
      ⟨fun hreq p hp hs => ?_, fun hb r hr => ?_⟩
    · -- a pre-bound name: with `**kwargs` a collision, otherwise not a name of the signature
      rcases Bool.and_eq_false_iff.mp hnc with hvk | hany
      · obtain ⟨p, hp, _, hn⟩ := hex.resolve_left (hvk ▸ Bool.false_ne_true) k hk
        exact hwf.preboundGone k hpre p hp hn
      · exact List.any_eq_false.mp hany k hk (List.contains_iff_mem.mpr hpre)
    · exact hex.symm.imp_left fun hall => hall k hk
    · cases hvk : hasVK h.sig
      · exact Or.inr fun a ha => (hb a ha).2.resolve_right (hvk ▸ Bool.false_ne_true)
      · exact Or.inl rfl
    · cases hd : p.dflt
      · exact Or.inr ⟨hkw p hp hs, hreq _ ((mem_reqNames _ _).2 ⟨p, hp, hkw p hp hs, hd, rfl⟩)⟩
      · exact Or.inl rfl
    · obtain ⟨p, hp, hk, hd, rfl⟩ := (mem_reqNames _ _).1 hr
      exact ((hb p hp (keywordable_isSlot p hk)).resolve_left (hd ▸ Bool.false_ne_true)).2

/-- **Exactness.**  Outside the known-finding family, the accepted calls are exactly the calls
    Python binds minus the named calls on handlers with positional-only parameters; every other
    call is refused with -32602 (by `codes`). -/
theorem exact (h : Handler) (hwf : HandlerWF h) (args : Args) (hnc : collides h args = false) :
    handlerInvocation (some h) args = .ok args ↔
      (bindable h args = true ∧ ¬ (isNamed args = true ∧ hasPO h.sig = true)) :=
  (accepted_iff h hwf.sig.order args).trans (admits_iff h hwf args hnc)

/-! ## soundness: accepted ⇒ Python binds the invocation -/

/-- **Soundness** (repaired code).  For every well-formed handler and every call, if
    `handler_invocation` returns an invocation then Python binds it - provided the call is not
    in the known-finding family `collides`. -/
theorem sound_partial (h : Handler) (hwf : HandlerWF h) (args : Args) (c : Call)
    (hok : handlerInvocation (some h) args = .ok c) (hnc : collides h args = false) :
    bindable h c = true := by
  cases invocation_passes_args _ _ _ _ hok
  exact ((exact h hwf args hnc).1 hok).1

/-- non-vacuity: `def f(a, b=…, *r, c=…, **kw)` called with three positionals is accepted, is not
    in the excluded family, and binds -/
example :
    let h : Handler := ⟨[⟨.pk, 0, false⟩, ⟨.pk, 1, true⟩, ⟨.vp, 2, false⟩, ⟨.ko, 3, true⟩,
                         ⟨.vk, 4, false⟩], []⟩
    HandlerWF h ∧ handlerInvocation (some h) (.pos 3) = .ok (.pos 3) ∧
      collides h (.pos 3) = false ∧ bindable h (.pos 3) = true := by decide +kernel

/-- **Soundness, full strength, for every handler without pre-bound parameters** (every plain
    function): accepted ⇒ Python binds the invocation. -/
theorem sound (h : Handler) (hwf : HandlerWF h) (hplain : h.prebound = []) (args : Args) (c : Call)
    (hok : handlerInvocation (some h) args = .ok c) : bindable h c = true := by
  apply sound_partial h hwf args c hok
  cases args with
  | pos n => rfl
  | named ns =>
    rw [collides, hplain]
    exact Bool.and_eq_false_iff.mpr (.inr (List.any_eq_false.mpr nofun))

example :
    let h : Handler := ⟨[⟨.pk, 0, false⟩, ⟨.ko, 1, false⟩, ⟨.vk, 2, false⟩], []⟩
    HandlerWF h ∧ h.prebound = [] ∧
      handlerInvocation (some h) (.named [1, 0, 7]) = .ok (.named [1, 0, 7]) ∧
      bindable h (.named [1, 0, 7]) = true := by decide +kernel

/-- the statement without the side-condition … -/
def sound_full : Prop :=
  ∀ (h : Handler) (args : Args) (c : Call), HandlerWF h →
    handlerInvocation (some h) args = .ok c → bindable h c = true

/-- … is false: `K().f` with `def f(self, x, **kw)` (effective signature `(x, **kw)`, `self`
    pre-bound; names: self = 9, x = 0, kw = 1) called with `{'self': …, 'x': …}` is accepted and
    Python raises "got multiple values for argument 'self'".  Recorded known finding
    `c19:prebound-name-with-varkw`; replayed on the real code by the harness (corpus). -/
theorem sound_full_fails : ¬ sound_full := by
  intro hf
  have := hf ⟨[⟨.pk, 0, false⟩, ⟨.vk, 1, false⟩], [9]⟩ (.named [9, 0]) (.named [9, 0])
    (by decide +kernel) (by decide +kernel)
  revert this
  decide +kernel

/-- the side-condition of `sound_partial` is tight: *every* call in the excluded family is
    unbindable, so each one the code accepts is a genuine violation -/
theorem collision_unbindable (h : Handler) (args : Args) (hc : collides h args = true) :
    bindable h args = false := by
  cases args with
  | pos n => cases hc
  | named ns =>
    simp only [collides, Bool.and_eq_true, List.any_eq_true, List.contains_iff_mem] at hc
    obtain ⟨_, k, hk, hpre⟩ := hc
    cases hb : bindable h (.named ns) with
    | false => rfl
    | true => exact absurd hpre (((bindable_named_iff h ns).1 hb).1 k hk).1

/-! ## completeness: Python binds ⇒ accepted, except named calls with positional-only -/

/-- **Completeness.**  Every call Python can bind is accepted, unless it passes arguments by name
    to a handler that has a positional-only parameter. -/
theorem complete (h : Handler) (hwf : HandlerWF h) (args : Args)
    (hb : bindable h args = true) (hex : ¬ (isNamed args = true ∧ hasPO h.sig = true)) :
    handlerInvocation (some h) args = .ok args := by
  refine (exact h hwf args ?_).2 ⟨hb, hex⟩
  cases hc : collides h args
  · rfl
  · rw [collision_unbindable h args hc] at hb; cases hb

/-- non-vacuity: bindable, no positional-only parameter, accepted -/
example :
    let h : Handler := ⟨[⟨.pk, 0, false⟩, ⟨.pk, 1, true⟩, ⟨.ko, 2, false⟩], []⟩
    HandlerWF h ∧ bindable h (.named [2, 0]) = true ∧
      ¬ (isNamed (.named [2, 0]) = true ∧ hasPO h.sig = true) ∧
      handlerInvocation (some h) (.named [2, 0]) = .ok (.named [2, 0]) := by decide +kernel

/-- **The property's exception.**  Named arguments are always refused (with -32602) for a
    handler that has a positional-only parameter - bindable or not. -/
theorem named_posonly_refused (h : Handler) (hwf : HandlerWF h) (ns : List Name)
    (hpo : hasPO h.sig = true) :
    handlerInvocation (some h) (.named ns) = .error (.rpc (-32602)) := by
  rw [handlerInvocation_closed h hwf.sig.order, if_neg]
  · rfl
  · rw [admits_named_closed, hpo]; exact fun hx => Bool.noConfusion hx.1

/-- the exception is a real restriction: `def f(a=…, /, b=…)` called with `{'b': …}` binds in
    Python and is refused -/
example :
    let h : Handler := ⟨[⟨.po, 0, true⟩, ⟨.pk, 1, true⟩], []⟩
    HandlerWF h ∧ hasPO h.sig = true ∧ bindable h (.named [1]) = true ∧
      handlerInvocation (some h) (.named [1]) = .error (.rpc (-32602)) := by decide +kernel

/-- refusal, exactly: -32602 iff Python cannot bind the call or it is a named call on a handler
    with positional-only parameters (outside the known-finding family) -/
theorem refused_iff (h : Handler) (hwf : HandlerWF h) (args : Args)
    (hnc : collides h args = false) :
    handlerInvocation (some h) args = .error (.rpc (-32602)) ↔
      (bindable h args = false ∨ (isNamed args = true ∧ hasPO h.sig = true)) := by
  rw [refused_iff_not_accepted h hwf.sig.order, exact h hwf args hnc,
    Decidable.not_and_iff_not_or_not, Bool.not_eq_true, Decidable.not_not]

/-! ## the pinned code (before `fixes/F16-required-kwonly.diff`) -/

/-- **F16.**  On the pinned `signature_info` a keyword-only parameter without default is neither
    required by name nor an obstacle to a positional call: `def f(a, *, b)` with `[1]` or
    `{'a': 1}`, and `def f(*, b)` with `[]` or `{}`, are accepted although Python cannot bind
    them; the repaired code refuses all four with -32602.  (a = 0, b = 1) -/
theorem sound_pinned_witness :
    let f : Handler := ⟨[⟨.pk, 0, false⟩, ⟨.ko, 1, false⟩], []⟩
    let g : Handler := ⟨[⟨.ko, 1, false⟩], []⟩
    HandlerWF f ∧ HandlerWF g ∧
    handlerInvocationPinned (some f) (.pos 1) = .ok (.pos 1) ∧ bindable f (.pos 1) = false ∧
    handlerInvocationPinned (some f) (.named [0]) = .ok (.named [0]) ∧
      bindable f (.named [0]) = false ∧
    handlerInvocationPinned (some g) (.pos 0) = .ok (.pos 0) ∧ bindable g (.pos 0) = false ∧
    handlerInvocationPinned (some g) (.named []) = .ok (.named []) ∧
      bindable g (.named []) = false ∧
    handlerInvocation (some f) (.pos 1) = .error (.rpc (-32602)) ∧
    handlerInvocation (some f) (.named [0]) = .error (.rpc (-32602)) ∧
    handlerInvocation (some g) (.pos 0) = .error (.rpc (-32602)) ∧
    handlerInvocation (some g) (.named []) = .error (.rpc (-32602)) := by decide +kernel

/-- F16 is the *only* difference: on every handler without a keyword-only parameter lacking a
    default the pinned function is the repaired function, so all theorems above hold for the
    pinned code on those handlers. -/
theorem pinned_agrees_without_required_kwonly (h : Handler) (args : Args)
    (hk : reqKw h.sig = []) :
    handlerInvocationPinned (some h) args = handlerInvocation (some h) args := by
  simp only [handlerInvocationPinned, handlerInvocation, handlerInvocationV, signatureInfoV,
    loop_pinned_eq h.sig hk]

example :
    let h : Handler := ⟨[⟨.pk, 0, false⟩, ⟨.ko, 1, true⟩], []⟩
    reqKw h.sig = [] ∧ handlerInvocationPinned (some h) (.pos 1) = .ok (.pos 1) := by decide +kernel

/-- hence on the pinned code an accepted call that Python cannot bind (outside the known-finding
    family) always involves a keyword-only parameter without default: F16 is one family, and
    the DESIGN §1 inputs are its minimal members. -/
theorem pinned_unsound_only_with_required_kwonly (h : Handler) (hwf : HandlerWF h) (args : Args)
    (c : Call) (hok : handlerInvocationPinned (some h) args = .ok c)
    (hnc : collides h args = false) (hub : bindable h c = false) : reqKw h.sig ≠ [] := by
  intro hk
  rw [pinned_agrees_without_required_kwonly h args hk] at hok
  rw [sound_partial h hwf args c hok hnc] at hub
  cases hub

end Aiorpcx.C19
