/-!
# Shared model of the Python values the aiorpcX code manipulates (no Mathlib: drivers link this)

* `PyExc`   — the exception *classes* a modelled operation can raise, with the subclass relation
              (so "`except ValueError` also catches `JSONDecodeError`" is a computation);
* `F`, `J`  — Python floats (exact dyadic value or a special) and JSON-shaped Python values
              (`None`, `bool`, `int`, `float`, `str` as code points so lone surrogates exist,
              `list`, `dict` as association list in insertion order);
* the `isinstance` lattice the code tests (`Number ⊇ int ⊇ bool`, `float`), truthiness,
  `==` (`pyEq`: `True == 1 == 1.0`, dicts compare order-insensitively), `<` (`pyLt`, raising
  `TypeError` across types), hashability (`x in dict` raises `TypeError` for list/dict keys),
  and `sorted(.., key=..)` with its `TypeError` (`pySorted`).

Trusted-base laws about CPython that this file encodes (exercised by the correspondence
harnesses, not proved):
* L-hash: for hashable `a`, `b`: `a == b → hash a = hash b`, so `k in d` ⇔ some key `pyEq` `k`;
* L-sort: `sorted` over ≥ 2 keys raises `TypeError` iff the keys are not all numbers or all
  strings (each element is compared at least once, and the comparison graph of a correct
  comparison sort is connected); otherwise it is the stable sort by `<`.
-/
namespace Aiorpcx.Py

deriving instance DecidableEq for Except

/-- Python `str`: list of code points (0 … 0x10FFFF, surrogates allowed). -/
abbrev Str := List Nat

/-- for writing member names in models -/
def lit (s : String) : Str := s.toList.map Char.toNat

inductive PyExc where
  | baseException | exception
  | typeError | valueError | unicodeDecodeError | jsonDecodeError
  | runtimeError | recursionError
  | lookupError | keyError | indexError
  | attributeError | assertionError | memoryError | overflowError | stopIteration
  /-- `asyncio.InvalidStateError(Exception)`: `set_result` on a future that is already done -/
  | invalidStateError
  -- aiorpcx.jsonrpc: CodeMessageError(Exception), RPCError / ProtocolError(CodeMessageError)
  | codeMessageError | rpcError | protocolError
  deriving DecidableEq, Repr, Inhabited

namespace PyExc

/-- the direct base class (CPython 3.12 builtin hierarchy; `json.JSONDecodeError(ValueError)`) -/
def base : PyExc → Option PyExc
  | baseException => none
  | exception => some baseException
  | typeError => some exception
  | valueError => some exception
  | unicodeDecodeError => some valueError      -- via UnicodeError
  | jsonDecodeError => some valueError
  | runtimeError => some exception
  | recursionError => some runtimeError
  | lookupError => some exception
  | keyError => some lookupError
  | indexError => some lookupError
  | attributeError => some exception
  | assertionError => some exception
  | memoryError => some exception
  | overflowError => some exception            -- via ArithmeticError
  | stopIteration => some exception
  | invalidStateError => some exception
  | codeMessageError => some exception
  | rpcError => some codeMessageError
  | protocolError => some codeMessageError

/-- `issubclass(a, b)`; the hierarchy above has height 4 -/
def isSubclass (a b : PyExc) : Bool :=
  let up (x : Option PyExc) : Option PyExc := x.bind base
  let a0 := some a
  let a1 := up a0
  let a2 := up a1
  let a3 := up a2
  let a4 := up a3
  [a0, a1, a2, a3, a4].any (· == some b)

def name : PyExc → String
  | baseException => "BaseException" | exception => "Exception"
  | typeError => "TypeError" | valueError => "ValueError"
  | unicodeDecodeError => "UnicodeDecodeError" | jsonDecodeError => "JSONDecodeError"
  | runtimeError => "RuntimeError" | recursionError => "RecursionError"
  | lookupError => "LookupError" | keyError => "KeyError" | indexError => "IndexError"
  | attributeError => "AttributeError" | assertionError => "AssertionError"
  | memoryError => "MemoryError" | overflowError => "OverflowError"
  | stopIteration => "StopIteration"
  | invalidStateError => "InvalidStateError"
  | codeMessageError => "CodeMessageError" | rpcError => "RPCError"
  | protocolError => "ProtocolError"

def all : List PyExc :=
  [baseException, exception, typeError, valueError, unicodeDecodeError, jsonDecodeError,
   runtimeError, recursionError, lookupError, keyError, indexError, attributeError,
   assertionError, memoryError, overflowError, stopIteration, invalidStateError, codeMessageError,
   rpcError, protocolError]

def ofName (s : String) : Option PyExc := all.find? (fun e => e.name == s)

/-- does an `except (c₁, …)` clause catch a raised `e`? -/
def caughtBy (e : PyExc) (clause : List PyExc) : Bool := clause.any (isSubclass e)

end PyExc

/-- A Python `float`: exact value `m * 2^e` (canonical: `m` odd, or `m = 0 ∧ e = 0`), negative
zero, ±infinity or NaN. -/
inductive F where
  | fin (m : Int) (e : Int)
  | negZero
  | inf (neg : Bool)
  | nan
  deriving DecidableEq, Repr, Inhabited

/-- compare `m₁·2^e₁` with `m₂·2^e₂` exactly -/
def cmpDyadic (m1 e1 m2 e2 : Int) : Ordering :=
  let e := min e1 e2
  compare (m1 * 2 ^ (e1 - e).toNat) (m2 * 2 ^ (e2 - e).toNat)

/-- numeric view shared by `int`, `bool`, `float` -/
inductive Num where
  | dy (m e : Int)      -- finite: m·2^e (ints have e = 0)
  | inf (neg : Bool)
  | nan
  deriving DecidableEq, Repr

def F.toNum : F → Num
  | .fin m e => .dy m e
  | .negZero => .dy 0 0
  | .inf n => .inf n
  | .nan => .nan

def F.isFinite : F → Bool
  | .fin _ _ | .negZero => true
  | _ => false

/-- Python `a == b` on numbers (exact, as CPython compares int with float exactly) -/
def Num.eq : Num → Num → Bool
  | .dy m1 e1, .dy m2 e2 => cmpDyadic m1 e1 m2 e2 == .eq
  | .inf a, .inf b => a == b
  | _, _ => false

/-- Python `a < b` on numbers (never raises; anything involving NaN is `False`) -/
def Num.lt : Num → Num → Bool
  | .dy m1 e1, .dy m2 e2 => cmpDyadic m1 e1 m2 e2 == .lt
  | .dy _ _, .inf neg => !neg
  | .inf neg, .dy _ _ => neg
  | .inf a, .inf b => a && !b
  | _, _ => false

inductive J where
  | null
  | bool (b : Bool)
  | int (i : Int)
  | float (f : F)
  | str (s : Str)
  | arr (xs : List J)
  | obj (kvs : List (Str × J))
  deriving Repr, Inhabited

mutual
def J.decEq : (a b : J) → Decidable (a = b)
  | .null, .null => isTrue rfl
  | .bool a, .bool b =>
      if h : a = b then isTrue (by rw [h]) else isFalse (by intro h'; cases h'; exact h rfl)
  | .int a, .int b =>
      if h : a = b then isTrue (by rw [h]) else isFalse (by intro h'; cases h'; exact h rfl)
  | .float a, .float b =>
      if h : a = b then isTrue (by rw [h]) else isFalse (by intro h'; cases h'; exact h rfl)
  | .str a, .str b =>
      if h : a = b then isTrue (by rw [h]) else isFalse (by intro h'; cases h'; exact h rfl)
  | .arr a, .arr b => match J.decEqList a b with
      | isTrue h => isTrue (by rw [h])
      | isFalse h => isFalse (by intro h'; cases h'; exact h rfl)
  | .obj a, .obj b => match J.decEqObj a b with
      | isTrue h => isTrue (by rw [h])
      | isFalse h => isFalse (by intro h'; cases h'; exact h rfl)
  | .null, .bool _ | .null, .int _ | .null, .float _ | .null, .str _ | .null, .arr _ | .null, .obj _
  | .bool _, .null | .bool _, .int _ | .bool _, .float _ | .bool _, .str _ | .bool _, .arr _
  | .bool _, .obj _
  | .int _, .null | .int _, .bool _ | .int _, .float _ | .int _, .str _ | .int _, .arr _
  | .int _, .obj _
  | .float _, .null | .float _, .bool _ | .float _, .int _ | .float _, .str _ | .float _, .arr _
  | .float _, .obj _
  | .str _, .null | .str _, .bool _ | .str _, .int _ | .str _, .float _ | .str _, .arr _
  | .str _, .obj _
  | .arr _, .null | .arr _, .bool _ | .arr _, .int _ | .arr _, .float _ | .arr _, .str _
  | .arr _, .obj _
  | .obj _, .null | .obj _, .bool _ | .obj _, .int _ | .obj _, .float _ | .obj _, .str _
  | .obj _, .arr _ => isFalse (by intro h; cases h)
def J.decEqList : (a b : List J) → Decidable (a = b)
  | [], [] => isTrue rfl
  | [], _ :: _ | _ :: _, [] => isFalse (by intro h; cases h)
  | x :: xs, y :: ys => match J.decEq x y, J.decEqList xs ys with
      | isTrue h1, isTrue h2 => isTrue (by rw [h1, h2])
      | isFalse h, _ => isFalse (by intro h'; cases h'; exact h rfl)
      | _, isFalse h => isFalse (by intro h'; cases h'; exact h rfl)
def J.decEqObj : (a b : List (Str × J)) → Decidable (a = b)
  | [], [] => isTrue rfl
  | [], _ :: _ | _ :: _, [] => isFalse (by intro h; cases h)
  | (k, x) :: xs, (k', y) :: ys =>
      if hk : k = k' then
        match J.decEq x y, J.decEqObj xs ys with
        | isTrue h1, isTrue h2 => isTrue (by rw [hk, h1, h2])
        | isFalse h, _ => isFalse (by intro h'; cases h'; exact h rfl)
        | _, isFalse h => isFalse (by intro h'; cases h'; exact h rfl)
      else isFalse (by intro h'; cases h'; exact hk rfl)
end

instance : DecidableEq J := J.decEq

namespace J

def isNone : J → Bool | .null => true | _ => false
def isBool : J → Bool | .bool _ => true | _ => false
/-- `isinstance(x, int)` — `bool` is a subclass of `int` -/
def isInt : J → Bool | .int _ | .bool _ => true | _ => false
def isFloat : J → Bool | .float _ => true | _ => false
/-- `isinstance(x, numbers.Number)` — int, bool and float are registered -/
def isNumber : J → Bool | .int _ | .bool _ | .float _ => true | _ => false
def isStr : J → Bool | .str _ => true | _ => false
def isList : J → Bool | .arr _ => true | _ => false
def isDict : J → Bool | .obj _ => true | _ => false

theorem isBool_isInt {x : J} (h : x.isBool = true) : x.isInt = true := by
  cases x <;> first | rfl | cases h
theorem isInt_isNumber {x : J} (h : x.isInt = true) : x.isNumber = true := by
  cases x <;> first | rfl | cases h
theorem isFloat_isNumber {x : J} (h : x.isFloat = true) : x.isNumber = true := by
  cases x <;> first | rfl | cases h

def toNum? : J → Option Num
  | .bool b => some (.dy (if b then 1 else 0) 0)
  | .int i => some (.dy i 0)
  | .float f => some f.toNum
  | _ => none

/-- `bool(x)` -/
def truthy : J → Bool
  | .null => false
  | .bool b => b
  | .int i => i != 0
  | .float f => !(f == .fin 0 0 || f == .negZero)
  | .str s => !s.isEmpty
  | .arr xs => !xs.isEmpty
  | .obj kvs => !kvs.isEmpty

/-- `d.get(k)` / `d[k]` on an association list (first match; decoded dicts have unique keys) -/
def lookup (k : Str) : List (Str × J) → Option J
  | [] => none
  | (k', v) :: r => if k = k' then some v else lookup k r

/-- `k in d` for a `dict` payload -/
def hasKey (k : Str) (kvs : List (Str × J)) : Bool := (lookup k kvs).isSome

/-- `hash(x)` is defined (otherwise `x in some_dict` raises `TypeError: unhashable type`) -/
def hashable : J → Bool
  | .arr _ | .obj _ => false
  | _ => true

end J

mutual
/-- Python `a == b` on JSON-shaped values (never raises) -/
def pyEq : J → J → Bool
  | .null, .null => true
  | .str a, .str b => a == b
  | .arr a, .arr b => pyEqList a b
  | .obj a, .obj b => a.length == b.length && pyEqObj a b
  | a@(.bool _), b | a@(.int _), b | a@(.float _), b =>
      match a.toNum?, b.toNum? with
      | some x, some y => x.eq y
      | _, _ => false
  | _, _ => false
def pyEqList : List J → List J → Bool
  | [], [] => true
  | x :: xs, y :: ys => pyEq x y && pyEqList xs ys
  | _, _ => false
/-- every entry of the first dict is in the second with an equal value -/
def pyEqObj : List (Str × J) → List (Str × J) → Bool
  | [], _ => true
  | (k, v) :: r, b =>
      (match J.lookup k b with
       | some v' => pyEq v v'
       | none => false) && pyEqObj r b
end

def strLt : Str → Str → Bool
  | [], [] => false
  | [], _ :: _ => true
  | _ :: _, [] => false
  | a :: as, b :: bs => if a < b then true else if b < a then false else strLt as bs

mutual
/-- Python `a < b`; `TypeError` across incomparable types (`None < None` included) -/
def pyLt : J → J → Except PyExc Bool
  | .str a, .str b => .ok (strLt a b)
  | .arr a, .arr b => pyLtList a b
  | a@(.bool _), b | a@(.int _), b | a@(.float _), b =>
      match a.toNum?, b.toNum? with
      | some x, some y => .ok (x.lt y)
      | _, _ => .error .typeError
  | _, _ => .error .typeError
/-- list `<`: first position where the elements differ under `==` decides -/
def pyLtList : List J → List J → Except PyExc Bool
  | [], [] => .ok false
  | [], _ :: _ => .ok true
  | _ :: _, [] => .ok false
  | x :: xs, y :: ys => if pyEq x y then pyLtList xs ys else pyLt x y
end

/-- `k in d` where `d`'s keys are `keys` (all hashable): `TypeError` for an unhashable `k`,
otherwise whether some key equals `k` (law L-hash). -/
def pyIn (k : J) (keys : List J) : Except PyExc Bool :=
  if k.hashable then .ok (keys.any (pyEq k)) else .error .typeError

inductive SortClass where | num | str | other
  deriving DecidableEq, Repr

def sortClass : J → SortClass
  | .bool _ | .int _ | .float _ => .num
  | .str _ => .str
  | _ => .other

/-- `not (b < a)` for two keys of the same sortable class (total, used after the class check) -/
def keyLe (a b : J) : Bool :=
  match pyLt b a with
  | .ok r => !r
  | .error _ => true

/-- `sorted(xs, key=key)` (law L-sort).  Keys that are lists/dicts/None are reported as
`TypeError` whenever two or more elements are sorted: exact for dict/None keys; list keys can be
mutually comparable in Python, but no modelled call site sorts list keys (ids of batch-capable
protocols are `Number | str | None`). -/
def pySorted {α : Type} (key : α → J) (xs : List α) : Except PyExc (List α) :=
  if xs.length ≤ 1 then .ok xs
  else if xs.all (fun x => sortClass (key x) == .num)
        || xs.all (fun x => sortClass (key x) == .str) then
    .ok (xs.mergeSort (fun a b => keyLe (key a) (key b)))
  else .error .typeError

/-! ### Well-formed ("JSON-representable") values: unique dict keys, finite floats in canonical
form, strings whose surrogates are lone (`json.loads` joins an escaped high+low pair into one
astral character, so a `str` holding the two code points separately does not survive
`loads ∘ dumps`) -/

def isHiSur (c : Nat) : Bool := 0xD800 ≤ c && c ≤ 0xDBFF
def isLoSur (c : Nat) : Bool := 0xDC00 ≤ c && c ≤ 0xDFFF

def strWf : Str → Bool
  | [] => true
  | [c] => c ≤ 0x10FFFF
  | a :: b :: r => a ≤ 0x10FFFF && !(isHiSur a && isLoSur b) && strWf (b :: r)

def keysWf : List (Str × J) → Bool
  | [] => true
  | (k, _) :: r => strWf k && keysWf r

def uniqueKeys : List (Str × J) → Bool
  | [] => true
  | (k, _) :: r => !(J.hasKey k r) && uniqueKeys r

/-- a finite IEEE-754 binary64 in canonical form: `m·2^e` with `m` odd (or `0·2^0`), at most 53
significant bits, exponent in range (`5e-324 = 1·2^-1074`, `max = (2^53-1)·2^971`); `-0.0` has its
own constructor.  Exactly the values `harness/jwire.py` produces for a Python float, so distinct
well-formed `F` are distinct doubles (`fin 2 0` / `fin 1 1`, or `fin (2^60+1) 0`, are not
well-formed). -/
def F.wf : F → Bool
  | .fin m e =>
      (m % 2 != 0 || (m == 0 && e == 0)) && decide (-1074 ≤ e)
        && decide (m.natAbs * 2 ^ (e - 971).toNat < 2 ^ 53)
  | .negZero => true
  | _ => false

theorem F.wf_isFinite {f : F} (h : f.wf = true) : f.isFinite = true := by
  cases f <;> first | rfl | cases h

example : (F.fin 3 (-1)).wf = true := by decide +kernel
example : (F.fin 1 (-1074)).wf = true ∧ (F.fin 1 1023).wf = true ∧ (F.fin (2 ^ 53 - 1) 971).wf = true := by decide +kernel
example : (F.fin 2 0).wf = false ∧ (F.fin (2 ^ 60 + 1) 0).wf = false ∧ (F.fin 1 1024).wf = false
    ∧ (F.fin 1 (-1075)).wf = false ∧ (F.fin 0 1).wf = false := by decide +kernel

mutual
def J.wf : J → Bool
  | .float f => f.wf
  | .str s => strWf s
  | .arr xs => J.wfList xs
  | .obj kvs => uniqueKeys kvs && keysWf kvs && J.wfObj kvs
  | _ => true
def J.wfList : List J → Bool
  | [] => true
  | x :: xs => x.wf && J.wfList xs
def J.wfObj : List (Str × J) → Bool
  | [] => true
  | (_, v) :: r => v.wf && J.wfObj r
end

example : pyEq (.bool true) (.int 1) = true := by decide +kernel
example : pyEq (.int 1) (.float (.fin 1 0)) = true := by decide +kernel
example : pyEq (.float (.fin 1 (-1))) (.int 0) = false := by decide +kernel
example : pyEq (.float .nan) (.float .nan) = false := by decide +kernel
example : pyEq (.float .negZero) (.int 0) = true := by decide +kernel
example : pyEq (.str [49]) (.int 1) = false := by decide +kernel
example : pyEq (.obj [([97], .int 1), ([98], .null)]) (.obj [([98], .null), ([97], .bool true)]) = true := by
  decide +kernel
example : pyLt (.int 0) (.str [120]) = .error .typeError := by decide +kernel
example : pyLt .null .null = .error .typeError := by decide +kernel
example : pyLt (.bool false) (.float (.fin 1 (-1))) = .ok true := by decide +kernel
example : pyIn (.arr [.int 1]) [.int 1] = .error .typeError := by decide +kernel
example : pyIn (.bool true) [.int 0, .int 1] = .ok true := by decide +kernel
example : pySorted id [J.int 0, J.str [120]] = .error .typeError := by decide +kernel
example : pySorted id [J.null, J.null] = .error .typeError := by decide +kernel
example : pySorted id [J.null] = .ok [J.null] := by decide +kernel
example : PyExc.caughtBy .jsonDecodeError [.valueError] = true := by decide +kernel
example : PyExc.caughtBy .valueError [.jsonDecodeError] = false := by decide +kernel
example : PyExc.caughtBy .protocolError [.codeMessageError] = true := by decide +kernel
example : PyExc.caughtBy .rpcError [.protocolError] = false := by decide +kernel
example : PyExc.caughtBy .recursionError [.valueError, .unicodeDecodeError] = false := by decide +kernel

end Aiorpcx.Py
