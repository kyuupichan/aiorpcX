import Aiorpcx.C02.Model
/-! C02 — closed forms for the batch bookkeeping.

    The model's `runCalls` looks the answering id up in the items (`boundId`).  The closed forms
    are stated for *resolved* deliveries `BCall` (member, bound id, result, limit); `resolve`
    attaches to each delivery the id its item is bound to, and `boundId_scan` says which id that
    is: the one the member carries in the composition (`idOf`).  For a composition with a request
    member and as many deliveries to request members as it has of them, `replies_complete` gives
    the one reply in closed form. -/
namespace Aiorpcx.C02
open List
open Aiorpcx.C01 (Id)

variable {R : Type}

/-- a delivery with the id its `send_result` is bound to made explicit:
    (member, id, result, limit in force when the result is supplied) -/
abbrev BCall (R : Type) := Nat × Id × R × Nat

abbrev BCall.lim {R : Type} (c : BCall R) : Nat := c.2.2.2

def runBound (inc : Nat) (encLen : Id → R → Nat) :
    ReqBatch R → List (BCall R) → List (Option (List (Entry R)))
  | _, [] => []
  | b, c :: cs =>
      let r := sendResult inc encLen b c.1 c.2.1 c.2.2.1 c.2.2.2
      r.2 :: runBound inc encLen r.1 cs

/-- the entries produced by a sequence of `send_result` calls starting from running size `s`;
    each call is judged with the cumulative size and **its own** limit -/
def entriesFrom (inc : Nat) (encLen : Id → R → Nat) : Nat → List (BCall R) → List (Entry R)
  | _, [] => []
  | s, c :: cs =>
      let s' := s + encLen c.2.1 c.2.2.1 + inc
      (if s' > c.2.2.2 && c.2.2.2 > 0 then Entry.big c.1 c.2.1 else Entry.res c.1 c.2.1 c.2.2.1)
        :: entriesFrom inc encLen s' cs

/-- the running size after the calls `cs` (it does not depend on the limits) -/
def sizeAfter (inc : Nat) (encLen : Id → R → Nat) (s : Nat) (cs : List (BCall R)) : Nat :=
  s + (cs.map fun c => encLen c.2.1 c.2.2.1 + inc).sum

/-- the entry a call appends when the running size, its own result included, is `size` -/
def entryAt (size : Nat) (c : BCall R) : Entry R :=
  if size > c.2.2.2 && c.2.2.2 > 0 then .big c.1 c.2.1 else .res c.1 c.2.1 c.2.2.1

theorem entryAt_cases (n : Nat) (c : BCall R) :
    entryAt n c = .res c.1 c.2.1 c.2.2.1 ∨ entryAt n c = .big c.1 c.2.1 := by
  unfold entryAt
  split
  · exact .inr rfl
  · exact .inl rfl

theorem entryAt_key (n : Nat) (c : BCall R) :
    ((entryAt n c).member, (entryAt n c).id) = (c.1, c.2.1) := by
  rcases entryAt_cases n c with h | h <;> rw [h] <;> rfl

theorem entryAt_isReal (n : Nat) (c : BCall R) :
    (entryAt n c).isReal = (c.lim == 0 || decide (n ≤ c.lim)) := by
  unfold entryAt BCall.lim
  split <;> rename_i h <;> simp [Entry.isReal] at h ⊢ <;> omega

theorem entryAt_of_not_real {n : Nat} {c : BCall R} (h : (entryAt n c).isReal = false) :
    entryAt n c = .big c.1 c.2.1 := by
  rcases entryAt_cases n c with h' | h'
  · rw [h'] at h
    cases h
  · exact h'

theorem entriesFrom_cons (inc : Nat) (encLen : Id → R → Nat) (s : Nat) (c : BCall R)
    (cs : List (BCall R)) :
    entriesFrom inc encLen s (c :: cs) =
      entryAt (s + encLen c.2.1 c.2.2.1 + inc) c ::
        entriesFrom inc encLen (s + encLen c.2.1 c.2.2.1 + inc) cs := rfl

theorem runBound_cons (inc : Nat) (encLen : Id → R → Nat) (b : ReqBatch R) (c : BCall R)
    (cs : List (BCall R)) :
    runBound inc encLen b (c :: cs) =
      (if b.parts.length + 1 = b.count
        then some (b.parts ++ [entryAt (b.size + encLen c.2.1 c.2.2.1 + inc) c]) else none) ::
      runBound inc encLen ⟨b.parts ++ [entryAt (b.size + encLen c.2.1 c.2.2.1 + inc) c], b.count,
        b.size + encLen c.2.1 c.2.2.1 + inc⟩ cs := by
  simp only [runBound, sendResult, entryAt, length_append, length_cons, length_nil, beq_iff_eq]

theorem sizeAfter_cons (inc : Nat) (encLen : Id → R → Nat) (s : Nat) (c : BCall R)
    (cs : List (BCall R)) :
    sizeAfter inc encLen s (c :: cs) =
      sizeAfter inc encLen (s + encLen c.2.1 c.2.2.1 + inc) cs := by
  simp only [sizeAfter, map_cons, sum_cons, Nat.add_assoc]

theorem le_sizeAfter_take (inc : Nat) (encLen : Id → R → Nat) :
    ∀ (cs : List (BCall R)) (s j : Nat) (hj : j < cs.length),
      encLen (cs[j]).2.1 (cs[j]).2.2.1 ≤ sizeAfter inc encLen s (cs.take (j + 1))
  | c :: cs, s, 0, _ => by
    simp only [sizeAfter, take_succ_cons, take_zero, map_cons, map_nil, sum_cons, sum_nil,
      getElem_cons_zero]
    omega
  | c :: cs, s, j + 1, hj => by
    rw [take_succ_cons, sizeAfter_cons]
    exact le_sizeAfter_take inc encLen cs _ j (by simpa using hj)

/-- as long as some request member has not supplied its result, nothing is returned -/
theorem runBound_incomplete (inc : Nat) (encLen : Id → R → Nat) :
    ∀ (cs : List (BCall R)) (b : ReqBatch R), b.parts.length + cs.length < b.count →
      runBound inc encLen b cs = replicate cs.length none
  | [], _, _ => rfl
  | c :: cs, b, hc => by
    simp only [length_cons] at hc
    rw [runBound_cons, if_neg (by omega), runBound_incomplete inc encLen cs _
      (by simp only [length_append, length_cons, length_nil]; omega)]
    rfl

/-- before the last call nothing is returned; the last call returns everything -/
theorem runBound_complete (inc : Nat) (encLen : Id → R → Nat) :
    ∀ (cs : List (BCall R)) (b : ReqBatch R), cs ≠ [] → b.parts.length + cs.length = b.count →
      runBound inc encLen b cs =
        replicate (cs.length - 1) none ++ [some (b.parts ++ entriesFrom inc encLen b.size cs)]
  | [], _, h, _ => absurd rfl h
  | [c], b, _, hc => by
    rw [runBound_cons, if_pos (show b.parts.length + 1 = b.count from hc)]
    rfl
  | c :: c' :: cs, b, _, hc => by
    simp only [length_cons] at hc
    rw [runBound_cons, if_neg (by omega), runBound_complete inc encLen (c' :: cs) _
      (cons_ne_nil _ _) (by simp only [length_append, length_cons, length_nil]; omega),
      append_assoc]
    rfl

theorem length_entriesFrom (inc : Nat) (encLen : Id → R → Nat) (s : Nat) (cs : List (BCall R)) :
    (entriesFrom inc encLen s cs).length = cs.length := by
  induction cs generalizing s with
  | nil => rfl
  | cons c cs ih => rw [entriesFrom_cons, length_cons, ih, length_cons]

/-- entry `j` answers the `j`-th call: same member, same id -/
theorem entriesFrom_keys (inc : Nat) (encLen : Id → R → Nat) (s : Nat) (cs : List (BCall R)) :
    (entriesFrom inc encLen s cs).map (fun e => (e.member, e.id)) =
      cs.map (fun c => (c.1, c.2.1)) := by
  induction cs generalizing s with
  | nil => rfl
  | cons c cs ih => rw [entriesFrom_cons, map_cons, map_cons, ih, entryAt_key]

theorem entriesFrom_take (inc : Nat) (encLen : Id → R → Nat) :
    ∀ (cs : List (BCall R)) (s n : Nat),
      (entriesFrom inc encLen s cs).take n = entriesFrom inc encLen s (cs.take n)
  | [], _, n => by rw [take_nil]; exact take_nil
  | _ :: _, _, 0 => rfl
  | c :: cs, s, n + 1 => by
    rw [entriesFrom_cons, take_succ_cons, take_succ_cons, entriesFrom_cons,
      entriesFrom_take inc encLen cs _ n]

theorem getElem_entriesFrom (inc : Nat) (encLen : Id → R → Nat) :
    ∀ (cs : List (BCall R)) (s j : Nat) (hj : j < cs.length),
      (entriesFrom inc encLen s cs)[j]'(by rw [length_entriesFrom]; exact hj) =
        entryAt (sizeAfter inc encLen s (cs.take (j + 1))) cs[j]
  | c :: cs, s, 0, _ => by
    simp only [entriesFrom_cons, getElem_cons_zero, take_succ_cons, take_zero, sizeAfter_cons]
    rfl
  | c :: cs, s, j + 1, hj => by
    simp only [entriesFrom_cons, getElem_cons_succ, take_succ_cons, sizeAfter_cons]
    exact getElem_entriesFrom inc encLen cs _ j (by simpa using hj)

theorem entriesFrom_get (inc : Nat) (encLen : Id → R → Nat) (cs : List (BCall R)) (s k : Nat)
    (hk : k < cs.length) :
    (entriesFrom inc encLen s cs)[k]? = some (.res (cs[k]).1 (cs[k]).2.1 (cs[k]).2.2.1) ∨
    (entriesFrom inc encLen s cs)[k]? = some (.big (cs[k]).1 (cs[k]).2.1) := by
  rw [getElem?_eq_getElem (by rw [length_entriesFrom]; exact hk), getElem_entriesFrom _ _ _ _ _ hk]
  rcases entryAt_cases (sizeAfter inc encLen s (cs.take (k + 1))) cs[k] with h | h
  · exact .inl (congrArg some h)
  · exact .inr (congrArg some h)

/-- a non-empty filter is already that of the prefix ending with its last member -/
theorem filter_eq_filter_take {α : Type} (p : α → Bool) : ∀ (l : List α), l.filter p ≠ [] →
    ∃ (j : Nat) (hj : j < l.length), p l[j] = true ∧ (l.take (j + 1)).filter p = l.filter p
  | [], h => absurd rfl h
  | a :: l, h => by
    by_cases hl : l.filter p = []
    · have ha : p a = true := by
        cases hpa : p a with
        | true => rfl
        | false =>
          rw [filter_cons_of_neg (by rw [hpa]; exact Bool.false_ne_true), hl] at h
          exact absurd rfl h
      refine ⟨0, Nat.succ_pos _, ha, ?_⟩
      rw [take_succ_cons, take_zero, filter_cons_of_pos ha, filter_cons_of_pos ha, hl]
      rfl
    · obtain ⟨j, hj, hp, ht⟩ := filter_eq_filter_take p l hl
      exact ⟨j + 1, Nat.succ_lt_succ hj, hp, by rw [take_succ_cons, filter_cons, filter_cons, ht]⟩

/-! ### encoded lengths -/

/-- length of `batch_message_from_parts` for parts of the given lengths -/
def batchLen (sep br : Nat) (lens : List Nat) : Nat := lens.sum + sep * (lens.length - 1) + br

theorem sum_map_add (inc : Nat) : ∀ (l : List Nat), (l.map (· + inc)).sum = l.sum + inc * l.length
  | [] => rfl
  | x :: l => by
    rw [map_cons, sum_cons, sum_cons, length_cons, sum_map_add inc l, Nat.mul_succ]
    omega

/-- a batch message is no longer than its parts, each counted with an `inc` that covers the
    separator and the brackets -/
theorem batchLen_le_accounted (sep br inc : Nat) (hs : sep ≤ inc) (hb : br ≤ inc) :
    ∀ (lens : List Nat), lens ≠ [] → batchLen sep br lens ≤ (lens.map (· + inc)).sum
  | [], h => absurd rfl h
  | x :: l, _ => by
    have := Nat.mul_le_mul_right l.length hs
    rw [sum_map_add, batchLen, length_cons, Nat.add_sub_cancel, Nat.mul_succ]
    omega

/-- leaving parts out does not make a batch message longer -/
theorem batchLen_mono (sep br : Nat) {l₁ l₂ : List Nat} (h : l₁ <+ l₂) :
    batchLen sep br l₁ ≤ batchLen sep br l₂ := by
  have hsum : l₁.sum ≤ l₂.sum := by
    induction h with
    | slnil => exact Nat.le_refl _
    | cons a _ ih => rw [sum_cons]; omega
    | cons_cons a _ ih => rw [sum_cons, sum_cons]; omega
  have := Nat.mul_le_mul_left sep (Nat.sub_le_sub_right h.length_le 1)
  unfold batchLen
  omega

/-- encoded length of one entry of a response: a real result as `encLen` says, an error entry
    for an invalid member `errLen`, a "too large" replacement `bigLen` (both ≈ 90-100 bytes in
    the real protocols; here arbitrary) -/
def entryLen (encLen : Id → R → Nat) (errLen bigLen : Nat) : Entry R → Nat
  | .res _ id r => encLen id r
  | .err _ _ => errLen
  | .big _ _ => bigLen

/-- the encoded length of a batch response -/
def wireLen (sep br : Nat) (encLen : Id → R → Nat) (errLen bigLen : Nat) (es : List (Entry R)) :
    Nat := batchLen sep br (es.map (entryLen encLen errLen bigLen))

/-- the results kept are among the results supplied, in the same order: so are their lengths -/
theorem kept_lens_sublist (inc : Nat) (encLen : Id → R → Nat) (errLen bigLen : Nat) :
    ∀ (cs : List (BCall R)) (s : Nat),
      ((entriesFrom inc encLen s cs).filter Entry.isReal).map (entryLen encLen errLen bigLen) <+
        cs.map fun c => encLen c.2.1 c.2.2.1
  | [], _ => Sublist.slnil
  | c :: cs, s => by
    have ih := kept_lens_sublist inc encLen errLen bigLen cs (s + encLen c.2.1 c.2.2.1 + inc)
    rw [entriesFrom_cons, map_cons]
    rcases entryAt_cases (s + encLen c.2.1 c.2.2.1 + inc) c with h | h <;> rw [h]
    · exact ih.cons_cons _
    · exact ih.cons _

theorem errEntries_not_real : ∀ (i : Nat) (ms : List Mem),
    (errEntries (R := R) i ms).filter Entry.isReal = []
  | _, [] => rfl
  | i, m :: ms => by
    cases m <;> simp [errEntries, Entry.isReal, errEntries_not_real (i + 1) ms]

theorem scan_spec (i : Nat) (ms : List Mem) :
    (scan (R := R) i ms).2.1 = errEntries i ms ∧
    (scan (R := R) i ms).2.2 = (reqMembers i ms).length + (errEntries (R := R) i ms).length ∧
    (scan (R := R) i ms).1.length = (reqMembers i ms).length + notifCount ms := by
  induction ms generalizing i with
  | nil => exact ⟨rfl, rfl, rfl⟩
  | cons m ms ih =>
    obtain ⟨h1, h2, h3⟩ := ih (i + 1)
    cases m <;>
      simp only [scan, errEntries, reqMembers, notifCount, length_cons, h1, h2, h3, true_and,
        and_true] <;>
      omega

/-- the items (and the closure variables) unless there is neither a request nor a notification
    but an invalid member -/
theorem receiveBatch_items (ms : List Mem)
    (h : reqMembers 0 ms ≠ [] ∨ 0 < notifCount ms ∨ errEntries (R := R) 0 ms = []) :
    receiveBatch (R := R) ms =
      .items (scan (R := R) 0 ms).1
        ⟨errEntries 0 ms, (reqMembers 0 ms).length + (errEntries (R := R) 0 ms).length, 0⟩ := by
  obtain ⟨h1, h2, h3⟩ := scan_spec (R := R) 0 ms
  have hc : ((scan (R := R) 0 ms).1.isEmpty && !(errEntries (R := R) 0 ms).isEmpty) = false := by
    cases hl : (scan (R := R) 0 ms).1 with
    | cons _ _ => rfl
    | nil =>
      rw [hl, length_nil] at h3
      rcases h with h | h | h
      · exact absurd (length_eq_zero_iff.1 (by omega)) h
      · omega
      · rw [h]; rfl
  rw [receiveBatch, h1, h2, hc]
  rfl

/-- only invalid members: the error batch is raised at once -/
theorem receiveBatch_errorBatch (ms : List Mem) (hreq : reqMembers 0 ms = [])
    (hn : notifCount ms = 0) (he : errEntries (R := R) 0 ms ≠ []) :
    receiveBatch (R := R) ms = .errorBatch (errEntries 0 ms) := by
  obtain ⟨h1, _, h3⟩ := scan_spec (R := R) 0 ms
  rw [hreq, hn] at h3
  rw [receiveBatch, h1, length_eq_zero_iff.1 h3]
  cases hl : errEntries (R := R) 0 ms with
  | nil => exact absurd hl he
  | cons _ _ => rfl

theorem all_notif_members (R : Type) : ∀ (ms : List Mem), (∀ m ∈ ms, m = .notif) → ∀ i,
    reqMembers i ms = [] ∧ errEntries (R := R) i ms = []
  | [], _, _ => ⟨rfl, rfl⟩
  | m :: ms, h, i => by
    obtain rfl := h m mem_cons_self
    exact all_notif_members R ms (fun x hx => h x (mem_cons_of_mem _ hx)) (i + 1)

theorem all_invalid_members (R : Type) : ∀ (ms : List Mem), (∀ m ∈ ms, ∃ id, m = .invalid id) →
    ∀ i, reqMembers i ms = [] ∧ notifCount ms = 0 ∧ (errEntries (R := R) i ms).length = ms.length
  | [], _, _ => ⟨rfl, rfl, rfl⟩
  | m :: ms, h, i => by
    obtain ⟨id, rfl⟩ := h m mem_cons_self
    obtain ⟨a, b, c⟩ := all_invalid_members R ms (fun x hx => h x (mem_cons_of_mem _ hx)) (i + 1)
    exact ⟨a, b, by rw [errEntries, length_cons, length_cons, c]⟩

def lookupId : Nat → List (Nat × Id) → Option Id
  | _, [] => none
  | k, (m, id) :: l => if k = m then some id else lookupId k l

/-- the item of member `k` is bound to the id member `k` carries in the composition -/
theorem boundId_scan (i : Nat) (ms : List Mem) (k : Nat) :
    boundId (scan (R := R) i ms).1 k = lookupId k (reqMembers i ms) := by
  induction ms generalizing i with
  | nil => rfl
  | cons m ms ih =>
    cases m with
    | req id => simp only [scan, boundId, reqMembers, lookupId, ih (i + 1)]
    | notif => simp only [scan, boundId, reqMembers, ih (i + 1)]
    | invalid id => simp only [scan, reqMembers, ih (i + 1)]

/-- a listed member index is looked up to an id it is listed with -/
theorem lookupId_of_mem_keys {k : Nat} {l : List (Nat × Id)} (h : k ∈ l.map (·.1)) :
    ∃ id, lookupId k l = some id ∧ (k, id) ∈ l := by
  induction l with
  | nil => cases h
  | cons p l ih =>
    unfold lookupId
    split
    · rename_i hk
      exact ⟨_, rfl, hk ▸ mem_cons_self⟩
    · rename_i hk
      obtain ⟨id, hid, hmem⟩ := ih ((mem_cons.1 h).resolve_left hk)
      exact ⟨id, hid, mem_cons_of_mem _ hmem⟩

/-- `(m, id)` is listed among the request members exactly when member `m` of the composition
    is the request with id `id` -/
theorem mem_reqMembers (i : Nat) (ms : List Mem) (m : Nat) (id : Id) :
    (m, id) ∈ reqMembers i ms ↔ i ≤ m ∧ ms[m - i]? = some (.req id) := by
  induction ms generalizing i with
  | nil => exact ⟨nofun, fun h => nomatch h.2⟩
  | cons x ms ih =>
    -- member `m` of `x :: ms`, counted from `i`, is `x` itself or member `m` of `ms` from `i + 1`
    have step : (i ≤ m ∧ (x :: ms)[m - i]? = some (.req id)) ↔
        (m = i ∧ x = .req id) ∨ (m, id) ∈ reqMembers (i + 1) ms := by
      rw [ih (i + 1)]
      rcases Nat.lt_trichotomy m i with h | rfl | h
      · exact ⟨fun h' => absurd h'.1 (by omega), fun h' => h'.elim (by omega) (by omega)⟩
      · rw [Nat.sub_self, getElem?_cons_zero, Option.some.injEq]
        exact ⟨fun h' => .inl ⟨rfl, h'.2⟩,
          fun h' => h'.elim (fun h' => ⟨Nat.le_refl _, h'.2⟩) (by omega)⟩
      · rw [show m - i = (m - (i + 1)) + 1 by omega, getElem?_cons_succ]
        exact ⟨fun h' => .inr ⟨h, h'.2⟩, fun h' => h'.elim (by omega) (fun h' => ⟨by omega, h'.2⟩)⟩
    rw [step]
    cases x with
    | req j =>
      rw [reqMembers, mem_cons, Prod.mk.injEq, Mem.req.injEq, eq_comm (a := j)]
    | notif => exact ⟨.inr, fun h => h.elim (fun h => nomatch h.2) fun h => h⟩
    | invalid j => exact ⟨.inr, fun h => h.elim (fun h => nomatch h.2) fun h => h⟩

/-- the member indices listed by `reqMembers` are strictly increasing, so each at most once -/
theorem reqIdx_nodup (ms : List Mem) : (reqIdx ms).Nodup := by
  have sorted : ∀ (ms : List Mem) (i : Nat), ((reqMembers i ms).map (·.1)).Pairwise (· < ·) := by
    intro ms
    induction ms with
    | nil => exact fun _ => Pairwise.nil
    | cons x ms ih =>
      intro i
      cases x with
      | req j =>
        refine pairwise_cons.2 ⟨fun a ha => ?_, ih (i + 1)⟩
        obtain ⟨⟨m, id⟩, hp, rfl⟩ := mem_map.1 ha
        exact ((mem_reqMembers _ _ _ _).1 hp).1
      | notif => exact ih (i + 1)
      | invalid j => exact ih (i + 1)
  exact (sorted ms 0).imp Nat.ne_of_lt

/-- the id request member `k` carries (`null` if member `k` is not a request) -/
def idOf (ms : List Mem) (k : Nat) : Id :=
  match ms[k]? with
  | some (.req id) => id
  | _ => .null

theorem idOf_spec {ms : List Mem} {k : Nat} (h : k ∈ reqIdx ms) :
    ms[k]? = some (.req (idOf ms k)) := by
  obtain ⟨⟨k, id⟩, hmem, rfl⟩ := mem_map.1 h
  have hm : ms[k]? = some (.req id) := ((mem_reqMembers 0 ms k id).1 hmem).2
  simp only [idOf, hm]

/-- the item of a request member is bound to the id that member carries in the composition -/
theorem boundId_of_mem_reqIdx {ms : List Mem} {k : Nat} (h : k ∈ reqIdx ms) :
    boundId (scan (R := R) 0 ms).1 k = some (idOf ms k) := by
  obtain ⟨id, hid, hmem⟩ := lookupId_of_mem_keys h
  have hm : ms[k]? = some (.req id) := ((mem_reqMembers 0 ms k id).1 hmem).2
  rw [idOf_spec h] at hm
  rw [boundId_scan, Mem.req.inj (Option.some.inj hm)]
  exact hid

/-- attach to each delivery the id its item's `send_result` is bound to (deliveries to members
    without a `send_result` never happen) -/
def resolve (its : List Item) : List (Call R) → List (BCall R)
  | [] => []
  | c :: cs =>
      match boundId its c.1 with
      | some id => (c.1, id, c.2.1, c.2.2) :: resolve its cs
      | none => resolve its cs

theorem resolve_unbound (its : List Item) (h : ∀ k, boundId its k = none) :
    ∀ (cs : List (Call R)), resolve its cs = []
  | [] => rfl
  | c :: cs => by simp only [resolve, h, resolve_unbound its h cs]

theorem length_resolve_le (its : List Item) :
    ∀ (cs : List (Call R)), (resolve its cs).length ≤ cs.length
  | [] => Nat.le_refl _
  | c :: cs => by
    have := length_resolve_le its cs
    unfold resolve
    split <;> simp only [length_cons] <;> omega

/-- where every delivery goes to an item bound to `f` of its member, resolving only adds the ids:
    order, results and limits are untouched -/
theorem resolve_eq_map (its : List Item) (f : Nat → Id) :
    ∀ (cs : List (Call R)), (∀ c ∈ cs, boundId its c.1 = some (f c.1)) →
      resolve its cs = cs.map fun c => (c.1, f c.1, c.2.1, c.2.2)
  | [], _ => rfl
  | c :: cs, h => by
    simp only [resolve, h c mem_cons_self, map_cons,
      resolve_eq_map its f cs fun x hx => h x (mem_cons_of_mem _ hx)]

/-- a delivery to a member without a `send_result` returns nothing and changes nothing -/
theorem filterMap_runCalls (inc : Nat) (encLen : Id → R → Nat) (its : List Item) :
    ∀ (cs : List (Call R)) (b : ReqBatch R),
      (runCalls inc encLen its b cs).filterMap id =
        (runBound inc encLen b (resolve its cs)).filterMap id
  | [], _ => rfl
  | c :: cs, b => by
    cases h : boundId its c.1 <;>
      simp only [runCalls, resolve, runBound, h, filterMap_cons, id_eq,
        filterMap_runCalls inc encLen its cs]

theorem runCalls_of_bound (inc : Nat) (encLen : Id → R → Nat) (its : List Item) (f : Nat → Id) :
    ∀ (cs : List (Call R)) (b : ReqBatch R), (∀ c ∈ cs, boundId its c.1 = some (f c.1)) →
      runCalls inc encLen its b cs =
        runBound inc encLen b (cs.map fun c => (c.1, f c.1, c.2.1, c.2.2))
  | [], _, _ => rfl
  | c :: cs, b, h => by
    simp only [runCalls, h c mem_cons_self, map_cons, runBound,
      runCalls_of_bound inc encLen its f cs _ fun x hx => h x (mem_cons_of_mem _ hx)]

theorem replies_of_items {ms : List Mem} {its : List Item} {b : ReqBatch R}
    (h : receiveBatch (R := R) ms = .items its b) (inc : Nat) (encLen : Id → R → Nat)
    (calls : List (Call R)) :
    replies inc encLen ms calls = (runBound inc encLen b (resolve its calls)).filterMap id := by
  rw [← filterMap_runCalls]
  simp only [replies, h]

/-- a delivery with the id its member carries in the composition -/
def bindId (ms : List Mem) (c : Call R) : BCall R := (c.1, idOf ms c.1, c.2.1, c.2.2)

/-- every delivery to a request member goes to an item with a `send_result`, bound to the id
    the member carries in the composition -/
theorem resolve_scan (ms : List Mem) (calls : List (Call R)) (hb : ∀ c ∈ calls, c.1 ∈ reqIdx ms) :
    resolve (scan (R := R) 0 ms).1 calls = calls.map (bindId ms) :=
  resolve_eq_map _ (idOf ms) calls fun c hc => boundId_of_mem_reqIdx (hb c hc)

/-- a complete delivery order goes to request members only, and has one delivery per request
    member -/
theorem complete_order {ms : List Mem} {calls : List (Call R)}
    (hperm : calls.map (·.1) ~ reqIdx ms) :
    (∀ c ∈ calls, c.1 ∈ reqIdx ms) ∧ calls.length = (reqMembers 0 ms).length :=
  ⟨fun _ hc => hperm.mem_iff.1 (mem_map_of_mem hc), by
    simpa only [length_map, reqIdx] using hperm.length_eq⟩

/-- as many deliveries to request members as there are request members (in any order - and
    nothing here needs each member to deliver exactly once: `send_result` counts calls): every
    call but the last returns nothing, the last returns the invalid-member errors followed by one
    entry per delivery -/
theorem runCalls_complete (inc : Nat) (encLen : Id → R → Nat) (ms : List Mem)
    (calls : List (Call R)) (hb : ∀ c ∈ calls, c.1 ∈ reqIdx ms)
    (hlen : calls.length = (reqMembers 0 ms).length) (hne : reqMembers 0 ms ≠ []) :
    runCalls inc encLen (scan (R := R) 0 ms).1
        ⟨errEntries 0 ms, (reqMembers 0 ms).length + (errEntries (R := R) 0 ms).length, 0⟩ calls =
      replicate (calls.length - 1) none ++
        [some (errEntries 0 ms ++ entriesFrom inc encLen 0 (calls.map (bindId ms)))] := by
  have hcne : calls.map (bindId (R := R) ms) ≠ [] := fun h =>
    hne (length_eq_zero_iff.1 (by rw [← hlen, ← length_map (bindId ms), h]; rfl))
  have := runBound_complete inc encLen (calls.map (bindId ms))
    ⟨errEntries 0 ms, (reqMembers 0 ms).length + (errEntries (R := R) 0 ms).length, 0⟩ hcne
    (by rw [length_map, hlen]; exact Nat.add_comm _ _)
  rw [length_map] at this
  exact (runCalls_of_bound inc encLen _ (idOf ms) calls _
    fun c hc => boundId_of_mem_reqIdx (hb c hc)).trans this

/-- every request member delivers once, in any order: one reply, the invalid-member errors
    followed by one entry per delivery -/
theorem replies_complete (inc : Nat) (encLen : Id → R → Nat) (ms : List Mem)
    (calls : List (Call R)) (hperm : calls.map (·.1) ~ reqIdx ms) (hne : reqMembers 0 ms ≠ []) :
    replies inc encLen ms calls =
      [errEntries 0 ms ++ entriesFrom inc encLen 0 (calls.map (bindId ms))] := by
  obtain ⟨hb, hlen⟩ := complete_order hperm
  simp only [replies, receiveBatch_items ms (.inl hne),
    runCalls_complete inc encLen ms calls hb hlen hne, filterMap_append,
    filterMap_replicate_of_none, filterMap_cons, filterMap_nil, id_eq, nil_append]

end Aiorpcx.C02
