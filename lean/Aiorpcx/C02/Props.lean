import Aiorpcx.C02.Lemmas
import Aiorpcx.Facts.C02
/-!
# C02 — every incoming request is answered exactly once under its own id

Model: `Aiorpcx.C02` (`Model.lean`) mirrors `_receive_request_batch` / `item_send_result` /
`_send_result` / the request branch of `receive_message` of `aiorpcx/jsonrpc.py` and the
send-once discipline of `RPCSession._throttled_request`.

`replies inc encLen ms calls` is the list of batch messages that leave the connection for a
received batch with composition `ms` when the request handlers deliver their results in the
order `calls`.  A delivery is `(member index, result, limit)`: `limit` is the value the public,
dynamically settable attribute `max_response_size` has **at the moment the result is supplied**
(the code reads it inside `item_send_result` / `_send_result`; nothing created at receipt holds
a limit - the variant that reads it once at receipt is refuted: `limit_at_receipt_refuted`).
A delivery carries no id: the id an entry is sent under is the
one the member's item was bound to when `_receive_request_batch` created it
(`partial(item_send_result, request_id)`), so "entry `k` carries member `k`'s own id" is a
theorem about the model (`boundId_scan`), not a hypothesis; `late_binding_refuted` shows the
theorems exclude a closure that captures the loop variable instead.

All theorems are quantified over every composition, every completion order, every result, every
id, every **schedule of limits** (one per delivery, changing freely between deliveries: lowered,
raised, 0 <-> positive), every `inc`, `encLen`.
-/
namespace Aiorpcx.C02
open List
open Aiorpcx.C01 (Id)

variable {R : Type}

/-- A batch with at least one request member, whose request members
    deliver their results in **any order** `calls` (each request member's index exactly once):
    every call of `send_result` but the last returns nothing, the last returns the one batch
    response `es`; `es` = the error entries of the invalid members in member order followed by
    `tail`, one entry per delivery in completion order; the number of entries is
    #requests + #invalid; and entry `k` of `tail` answers the `k`-th completed member: it is
    that member's result (or the "too large" error) **under the id that member carries in the
    composition** (`ms[m]? = some (.req id)`) - equal ids of different members included. -/
theorem batch_one_reply (inc : Nat) (encLen : Id → R → Nat) (ms : List Mem)
    (calls : List (Call R)) (hperm : calls.map (·.1) ~ reqIdx ms)
    (hne : reqMembers 0 ms ≠ []) :
    ∃ (b : ReqBatch R) (its : List Item) (es tail : List (Entry R)),
      receiveBatch ms = .items its b ∧
      runCalls inc encLen its b calls = replicate (calls.length - 1) none ++ [some es] ∧
      replies inc encLen ms calls = [es] ∧
      es = errEntries 0 ms ++ tail ∧
      tail = entriesFrom inc encLen 0 (resolve its calls) ∧
      es.length = (reqMembers 0 ms).length + (errEntries (R := R) 0 ms).length ∧
      tail.length = calls.length ∧
      ∀ (k : Nat) (hk : k < calls.length), ∃ id,
        ms[(calls[k]).1]? = some (.req id) ∧
        (tail[k]? = some (.res (calls[k]).1 id (calls[k]).2.1) ∨
         tail[k]? = some (.big (calls[k]).1 id)) := by
  obtain ⟨hb, hlen⟩ := complete_order hperm
  refine ⟨_, _, _, _, receiveBatch_items ms (.inl hne),
    runCalls_complete inc encLen ms calls hb hlen hne,
    replies_complete inc encLen ms calls hperm hne, rfl, by rw [resolve_scan ms calls hb],
    ?_, ?_, ?_⟩
  · rw [length_append, length_entriesFrom, length_map, hlen]
    exact Nat.add_comm _ _
  · rw [length_entriesFrom, length_map]
  · intro k hk
    have := entriesFrom_get inc encLen (calls.map (bindId ms)) 0 k (by rwa [length_map])
    rw [getElem_map] at this
    exact ⟨idOf ms (calls[k]).1, idOf_spec (hb _ (getElem_mem hk)), this⟩

/-- non-vacuity of `batch_one_reply`: `[invalid, req 7, notif, req 7, req "a"]` (duplicate ids),
    completed in the order 4, 1, 3: one reply `[err₀, res₄, res₁, res₃]`, ids in that order. -/
example :
    let ms : List Mem := [.invalid .null, .req (.int 7), .notif, .req (.int 7), .req (.str [97])]
    let calls : List (Call Nat) := [(4, 40, 0), (1, 10, 0), (3, 30, 0)]
    calls.map (·.1) ~ reqIdx ms ∧
    replies 2 (fun _ _ => 5) ms calls =
      [[.err 0 .null, .res 4 (.str [97]) 40, .res 1 (.int 7) 10, .res 3 (.int 7) 30]] := by
  decide +kernel

/-- While at least one request member has not delivered its result, no
    call of `send_result` returns a message, whatever has been delivered so far: the batch
    response is sent only when every member has its result. -/
theorem no_early_reply (inc : Nat) (encLen : Id → R → Nat) (ms : List Mem)
    (calls : List (Call R)) (hne : reqMembers 0 ms ≠ [])
    (hlt : calls.length < (reqMembers 0 ms).length) :
    replies inc encLen ms calls = [] := by
  rw [replies_of_items (receiveBatch_items ms (.inl hne)), runBound_incomplete]
  · exact filterMap_replicate_of_none rfl
  · have := length_resolve_le (scan (R := R) 0 ms).1 calls
    show (errEntries (R := R) 0 ms).length + _ < _ + _
    omega

/-- non-vacuity of `no_early_reply`: two of three request members have delivered -/
example :
    replies 2 (fun _ (_ : Nat) => 5)
      [.req (.int 1), .invalid .null, .req (.int 2), .req (.int 3)] [(3, 30, 0), (0, 10, 7)]
      = [] := by decide +kernel

/-- Entries are bound to members, not to id values: whatever ids the
    members carry (no injectivity assumed - equal ids included), the batch response contains
    **exactly one** entry answering each request member, and that entry carries the id of that
    very member. -/
theorem duplicate_ids_ok (inc : Nat) (encLen : Id → R → Nat) (ms : List Mem)
    (calls : List (Call R)) (hperm : calls.map (·.1) ~ reqIdx ms)
    (hne : reqMembers 0 ms ≠ []) :
    ∃ es tail : List (Entry R), replies inc encLen ms calls = [es] ∧
      es = errEntries 0 ms ++ tail ∧
      tail.map Entry.member ~ reqIdx ms ∧
      (∀ m ∈ reqIdx ms, (tail.map Entry.member).count m = 1) ∧
      ∀ e ∈ tail, ms[e.member]? = some (.req e.id) := by
  have hkeys := entriesFrom_keys inc encLen 0 (calls.map (bindId ms))
  have hmem : (entriesFrom inc encLen 0 (calls.map (bindId ms))).map Entry.member =
      calls.map (·.1) := by
    simpa only [map_map, Function.comp_def, bindId] using congrArg (map Prod.fst) hkeys
  refine ⟨_, _, replies_complete inc encLen ms calls hperm hne, rfl, hmem ▸ hperm, ?_, ?_⟩
  · intro m hm
    rw [hmem, hperm.count_eq, (reqIdx_nodup ms).count, if_pos hm]
  · intro e he
    have := mem_map_of_mem (f := fun e => (e.member, e.id)) he
    rw [hkeys, map_map] at this
    obtain ⟨c, hc, hkey⟩ := mem_map.1 this
    obtain ⟨h1, h2⟩ := Prod.mk.inj hkey
    rw [← h1, ← h2]
    exact idOf_spec ((complete_order hperm).1 c hc)

/-- non-vacuity of `duplicate_ids_ok`: three members all with id 7 -/
example :
    let ms : List Mem := [.req (.int 7), .req (.int 7), .req (.int 7)]
    let calls : List (Call Nat) := [(2, 20, 0), (0, 0, 0), (1, 10, 0)]
    calls.map (·.1) ~ reqIdx ms ∧
    replies 2 (fun _ _ => 5) ms calls =
      [[.res 2 (.int 7) 20, .res 0 (.int 7) 0, .res 1 (.int 7) 10]] := by decide +kernel

/-- A closure capturing the loop variable `request_id` (instead of
    `partial(item_send_result, request_id)`) is expressible in the model (`repliesLate`) and
    violates what `batch_one_reply` states: there is a composition and a complete delivery order
    whose reply has an entry that does **not** carry its member's id.  (With the real binding
    this is impossible: `batch_one_reply`, `duplicate_ids_ok`.) -/
theorem late_binding_refuted :
    ∃ (ms : List Mem) (calls : List (Call Nat)) (es : List (Entry Nat)),
      calls.map (·.1) ~ reqIdx ms ∧
      repliesLate 2 (fun _ _ => 5) ms calls = [es] ∧
      ∃ e ∈ es, ms[e.member]? ≠ some (.req e.id) :=
  ⟨[.req (.int 1), .req (.int 2)], [(0, 10, 0), (1, 20, 0)],
    [.res 0 (.int 2) 10, .res 1 (.int 2) 20], by decide +kernel, by decide +kernel,
    .res 0 (.int 2) 10, by decide, by decide⟩

/-- what was returned to batch `i` / the deliveries that went to batch `i` -/
def forBatch {α : Type} (i : Nat) (l : List (Nat × α)) : List α :=
  l.filterMap fun p => if p.1 = i then some p.2 else none

theorem forBatch_cons {α : Type} (i j : Nat) (x : α) (l : List (Nat × α)) :
    forBatch i ((j, x) :: l) = if j = i then x :: forBatch i l else forBatch i l := by
  by_cases h : j = i <;> simp [forBatch, h]

/-- With several request batches in flight on one connection and
    their deliveries interleaved in **any** way, what the `send_result` calls of batch `i` return
    is exactly what they would return if batch `i` were alone and received the same deliveries
    in the same relative order: no state is shared between batches. -/
theorem batches_independent (inc : Nat) (encLen : Id → R → Nat) (i : Nat) :
    ∀ (ds : List (Nat × Call R)) (bs : List (List Item × ReqBatch R)) (its : List Item)
      (b : ReqBatch R), bs[i]? = some (its, b) →
      forBatch i (runMulti inc encLen bs ds) = runCalls inc encLen its b (forBatch i ds)
  | [], _, _, _, _ => rfl
  | (j, c) :: ds, bs, its, b, hb => by
    -- the deliveries to batch `i` are `runCalls` steps on its state; any other leaves it alone
    rw [forBatch_cons]
    by_cases hd : j = i
    · subst hd
      rw [if_pos rfl]
      have hlt : j < bs.length := by
        rcases Nat.lt_or_ge j bs.length with h | h
        · exact h
        · rw [getElem?_eq_none h] at hb; cases hb
      cases hid : boundId its c.1 with
      | none =>
        simp only [runMulti, hb, hid, runCalls, forBatch_cons, if_pos,
          batches_independent inc encLen j ds bs its b hb]
      | some id =>
        simp only [runMulti, hb, hid, runCalls, forBatch_cons, if_pos,
          batches_independent inc encLen j ds _ its _ (getElem?_set_self hlt)]
    · rw [if_neg hd]
      cases hbd : bs[j]? with
      | none =>
        simp only [runMulti, hbd, forBatch_cons, if_neg hd,
          batches_independent inc encLen i ds bs its b hb]
      | some ib =>
        cases hid : boundId ib.1 c.1 with
        | none =>
          simp only [runMulti, hbd, hid, forBatch_cons, if_neg hd,
            batches_independent inc encLen i ds bs its b hb]
        | some id =>
          simp only [runMulti, hbd, hid, forBatch_cons, if_neg hd,
            batches_independent inc encLen i ds _ its b ((getElem?_set_ne hd).trans hb)]

/-- non-vacuity: two batches `[req 7, req 7]` and `[invalid, req 7]`, deliveries interleaved
    0.1, 1.1, 0.0: each gets its own reply, with its own entries -/
example :
    let b0 : List Item × ReqBatch Nat := ([.request 0 (.int 7), .request 1 (.int 7)], ⟨[], 2, 0⟩)
    let b1 : List Item × ReqBatch Nat := ([.request 1 (.int 7)], ⟨[.err 0 .null], 2, 0⟩)
    runMulti 2 (fun _ _ => 5) [b0, b1] [(0, 1, 10, 0), (1, 1, 20, 0), (0, 0, 30, 0)] =
      [(0, none), (1, some [.err 0 .null, .res 1 (.int 7) 20]),
       (0, some [.res 1 (.int 7) 10, .res 0 (.int 7) 30])] := by decide +kernel

/-- A batch holding only notifications produces no
    response, ever: nothing is raised, no item has a `send_result` (so whatever the session
    "delivers" is ignored), nothing is returned. -/
theorem batch_notifications_only_silent (inc : Nat) (encLen : Id → R → Nat) (ms : List Mem)
    (h : ∀ m ∈ ms, m = .notif) (calls : List (Call R)) :
    reqMembers 0 ms = [] ∧ (∀ k, boundId (scan (R := R) 0 ms).1 k = none) ∧
    replies inc encLen ms calls = [] := by
  obtain ⟨hreq, herr⟩ := all_notif_members R ms h 0
  have hb : ∀ k, boundId (scan (R := R) 0 ms).1 k = none := by
    intro k; rw [boundId_scan, hreq]; rfl
  refine ⟨hreq, hb, ?_⟩
  rw [replies_of_items (receiveBatch_items ms (.inr (.inr herr))), resolve_unbound _ hb]
  rfl

/-- non-vacuity: two notifications, and a (never happening) delivery to one of them -/
example : replies 2 (fun _ (_ : Nat) => 5) [.notif, .notif] [(0, 1, 0)] = [] := by decide

/-- A batch all of whose members are invalid is answered at
    once (the raised `ProtocolError` carries the batch) with one error entry per member, in
    member order, each under the id recovered from that member. -/
theorem batch_all_invalid_immediate (inc : Nat) (encLen : Id → R → Nat) (ms : List Mem)
    (hne : ms ≠ []) (h : ∀ m ∈ ms, ∃ id, m = .invalid id) (calls : List (Call R)) :
    receiveBatch (R := R) ms = .errorBatch (errEntries 0 ms) ∧
    replies inc encLen ms calls = [errEntries 0 ms] ∧
    (errEntries (R := R) 0 ms).length = ms.length := by
  obtain ⟨hreq, hn, hlen⟩ := all_invalid_members R ms h 0
  have herr : errEntries (R := R) 0 ms ≠ [] := fun he =>
    hne (length_eq_zero_iff.1 (by rw [← hlen, he]; rfl))
  have hr := receiveBatch_errorBatch ms hreq hn herr
  exact ⟨hr, by simp only [replies, hr], hlen⟩

/-- non-vacuity of `batch_all_invalid_immediate` -/
example : replies 2 (fun _ (_ : Nat) => 5) [.invalid .null, .invalid (.int 3)] []
    = [[.err 0 .null, .err 1 (.int 3)]] := by decide +kernel

/-- the full statement of "exactly one batch response": whenever the batch calls for entries
    (a request or an invalid member), exactly one batch message is sent and it contains them -/
def batch_reply_full (R : Type) : Prop :=
  ∀ (inc : Nat) (encLen : Id → R → Nat) (ms : List Mem) (calls : List (Call R)),
    calls.map (·.1) ~ reqIdx ms →
    (reqMembers 0 ms ≠ [] ∨ errEntries (R := R) 0 ms ≠ []) →
    ∃ es, replies inc encLen ms calls = [es] ∧
      es.length = (reqMembers 0 ms).length + (errEntries (R := R) 0 ms).length

/-- F8: the request batch `[notification, invalid]` is never answered —
    the error entry for the invalid member is lost.  The full statement fails. -/
theorem batch_reply_full_fails : ¬ batch_reply_full Nat := by
  intro h
  obtain ⟨es, h1, _⟩ := h 2 (fun _ _ => 0) [.notif, .invalid .null] [] (by decide) (by decide)
  have h0 : replies 2 (fun _ (_ : Nat) => 0) [.notif, .invalid .null] [] = [] := by decide +kernel
  rw [h0] at h1
  cases h1

/-- the exact family on which it fails: no request, at least one notification and at least one
    invalid member.  Then nothing is ever sent. -/
theorem batch_notif_invalid_silent (inc : Nat) (encLen : Id → R → Nat) (ms : List Mem)
    (_hreq : reqMembers 0 ms = []) (hn : 0 < notifCount ms) :
    replies inc encLen ms ([] : List (Call R)) = [] := by
  rw [replies_of_items (receiveBatch_items ms (.inr (.inl hn)))]
  rfl

/-- non-vacuity: `[notif, invalid, notif]` is silent although an error entry is called for;
    `[invalid, invalid]` and `[req, invalid]` (outside the family) get their one reply. -/
example :
    replies 2 (fun _ (_ : Nat) => 5) [.notif, .invalid (.int 3), .notif] [] = [] ∧
    replies 2 (fun _ (_ : Nat) => 5) [.invalid .null, .invalid (.int 3)] []
      = [[.err 0 .null, .err 1 (.int 3)]] ∧
    replies 2 (fun _ (_ : Nat) => 5) [.req (.int 1), .invalid (.int 3)] [(0, 10, 0)]
      = [[.err 1 (.int 3), .res 0 (.int 1) 10]] := by decide +kernel

/-- Outside that family the full statement holds. -/
theorem batch_reply_partial (inc : Nat) (encLen : Id → R → Nat) (ms : List Mem)
    (calls : List (Call R)) (hperm : calls.map (·.1) ~ reqIdx ms)
    (hsome : reqMembers 0 ms ≠ [] ∨ errEntries (R := R) 0 ms ≠ [])
    (hside : ¬ (reqMembers 0 ms = [] ∧ 0 < notifCount ms)) :
    ∃ es, replies inc encLen ms calls = [es] ∧
      es.length = (reqMembers 0 ms).length + (errEntries (R := R) 0 ms).length := by
  by_cases hreq : reqMembers 0 ms = []
  · have hn : notifCount ms = 0 := Nat.eq_zero_of_not_pos fun h => hside ⟨hreq, h⟩
    have herr := hsome.resolve_left (not_not_intro hreq)
    refine ⟨errEntries 0 ms, ?_, by rw [hreq]; exact (Nat.zero_add _).symm⟩
    simp only [replies, receiveBatch_errorBatch ms hreq hn herr]
  · obtain ⟨_, _, es, _, _, _, h3, _, _, h5, _⟩ := batch_one_reply inc encLen ms calls hperm hreq
    exact ⟨es, h3, h5⟩

/-- `lim` = the value of `max_response_size` when `send_result` of a single
    request is called (not when the request was received).  The reply always carries the
    request's id; it is the real result exactly when `lim` is 0 (unlimited) or the encoded
    response is not larger than `lim` — otherwise it is the "too large" error response under the
    same id. -/
theorem oversize_single (lim : Nat) (encLen : Id → R → Nat) (id : Id) (r : R) :
    (sendResultSingle lim encLen id r).id = id ∧
    ((lim = 0 ∨ encLen id r ≤ lim) → sendResultSingle lim encLen id r = .res 0 id r) ∧
    ((0 < lim ∧ lim < encLen id r) → sendResultSingle lim encLen id r = .big 0 id) := by
  unfold sendResultSingle
  split <;> rename_i h <;> simp at h
  · exact ⟨rfl, fun _ => by omega, fun _ => rfl⟩
  · exact ⟨rfl, fun _ => rfl, fun _ => by omega⟩

/-- A single well-formed request is answered by exactly one
    message, under the id the request carries (the id `receive_message` bound into its
    `send_result`), whatever the handler delivers and whatever `max_response_size` was when the
    request was received: with `lim` the limit in force **when the result is supplied**, the
    reply is the result if `lim` is 0 or the encoded response is not larger than `lim`,
    otherwise the "too large" error - same id. -/
theorem single_request_one_reply (encLen : Id → R → Nat) (id : Id) (r : R) (lim : Nat) :
    ∃ e, repliesSingle encLen (.req id) r lim = [e] ∧ e.id = id ∧
      ((lim = 0 ∨ encLen id r ≤ lim) → e = .res 0 id r) ∧
      ((0 < lim ∧ lim < encLen id r) → e = .big 0 id) :=
  ⟨sendResultSingle lim encLen id r, rfl, oversize_single lim encLen id r⟩

/-- Nothing is ever emitted for a single notification: the
    item has no `send_result`, whatever its handler returns is dropped. -/
theorem single_notification_silent (encLen : Id → R → Nat) (r : R) (lim : Nat) :
    repliesSingle encLen .notif r lim = [] ∧
    receiveSingle .notif = .item (.notification 0) ∧ boundId [.notification 0] 0 = none :=
  ⟨rfl, rfl, rfl⟩

/-- an invalid single message is answered at once by one error response under the recovered
    id (not a clause of the property text: model/implementation comparison only) -/
theorem single_invalid_error_reply (encLen : Id → R → Nat) (id : Id) (r : R) (lim : Nat) :
    repliesSingle encLen (.invalid id) r lim = [.err 0 id] := rfl

/-- non-vacuity: a 10-byte response is kept at limit 10 and replaced at limit 9 -/
example :
    repliesSingle (fun _ (_ : Nat) => 10) (.req (.int 4)) 0 10 = [.res 0 (.int 4) 0] ∧
    repliesSingle (fun _ (_ : Nat) => 10) (.req (.int 4)) 0 9 = [.big 0 (.int 4)] ∧
    repliesSingle (fun _ (_ : Nat) => 10) .notif 0 9 = [] := by decide +kernel

/-- In a batch response (`tail` of `batch_one_reply`), entry `j` of the
    results part is the real result exactly when the *running size after delivery `j`* (the
    lengths of the results delivered so far, each plus `inc` - whether they were kept or replaced)
    is within **the limit in force at delivery `j`** (or that limit is 0); otherwise it is the
    "too large" error.  The limits of the other deliveries play no role for entry `j`: this is
    `size > self.max_response_size > 0` evaluated in call `j` with the cumulative size.  Either
    way the entry carries member `j`'s id (`batch_one_reply`).  Note what the running size does
    **not** contain: the error entries of invalid members, and the size of the replacement
    entries themselves. -/
theorem oversize_batch (inc : Nat) (encLen : Id → R → Nat) (calls : List (BCall R)) (j : Nat)
    (hj : j < calls.length) :
    ((entriesFrom inc encLen 0 calls)[j]'(by rw [length_entriesFrom]; exact hj)).isReal =
      ((calls[j]).lim == 0 ||
        decide (sizeAfter inc encLen 0 (calls.take (j + 1)) ≤ (calls[j]).lim)) := by
  rw [getElem_entriesFrom, entryAt_isReal]

/-- What the text's clause says for one entry: an entry whose own
    encoded response is larger than the (positive) limit in force **when its result is
    supplied** is never the real result - whatever the limit was when the batch was received or
    at any other delivery. -/
theorem oversize_entry_replaced (inc : Nat) (encLen : Id → R → Nat) (calls : List (BCall R))
    (j : Nat) (hj : j < calls.length) (hlim : 0 < (calls[j]).lim)
    (hbig : (calls[j]).lim < encLen (calls[j]).2.1 (calls[j]).2.2.1) :
    ((entriesFrom inc encLen 0 calls)[j]'(by rw [length_entriesFrom]; exact hj)).isReal
      = false := by
  rw [oversize_batch inc encLen calls j hj]
  have := le_sizeAfter_take inc encLen calls 0 j hj
  simp
  omega

/-- non-vacuity of `oversize_batch` / `oversize_single`: results of 10 bytes each, increment 2.
    Constant limit 25: the first two entries fit (12, 24), the third (36) is replaced and keeps
    its id.  Changing limit: unlimited at the first delivery, 20 at the second (running size 24:
    replaced), raised to 40 at the third (running size 36: kept - the running size keeps the
    length of what was replaced, the limit is the one of the moment).  A single 10-byte response
    is kept at limit 10 and replaced at limit 9. -/
example :
    entriesFrom 2 (fun _ (_ : Nat) => 10) 0
        [(2, .int 7, 1, 25), (0, .str [97], 2, 25), (1, .int 7, 3, 25)]
      = [.res 2 (.int 7) 1, .res 0 (.str [97]) 2, .big 1 (.int 7)] ∧
    entriesFrom 2 (fun _ (_ : Nat) => 10) 0
        [(2, .int 7, 1, 0), (0, .str [97], 2, 20), (1, .int 7, 3, 40)]
      = [.res 2 (.int 7) 1, .big 0 (.str [97]), .res 1 (.int 7) 3] ∧
    sendResultSingle 10 (fun _ (_ : Nat) => 10) (.int 4) 0 = .res 0 (.int 4) 0 ∧
    sendResultSingle 9 (fun _ (_ : Nat) => 10) (.int 4) 0 = .big 0 (.int 4) := by decide +kernel

/-- The text's clause on the batch response of a received composition: whatever the composition,
    the completion order and the schedule of limits - in particular whatever `max_response_size`
    was when the batch was received -, if the response to the `k`-th completed member is larger
    than the positive limit in force when that result is supplied, the entry answering it is the
    "too large" error **under that member's id**. -/
theorem batch_oversize_entry_replaced (inc : Nat) (encLen : Id → R → Nat) (ms : List Mem)
    (calls : List (Call R)) (hperm : calls.map (·.1) ~ reqIdx ms) (hne : reqMembers 0 ms ≠ []) :
    ∃ es tail : List (Entry R), replies inc encLen ms calls = [es] ∧
      es = errEntries 0 ms ++ tail ∧
      ∀ (k : Nat) (hk : k < calls.length) (id : Id), ms[(calls[k]).1]? = some (.req id) →
        0 < (calls[k]).2.2 → (calls[k]).2.2 < encLen id (calls[k]).2.1 →
        tail[k]? = some (.big (calls[k]).1 id) := by
  refine ⟨_, _, replies_complete inc encLen ms calls hperm hne, rfl, ?_⟩
  intro k hk id hms hpos hbig
  have hk' : k < (calls.map (bindId ms)).length := by rwa [length_map]
  obtain rfl : idOf ms (calls[k]).1 = id := by simp only [idOf, hms]
  have hrepl := oversize_entry_replaced inc encLen (calls.map (bindId ms)) k hk'
    (by rw [getElem_map]; exact hpos) (by rw [getElem_map]; exact hbig)
  rw [getElem_entriesFrom _ _ _ _ _ hk'] at hrepl
  rw [getElem?_eq_getElem (by rwa [length_entriesFrom]), getElem_entriesFrom _ _ _ _ _ hk',
    entryAt_of_not_real hrepl, getElem_map]
  rfl

/-- The variant that reads `max_response_size` once, when the
    batch is received (`repliesSnapshot`: a closure over `limit = self.max_response_size` taken in
    `_receive_request_batch`), violates what `batch_oversize_entry_replaced` states.  Witness:
    the batch `[request 1, request 2]` is received while the
    limit is 0; the limit is lowered to 1000; member 1 supplies a 40-byte response, member 0 a
    5041-byte one: the snapshot variant sends the 5041-byte entry unreplaced under a 1000-byte
    maximum. -/
theorem limit_at_receipt_refuted :
    ∃ (lim0 : Nat) (ms : List Mem) (calls : List (Call Nat)) (es : List (Entry Nat)),
      calls.map (·.1) ~ reqIdx ms ∧
      repliesSnapshot lim0 2 (fun _ r => r) ms calls = [es] ∧
      ∃ c ∈ calls, 0 < c.2.2 ∧ c.2.2 < c.2.1 ∧ ∃ id, Entry.res c.1 id c.2.1 ∈ es :=
  ⟨0, [.req (.int 1), .req (.int 2)], [(1, 40, 1000), (0, 5041, 1000)],
    [.res 1 (.int 2) 40, .res 0 (.int 1) 5041], by decide +kernel, by decide +kernel,
    (0, 5041, 1000), by decide, by decide, by decide, .int 1, by decide⟩

/-- non-vacuity / both directions, batches and singles.  The same history through the model of
    the code: the 5041-byte entry is replaced under its own id.  Limit **raised** between
    receipt (10) and supply (0 = unlimited, or 100): the code keeps the 41-byte results, the
    snapshot variant replaces them.  Singles: received at limit 0, supplied at limit 1000 - the
    code replaces a 5041-byte response, the snapshot variant sends it; received at limit 10,
    supplied at limit 0 - the code sends a 41-byte response, the snapshot variant replaces it. -/
example :
    replies 2 (fun _ (r : Nat) => r) [.req (.int 1), .req (.int 2)] [(1, 40, 1000), (0, 5041, 1000)]
      = [[.res 1 (.int 2) 40, .big 0 (.int 1)]] ∧
    replies 2 (fun _ (r : Nat) => r) [.req (.int 1), .req (.int 2)] [(0, 41, 0), (1, 41, 100)]
      = [[.res 0 (.int 1) 41, .res 1 (.int 2) 41]] ∧
    repliesSnapshot 10 2 (fun _ (r : Nat) => r) [.req (.int 1), .req (.int 2)]
        [(0, 41, 0), (1, 41, 100)]
      = [[.big 0 (.int 1), .big 1 (.int 2)]] ∧
    repliesSingle (fun _ (r : Nat) => r) (.req (.int 1)) 5041 1000 = [.big 0 (.int 1)] ∧
    repliesSingleSnapshot 0 (fun _ (r : Nat) => r) (.req (.int 1)) 5041 1000
      = [.res 0 (.int 1) 5041] ∧
    repliesSingle (fun _ (r : Nat) => r) (.req (.int 1)) 41 0 = [.res 0 (.int 1) 41] ∧
    repliesSingleSnapshot 10 (fun _ (r : Nat) => r) (.req (.int 1)) 41 0
      = [.big 0 (.int 1)] := by decide +kernel

/-- The same for single requests: reading the limit when
    the request is received (`repliesSingleSnapshot`) violates `oversize_single` - received
    while unlimited, limit 1000 when the 5041-byte result is supplied: sent unreplaced. -/
theorem single_limit_at_receipt_refuted :
    ∃ (lim0 lim r : Nat) (id : Id), 0 < lim ∧ lim < r ∧
      repliesSingleSnapshot lim0 (fun _ (r : Nat) => r) (.req id) r lim = [.res 0 id r] :=
  ⟨0, 1000, 5041, .int 1, by decide, by decide, by decide⟩

/-- the running size accounts for at least the bytes of the batch message made of the results
    delivered so far, provided `inc` covers the separator and the brackets - whatever limits
    were in force (the running size does not depend on them).  (About the results only: error
    entries of invalid members and replacement entries are in neither side.) -/
theorem accounted_size_bounds_batch (sep br inc : Nat) (hs : sep ≤ inc) (hb : br ≤ inc)
    (encLen : Id → R → Nat) (calls : List (BCall R)) (hne : calls ≠ []) :
    batchLen sep br (calls.map fun c => encLen c.2.1 c.2.2.1) ≤ sizeAfter inc encLen 0 calls := by
  have := batchLen_le_accounted sep br inc hs hb (calls.map fun c => encLen c.2.1 c.2.2.1)
    (by simpa using hne)
  rw [map_map] at this
  rw [sizeAfter, Nat.zero_add]
  exact this

/-- Limits changing freely: if the result of delivery `j` is **kept** while a positive limit `L`
    is in force at that moment, then **all** the results supplied up to and including delivery
    `j` (kept or replaced), joined as a batch of their own, are not larger than `L` - the running
    size the code compares contains them all, whatever the limits were at the earlier
    deliveries. -/
theorem supplied_results_within_limit (sep br inc : Nat) (hs : sep ≤ inc) (hb : br ≤ inc)
    (encLen : Id → R → Nat) (calls : List (BCall R)) (j : Nat)
    (hj : j < calls.length) (hlim : 0 < (calls[j]).lim)
    (hreal : ((entriesFrom inc encLen 0 calls)[j]'(by rw [length_entriesFrom]; exact hj)).isReal
      = true) :
    batchLen sep br ((calls.take (j + 1)).map fun c => encLen c.2.1 c.2.2.1) ≤ (calls[j]).lim := by
  rw [oversize_batch inc encLen calls j hj, Bool.or_eq_true, beq_iff_eq, decide_eq_true_eq]
    at hreal
  have := accounted_size_bounds_batch sep br inc hs hb encLen (calls.take (j + 1))
    (fun h => by have := congrArg length h; rw [length_take, length_nil] at this; omega)
  omega

/-- Limits changing freely: if the result of delivery `j` is
    **kept** while a positive limit `L` is in force at that moment, then the real results the
    batch response contains **up to and including that entry**, joined as a batch of their own,
    are not larger than `L` - whatever the limits were at the earlier deliveries (0, smaller,
    larger) and at receipt, whatever was replaced, whatever invalid members there are.  Nothing
    is claimed from the limits of *other* moments: a result kept under an earlier, larger limit
    stays in the response when the limit is lowered afterwards (then the entries supplied after
    the lowering are replaced - `oversize_batch`).  This - not the size of the whole batch
    response - is what `max_response_size` bounds for a batch. -/
theorem kept_results_within_limit (sep br inc : Nat) (hs : sep ≤ inc) (hb : br ≤ inc)
    (encLen : Id → R → Nat) (errLen bigLen : Nat) (calls : List (BCall R)) (j : Nat)
    (hj : j < calls.length) (hlim : 0 < (calls[j]).lim)
    (hreal : ((entriesFrom inc encLen 0 calls)[j]'(by rw [length_entriesFrom]; exact hj)).isReal
      = true) :
    wireLen sep br encLen errLen bigLen
      (((entriesFrom inc encLen 0 calls).take (j + 1)).filter Entry.isReal) ≤ (calls[j]).lim := by
  -- the kept results are among the supplied ones, and a part of a batch is no longer than it
  have hsub := kept_lens_sublist inc encLen errLen bigLen (calls.take (j + 1)) 0
  rw [← entriesFrom_take] at hsub
  exact Nat.le_trans (batchLen_mono sep br hsub)
    (supplied_results_within_limit sep br inc hs hb encLen calls j hj hlim hreal)

/-- For a limit that does not change while the batch is in flight: unconditionally (any
    deliveries; invalid members and replaced entries do not matter) **all** the real results
    kept in the batch response, joined as a batch of their own, are not larger than the limit. -/
theorem kept_results_within_constant_limit (sep br inc : Nat) (hs : sep ≤ inc) (hb : br ≤ inc)
    (max : Nat) (hmax : 0 < max) (encLen : Id → R → Nat) (errLen bigLen : Nat)
    (calls : List (BCall R)) (hconst : ∀ c ∈ calls, c.lim = max)
    (hne : (entriesFrom inc encLen 0 calls).filter Entry.isReal ≠ []) :
    wireLen sep br encLen errLen bigLen ((entriesFrom inc encLen 0 calls).filter Entry.isReal)
      ≤ max := by
  -- the last kept delivery: nothing after it is kept, and its limit is `max`
  obtain ⟨j, hj, hreal, htake⟩ := filter_eq_filter_take Entry.isReal _ hne
  have hj' : j < calls.length := by rwa [length_entriesFrom] at hj
  have := kept_results_within_limit sep br inc hs hb encLen errLen bigLen calls j hj'
    (by rw [hconst _ (getElem_mem hj')]; exact hmax) hreal
  rwa [htake, hconst _ (getElem_mem hj')] at this

/-- The same for the batch response of any composition
    in any completion order under any schedule of limits: if the entry answering the `k`-th
    completed member is its real result and a positive limit `L` was in force when it was
    supplied, the real results among the first `k + 1` entries of the results part, as a batch
    of their own, are not larger than `L`. -/
theorem batch_kept_results_within_limit (sep br inc : Nat) (hs : sep ≤ inc) (hb : br ≤ inc)
    (encLen : Id → R → Nat) (errLen bigLen : Nat) (ms : List Mem)
    (calls : List (Call R)) (hperm : calls.map (·.1) ~ reqIdx ms) (hne : reqMembers 0 ms ≠ []) :
    ∃ es tail : List (Entry R), replies inc encLen ms calls = [es] ∧
      es = errEntries 0 ms ++ tail ∧ tail.length = calls.length ∧
      ∀ (k : Nat) (hk : k < calls.length), 0 < (calls[k]).2.2 →
        (∃ e, tail[k]? = some e ∧ e.isReal = true) →
        wireLen sep br encLen errLen bigLen ((tail.take (k + 1)).filter Entry.isReal)
          ≤ (calls[k]).2.2 := by
  refine ⟨_, _, replies_complete inc encLen ms calls hperm hne, rfl,
    by rw [length_entriesFrom, length_map], ?_⟩
  intro k hk hpos ⟨e, he, hreal⟩
  have hk' : k < (calls.map (bindId ms)).length := by rwa [length_map]
  rw [getElem?_eq_getElem (by rwa [length_entriesFrom]), Option.some.injEq] at he
  have := kept_results_within_limit sep br inc hs hb encLen errLen bigLen (calls.map (bindId ms))
    k hk' (by rw [getElem_map]; exact hpos) (he ▸ hreal)
  rw [getElem_map] at this
  exact this

/-- If the limit does not change while the batch
    is in flight (every delivery sees the same positive `max`): whatever invalid members the
    composition has and whatever was replaced, **all** the real results the batch response
    contains, as a batch of their own, are not larger than `max`. -/
theorem batch_kept_results_within_constant_limit (sep br inc : Nat) (hs : sep ≤ inc)
    (hb : br ≤ inc) (max : Nat) (hmax : 0 < max) (encLen : Id → R → Nat) (errLen bigLen : Nat)
    (ms : List Mem) (calls : List (Call R)) (hperm : calls.map (·.1) ~ reqIdx ms)
    (hne : reqMembers 0 ms ≠ []) (hconst : ∀ c ∈ calls, c.2.2 = max)
    (es : List (Entry R)) (hrep : replies inc encLen ms calls = [es])
    (hkept : es.filter Entry.isReal ≠ []) :
    wireLen sep br encLen errLen bigLen (es.filter Entry.isReal) ≤ max := by
  rw [replies_complete inc encLen ms calls hperm hne] at hrep
  obtain rfl := (cons.inj hrep).1
  rw [filter_append, errEntries_not_real, nil_append] at hkept ⊢
  refine kept_results_within_constant_limit sep br inc hs hb max hmax encLen errLen bigLen _
    (fun c hc => ?_) hkept
  obtain ⟨c', hc', rfl⟩ := mem_map.1 hc
  exact hconst c' hc'

/-- non-vacuity.  Constant limit 78, `[invalid ×3, request 76 bytes]`: the one kept result as a
    batch of its own is 78 bytes (the whole response is 381).  Changing limit: two 30-byte
    results; the first is supplied while the limit is 100 and kept, then the limit is lowered
    to 40: the second (running size 64 > 40) is replaced; the kept result, as a batch of its own,
    is 32 ≤ 100 bytes - and also ≤ 40, but that is not claimed: with the second limit 20 the first
    result (32 bytes as a batch) stays in the response all the same. -/
example :
    wireLen 2 2 (fun _ (_ : Nat) => 76) 99 94
      (([.err 0 .null, .err 1 .null, .err 2 .null, .res 3 (.int 1) 0] : List (Entry Nat)).filter
        Entry.isReal) = 78 ∧
    replies 2 (fun _ (_ : Nat) => 30) [.req (.int 1), .req (.int 2)] [(0, 0, 100), (1, 0, 40)]
      = [[.res 0 (.int 1) 0, .big 1 (.int 2)]] ∧
    replies 2 (fun _ (_ : Nat) => 30) [.req (.int 1), .req (.int 2)] [(0, 0, 100), (1, 0, 20)]
      = [[.res 0 (.int 1) 0, .big 1 (.int 2)]] ∧
    wireLen 2 2 (fun _ (_ : Nat) => 30) 99 94 [.res 0 (.int 1) 0] = 32 := by decide +kernel

/-- The whole-batch bound, with its exact side-condition: a batch
    response **without error entries for invalid members** in which **no entry was replaced**
    is not larger than the (positive) `max_response_size` in force **when the last result was
    supplied** - whatever the limits were before (for a limit that never changes: not larger
    than that limit). -/
theorem batch_within_limit (sep br inc : Nat) (hs : sep ≤ inc) (hb : br ≤ inc)
    (encLen : Id → R → Nat) (errLen bigLen : Nat) (ms : List Mem)
    (calls : List (Call R)) (hperm : calls.map (·.1) ~ reqIdx ms) (hne : reqMembers 0 ms ≠ [])
    (hnoinv : errEntries (R := R) 0 ms = [])
    (es : List (Entry R)) (hrep : replies inc encLen ms calls = [es])
    (hreal : ∀ e ∈ es, e.isReal = true)
    (c : Call R) (hlast : calls.getLast? = some c) (hpos : 0 < c.2.2) :
    wireLen sep br encLen errLen bigLen es ≤ c.2.2 := by
  obtain ⟨es', tail, hrep', hes, htl, hk⟩ :=
    batch_kept_results_within_limit sep br inc hs hb encLen errLen bigLen ms calls hperm hne
  obtain rfl : es = es' := by rw [hrep] at hrep'; exact (cons.inj hrep').1
  rw [hnoinv, nil_append] at hes
  subst hes
  have hcpos : 0 < calls.length := by
    cases calls with
    | nil => cases hlast
    | cons _ _ => exact Nat.succ_pos _
  rw [getLast?_eq_getElem?, getElem?_eq_getElem (by omega), Option.some.injEq] at hlast
  have hkl : calls.length - 1 < es.length := by omega
  have := hk (calls.length - 1) (by omega) (by rw [hlast]; exact hpos)
    ⟨es[calls.length - 1], getElem?_eq_getElem hkl, hreal _ (getElem_mem hkl)⟩
  rw [hlast, take_of_length_le (by omega), filter_eq_self.2 hreal] at this
  exact this

/-- the unrestricted statement one might read into "a response larger than the maximum is
    replaced": every batch response sent while a positive limit is in force is within it -/
def batch_within_limit_full (R : Type) : Prop :=
  ∀ (sep br inc : Nat), sep ≤ inc → br ≤ inc →
    ∀ (encLen : Id → R → Nat) (errLen bigLen : Nat) (ms : List Mem) (calls : List (Call R)),
      calls.map (·.1) ~ reqIdx ms → reqMembers 0 ms ≠ [] →
      ∀ es, replies inc encLen ms calls = [es] →
        ∀ c, calls.getLast? = some c → 0 < c.2.2 →
          wireLen sep br encLen errLen bigLen es ≤ c.2.2

/-- It does not hold, already for a limit that never
    changes.  Witness (measured on the real code, JSON-RPC 2.0): limit 78, batch
    `[5, 6, 7, request]` whose result encodes to 76 bytes: the running size is 78, the result is
    **kept**, the response is 381 bytes (three 99-byte error entries for the invalid members are
    not accounted). -/
theorem batch_within_limit_full_fails : ¬ batch_within_limit_full Nat := by
  intro h
  have := h 2 2 2 (by decide) (by decide) (fun _ _ => 76) 99 94
    [.invalid .null, .invalid .null, .invalid .null, .req (.int 1)] [(3, 0, 78)]
    (by decide) (by decide)
    [.err 0 .null, .err 1 .null, .err 2 .null, .res 3 (.int 1) 0] (by decide +kernel)
    (3, 0, 78) (by decide) (by decide)
  revert this
  decide +kernel

/-- both halves of the side-condition of `batch_within_limit` are needed: with invalid members
    the response is 381 > 78 bytes although nothing was replaced; without invalid members, limit
    10 and three requests, every entry is replaced and the response is 288 > 10 bytes. -/
example :
    replies 2 (fun _ (_ : Nat) => 76)
        [.invalid .null, .invalid .null, .invalid .null, .req (.int 1)] [(3, 0, 78)]
      = [[.err 0 .null, .err 1 .null, .err 2 .null, .res 3 (.int 1) 0]] ∧
    wireLen 2 2 (fun _ (_ : Nat) => 76) 99 94
      [.err 0 .null, .err 1 .null, .err 2 .null, .res 3 (.int 1) 0] = 381 ∧
    replies 2 (fun _ (_ : Nat) => 41) [.req (.int 1), .req (.int 2), .req (.int 3)]
        [(0, 0, 10), (1, 0, 10), (2, 0, 10)]
      = [[.big 0 (.int 1), .big 1 (.int 2), .big 2 (.int 3)]] ∧
    wireLen 2 2 (fun _ (_ : Nat) => 41) 99 94
      [.big 0 (.int 1), .big 1 (.int 2), .big 2 (.int 3)] = 288 := by decide +kernel

/-- non-vacuity of `batch_within_limit`: two 10-byte results, the first supplied while the
    limit is 12, the second after it was raised to 24: both kept, the response is exactly 24
    bytes - within the limit of the last delivery (not within the earlier 12: not claimed). -/
example :
    replies 2 (fun _ (_ : Nat) => 10) [.req (.int 1), .req (.int 2)] [(1, 0, 12), (0, 0, 24)]
      = [[.res 1 (.int 2) 0, .res 0 (.int 1) 0]] ∧
    wireLen 2 2 (fun _ (_ : Nat) => 10) 99 94 [.res 1 (.int 2) 0, .res 0 (.int 1) 0] = 24 := by
  decide +kernel

/-- the `send_result` calls among the actions -/
def sendCalls : List (Act R) → List (Res R)
  | [] => []
  | .sendResult r :: as => r :: sendCalls as
  | .wrote _ :: as => sendCalls as

/-- the messages written among the actions -/
def writes : List (Act R) → List (Res R)
  | [] => []
  | .wrote r :: as => r :: writes as
  | .sendResult _ :: as => writes as

theorem sendCalls_append (a b : List (Act R)) : sendCalls (a ++ b) = sendCalls a ++ sendCalls b := by
  induction a with
  | nil => rfl
  | cons x a ih => cases x <;> simp only [cons_append, sendCalls, ih]

theorem writes_append (a b : List (Act R)) : writes (a ++ b) = writes a ++ writes b := by
  induction a with
  | nil => rfl
  | cons x a ih => cases x <;> simp only [cons_append, writes, ih]

/-- what decides the result: the first `ret` / `timeout` event -/
def firstOutcome : List (Ev R) → Option (Res R)
  | [] => none
  | .ret r :: _ => some (.value r)
  | .timeout :: _ => some .busy
  | .written :: es => firstOutcome es

theorem trun_done (isReq msg : Bool) (res : Option (Res R)) :
    ∀ (es : List (Ev R)), trun isReq msg (.done res) es = (.done res, [])
  | [] => rfl
  | e :: es => by rw [trun, tstep, trun_done isReq msg res es]; rfl

/-- once `send_result` has returned a message only the transport's `written` moves the task: it
    writes that message, once, and is done -/
theorem trun_writing (isReq msg : Bool) (res : Res R) : ∀ (es : List (Ev R)),
    (.written ∉ es ∧ trun isReq msg (.writing res) es = (.writing res, [])) ∨
    (.written ∈ es ∧ trun isReq msg (.writing res) es = (.done (some res), [.wrote res]))
  | [] => .inl ⟨not_mem_nil, rfl⟩
  | e :: es => by
    cases e with
    | written => exact .inr ⟨mem_cons_self, by rw [trun, tstep, trun_done]; rfl⟩
    | _ =>
      -- in state `writing` a `ret` or `timeout` changes nothing: the run goes on as on `es`
      rcases trun_writing isReq msg res es with ⟨h, h'⟩ | ⟨h, h'⟩
      · exact .inl ⟨fun hm => h ((mem_cons.1 hm).resolve_left nofun), h'⟩
      · exact .inr ⟨mem_cons_of_mem _ h, h'⟩

/-- the first `ret` / `timeout` event decides: for a Request `send_result` is called with its
    outcome `res`, and the task goes on to write what that returned, if anything -/
theorem trun_outcome (isReq msg : Bool) (e : Ev R) (res : Res R)
    (he : firstOutcome [e] = some res) (es : List (Ev R)) :
    trun isReq msg .handling (e :: es) =
      if isReq then
        if msg then ((trun isReq msg (.writing res) es).1,
          .sendResult res :: (trun isReq msg (.writing res) es).2)
        else (.done (some res), [.sendResult res])
      else (.done none, []) := by
  have hstep : tstep isReq msg .handling e =
      if !isReq then (.done none, []) else if msg then (.writing res, [.sendResult res])
      else (.done (some res), [.sendResult res]) := by
    cases e <;> cases he <;> rfl
  rw [trun, hstep]
  cases isReq <;> cases msg <;>
    simp only [trun_done, Bool.not_false, Bool.not_true, Bool.false_eq_true, if_true, if_false,
      nil_append, singleton_append]

theorem sends_once_after_outcome (isReq msg : Bool) (e : Ev R) (res : Res R)
    (he : firstOutcome [e] = some res) (es : List (Ev R)) :
    let acts := (trun isReq msg .handling (e :: es)).2
    sendCalls acts = (if isReq then [res] else []) ∧
    (writes acts = [] ∨ writes acts = sendCalls acts) ∧
    (msg = false → writes acts = []) := by
  rw [trun_outcome isReq msg e res he]
  cases isReq
  · exact ⟨rfl, .inl rfl, fun _ => rfl⟩
  cases msg
  · exact ⟨rfl, .inl rfl, fun _ => rfl⟩
  rcases trun_writing true true res es with ⟨_, h⟩ | ⟨_, h⟩ <;> rw [h]
  · exact ⟨rfl, .inl rfl, fun h => Bool.noConfusion h⟩
  · exact ⟨rfl, .inr rfl, fun h => Bool.noConfusion h⟩

/-- For **every** sequence of events (handler returning, the processing
    timeout firing, the transport accepting the write - in any order, any number of times, the
    timeout instant passing while the write is parked included) the task of a Request calls
    `send_result` **at most once**; if the handler returns or the timeout fires at all, exactly
    once - with the handler's result if it returned first, with SERVER_BUSY if the timeout fired
    first; the task of a Notification never calls it; and a message is written at most once,
    carrying exactly what `send_result` was called with. -/
theorem task_sends_once (isReq msg : Bool) (es : List (Ev R)) :
    let acts := (trun isReq msg .handling es).2
    sendCalls acts = (if isReq then (firstOutcome es).toList else []) ∧
    (writes acts = [] ∨ writes acts = sendCalls acts) ∧
    (msg = false → writes acts = []) := by
  induction es with
  | nil => exact ⟨by cases isReq <;> rfl, .inl rfl, fun _ => rfl⟩
  | cons e es ih =>
    cases e with
    | written => exact ih
    | ret r => exact sends_once_after_outcome isReq msg (.ret r) (.value r) rfl es
    | timeout => exact sends_once_after_outcome isReq msg .timeout .busy rfl es

/-- If the handler returns `r` before any timeout and the
    transport eventually accepts the write, exactly one message is written and it carries `r` -
    whatever else happens in between (the timeout instant passing while the write is parked on a
    full send buffer included). -/
theorem task_reply_carries_result (pre post : List (Ev R)) (r : R)
    (hpre : ∀ e ∈ pre, e = .written) (hw : .written ∈ post) :
    let out := trun true true .handling (pre ++ .ret r :: post)
    sendCalls out.2 = [.value r] ∧ writes out.2 = [.value r] ∧ out.1 = .done (some (.value r)) := by
  induction pre with
  | nil =>
    rcases trun_writing true true (.value r) post with ⟨hn, _⟩ | ⟨_, h⟩
    · exact absurd hw hn
    · simp only [nil_append, trun_outcome true true (.ret r) (.value r) rfl, h]
      exact ⟨rfl, rfl, rfl⟩
  | cons e pre ih =>
    obtain rfl := hpre e mem_cons_self
    exact ih fun x hx => hpre x (mem_cons_of_mem _ hx)

/-- non-vacuity, and the variant `trunInScope`: handler returns, the write is parked, the timeout
    instant passes, the transport accepts the write.  The code (`trun`): one `send_result`, the
    result is written.  With the response sent inside the timeout scope (`trunInScope`):
    `send_result` is called **twice** and SERVER_BUSY is written instead of the result. -/
example :
    (trun true true .handling [.ret 5, .timeout, .written] : TState Nat × _).2
      = [.sendResult (.value 5), .wrote (.value 5)] ∧
    (trunInScope true true .handling [.ret 5, .timeout, .written] : TState Nat × _).2
      = [.sendResult (.value 5), .sendResult .busy, .wrote .busy] := by decide +kernel

/-- the send-once statement fails for `trunInScope` -/
theorem send_once_in_scope_refuted :
    ¬ ∀ (es : List (Ev Nat)), (sendCalls (trunInScope true true .handling es).2).length ≤ 1 := by
  intro h
  exact absurd (h [.ret 5, .timeout, .written]) (by decide)

/-- what the task of a request member hands to `send_result`, given the events it sees -/
def taskRes (es : List (Ev R)) : Res R := (firstOutcome es).getD .busy

/-- The serving session on a batch: every request member has its
    own task seeing its own sequence of events `evs m` (any sequences in which the handler
    returns or the timeout fires at least once), and the tasks reach their `send_result` in any
    order `order`.  Then every task calls `send_result` exactly once, and exactly one batch
    response leaves, when the last task delivers; entry `k` of its results part answers member
    `order[k]` under that member's own id and carries the handler's result if the handler
    returned before the timeout fired, the SERVER_BUSY error if the timeout fired first (or the
    "too large" replacement).  `lims m` is the value of `max_response_size` when member `m`'s
    task calls `send_result` - any schedule. -/
theorem session_batch_one_reply (inc : Nat) (encLen : Id → Res R → Nat) (ms : List Mem)
    (order : List Nat) (hperm : order ~ reqIdx ms) (hne : reqMembers 0 ms ≠ [])
    (evs : Nat → List (Ev R)) (hdone : ∀ m ∈ order, firstOutcome (evs m) ≠ none)
    (lims : Nat → Nat) :
    (∀ m ∈ order, ∀ msg, sendCalls (trun true msg .handling (evs m)).2 = [taskRes (evs m)]) ∧
    ∃ es tail : List (Entry (Res R)),
      replies inc encLen ms (order.map fun m => (m, taskRes (evs m), lims m)) = [es] ∧
      es = errEntries 0 ms ++ tail ∧
      ∀ (k : Nat) (hk : k < order.length), ∃ id,
        ms[order[k]]? = some (.req id) ∧
        (tail[k]? = some (.res (order[k]) id (taskRes (evs (order[k])))) ∨
         tail[k]? = some (.big (order[k]) id)) := by
  constructor
  · intro m hm msg
    rw [(task_sends_once true msg (evs m)).1, if_pos rfl, taskRes]
    cases hf : firstOutcome (evs m) with
    | none => exact absurd hf (hdone m hm)
    | some x => rfl
  · obtain ⟨_, _, es, tail, _, _, hrep, hes, _, _, _, hk⟩ :=
      batch_one_reply inc encLen ms (order.map fun m => (m, taskRes (evs m), lims m))
        (by rw [map_map]; exact (map_id' order ▸ hperm : order.map _ ~ _)) hne
    refine ⟨es, tail, hrep, hes, fun k hk' => ?_⟩
    have := hk k (by rwa [length_map])
    rwa [getElem_map] at this

/-- non-vacuity of `session_batch_one_reply`: members 0 and 2 are requests; member 2's handler
    returns 5 while member 0 times out (and the write of the batch is parked while member 2's
    timeout instant passes): one batch, SERVER_BUSY under id 1, the result 5 under id 3. -/
example :
    let ms : List Mem := [.req (.int 1), .notif, .req (.int 3)]
    let evs : Nat → List (Ev Nat) := fun m => if m = 0 then [.timeout] else [.ret 5, .timeout, .written]
    replies 2 (fun _ _ => 9) ms ([2, 0].map fun m => (m, taskRes (evs m), 0))
      = [[.res 2 (.int 3) (.value 5), .res 0 (.int 1) .busy]] := by decide +kernel

/-! ## ties to the source (facts regenerated from /repo on every run) -/

open Aiorpcx.Facts.C02 in
/-- the per-entry increment is a constant and covers the `", "` separator and the brackets:
    the hypotheses `sep ≤ inc`, `br ≤ inc` of `kept_results_within_limit`,
    `batch_within_limit` and `accounted_size_bounds_batch` hold for the probed code.  (It says
    nothing about the error entries of invalid members or about replacement entries: those are
    not accounted at all, see `batch_within_limit_full_fails`.) -/
theorem facts_size_accounting :
    ∃ inc, sizeIncrement = some inc ∧ joinSepLen ≤ inc ∧ bracketLen ≤ inc := by
  exact ⟨_, rfl, by decide, by decide⟩

open Aiorpcx.Facts.C02 in
/-- what the running size of the code under test does **not** contain is what the model's does
    not contain: the error entry of an invalid member is not accounted (`[invalid, request]`
    with a limit of exactly response + increment keeps the result, as `replies` does), and the
    length of a replaced response stays in the running size (a response that would fit on its
    own is replaced after an overflowing one, as in `replies`). -/
theorem facts_batch_accounting :
    invalidMembersAccounted = some (!decide (
      replies 2 (fun _ (_ : Nat) => 10) [.invalid .null, .req (.int 1)] [(1, 0, 12)]
        = [[.err 0 .null, .res 1 (.int 1) 0]])) ∧
    overflowSticky = some (decide (
      replies 2 (fun _ (r : Nat) => r) [.req (.int 1), .req (.int 2)] [(0, 100, 17), (1, 10, 17)]
        = [[.big 0 (.int 1), .big 1 (.int 2)]])) := by
  decide +kernel

/-- the model on one row of the two-member probe: which of the two entries are real -/
def batchProbe (inc l1 l2 b c : Nat) : List Bool :=
  (entriesFrom inc (fun _ (r : Nat) => r) 0 [(0, .int 1, l1, b), (1, .int 2, l2, c)]).map
    Entry.isReal

open Aiorpcx.Facts.C02 in
/-- The code under test was RUN with `max_response_size` changed
    between receipt and supply and between the supplies (every combination of 0 / a limit the
    response does not fit under / a limit it fits under, at receipt and at each supply: lowered,
    raised, 0 <-> positive): for a single request (9 histories) and for a two-request batch (64
    histories) what is kept and what is replaced is what the model says with the limit **of the
    moment the result is supplied** - the limit at receipt (first component of a row) is not even
    an input of the model. -/
theorem facts_limit_at_supply :
    singleLimitTable.length = 9 ∧ batchLimitTable.length = 64 ∧
    (∀ row ∈ singleLimitTable,
      (sendResultSingle row.2.1 (fun _ (r : Nat) => r) (.int 7) row.2.2.1).isReal = row.2.2.2) ∧
    (∀ row ∈ batchLimitTable,
      batchProbe (sizeIncrement.getD 0) row.2.2.2.1 row.2.2.2.2.1 row.2.1 row.2.2.1
        = [row.2.2.2.2.2.1, row.2.2.2.2.2.2]) := by
  decide +kernel

/-- non-vacuity of the probe grid: among the rows the model expects both outcomes for the
    same limit at receipt (so a snapshot taken at receipt cannot agree with all of them) -/
example : batchProbe 2 40 60 0 50 = [true, false] ∧ batchProbe 2 40 60 0 0 = [true, true] ∧
    batchProbe 2 40 60 41 0 = [false, true] := by decide +kernel

/-- A list message with at least one member that does not
    look like a response is handled as a request batch (so that its requests are answered and
    its invalid members get their error entries), wherever that member stands. -/
theorem mixed_batch_is_request_batch (respLike : List Bool) (h : false ∈ respLike) :
    isRequestBatch respLike = true := by
  rw [isRequestBatch, Bool.not_eq_true', all_eq_false]
  exact ⟨false, h, Bool.noConfusion⟩

/-- non-vacuity: `[response-looking, request]` and `[request, response-looking]` are request
    batches; `[response-looking, response-looking]` is not -/
example : isRequestBatch [true, false] = true ∧ isRequestBatch [false, true] = true ∧
    isRequestBatch [true, true] = false := by decide +kernel

open Aiorpcx.Facts.C02 in
/-- the dispatch of the code under test on all two-member lists over {request,
    response-looking} is the model's `isRequestBatch` (probed through `receive_message`) -/
theorem facts_dispatch :
    dispatchTable.length = 4 ∧
    ∀ row ∈ dispatchTable, isRequestBatch [row.1, row.2.1] = row.2.2 := by
  decide +kernel

open Aiorpcx.Facts.C02 in
/-- `_send_result` at the boundary behaves as `sendResultSingle` (`oversize_single`):
    exactly at the limit kept, one byte over replaced under the same id, limit 0 unlimited -/
theorem facts_single_boundary :
    singleAtLimitKept = (sendResultSingle 66 (fun _ (_ : Nat) => 66) (.int 7) 0).isReal ∧
    singleOverLimitReplaced = !(sendResultSingle 65 (fun _ (_ : Nat) => 66) (.int 7) 0).isReal ∧
    singleZeroUnlimited = (sendResultSingle 0 (fun _ (_ : Nat) => 66) (.int 7) 0).isReal ∧
    batchReplacedKeepsIds = true := by
  decide +kernel

end Aiorpcx.C02
