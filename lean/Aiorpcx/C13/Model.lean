/-! C13 — model of `Concurrency` (aiorpcx/session.py:58-96) on top of `asyncio.Semaphore`
(CPython 3.12 `asyncio/locks.py`).  No Mathlib imports: the driver links this.

The model is a *quiescent big-step* transition system (DESIGN §2.4): one `Op` is something the
environment decides (a task calls `async with limiter`, a holder leaves the block, a waiting task
is cancelled, somebody calls `set_target`); `step` then runs the limiter's own code — including the
wake-up chain of the semaphore — until no task can move, and returns the events observed.

Python state ↔ model state
* `_target` = `T`, `_sem_value` = `V`, `_semaphore._value` = `S`;
* `holders` = tasks inside the `async with` block (oldest first);
* `waiters` = tasks blocked in `Semaphore.acquire()` whose future is not done, FIFO (`_waiters`);
* `fixed = true` (the default, what every theorem is about): the class **as repaired by
  fixes/F23-limiter-last-permit.diff** — `__aenter__` hands the permit back when
  `_retarget_semaphore` refuses entry, `__aexit__` never retires the last permit
  (`if self._sem_value > max(self._target, 1)`) and `__init__` starts with at least one.  `fixed = false`: the pinned class (a refused
  entrant keeps its permit; capacity is retired down to the target, also to 0 — after which nobody
  can ever enter again, see `*_fails_pinned` in Props.lean);
* `leaked` is a ghost counter (no Python counterpart): permits kept by refused entrants — only
  the pinned variant ever increments it. -/
namespace Aiorpcx.C13

structure Lim where
  T : Int
  V : Int
  S : Int
  leaked : Nat
  holders : List Nat
  waiters : List Nat
  fixed : Bool := true
  deriving Repr, DecidableEq

inductive Ev where
  | entered (i : Nat)      -- body of the `async with` started
  | refused (i : Nat)      -- `ExcessiveSessionCostError` out of `__aenter__`
  | cancelled (i : Nat)    -- `CancelledError` out of `__aenter__` (waiter cancelled)
  | bad                    -- the operation does not apply (exit of a non-holder, …)
  deriving Repr, DecidableEq

inductive Op where
  | enter (i : Nat)
  | exit (i : Nat)
  | cancelWaiter (i : Nat)
  | setTarget (n : Int)
  deriving Repr, DecidableEq

/-- state while a step is running: `woken` = waiters whose future got its result (their permit is
already taken out of `S` by `_wake_up_next`) and that have not run yet; the loop runs them in the
order in which they were woken (`call_soon` is FIFO). -/
structure Work where
  st : Lim
  woken : List Nat
  evs : List Ev
  deriving Repr, DecidableEq

/-- `Semaphore._wake_up_next`: the first waiter that is not done gets the permit. -/
def wakeNext (w : Work) : Work :=
  match w.st.waiters with
  | [] => w
  | x :: rest =>
      { w with st := { w.st with S := w.st.S - 1, waiters := rest }, woken := w.woken ++ [x] }

/-- `Semaphore.release`: `_value += 1; _wake_up_next()` -/
def release (w : Work) : Work :=
  wakeNext { w with st := { w.st with S := w.st.S + 1 } }

/-- the `while self._sem_value < self._target` loop of `_retarget_semaphore`, `n` iterations -/
def grow : Nat → Work → Work
  | 0, w => w
  | n + 1, w => grow n (release { w with st := { w.st with V := w.st.V + 1 } })

/-- what task `i` does once `acquire()` has returned: `_retarget_semaphore`, then the body -/
def admitTask (i : Nat) (w : Work) : Work :=
  if w.st.T ≤ 0 then
    -- `_retarget_semaphore` raises `ExcessiveSessionCostError`
    if w.st.fixed then
      -- F23: `except ExcessiveSessionCostError: self._semaphore.release(); raise`
      release { w with evs := w.evs ++ [Ev.refused i] }
    else
      { w with st := { w.st with leaked := w.st.leaked + 1 }, evs := w.evs ++ [Ev.refused i] }
  else
    let w' := grow (w.st.T - w.st.V).toNat w
    { w' with st := { w'.st with holders := w'.st.holders ++ [i] },
              evs := w'.evs ++ [Ev.entered i] }

/-- a woken waiter resumes inside `acquire()`: `if self._value > 0: self._wake_up_next()`, returns,
and `__aenter__` goes on with `_retarget_semaphore` -/
def resume (i : Nat) (w : Work) : Work :=
  admitTask i (if w.st.S > 0 then wakeNext w else w)

/-- run the woken tasks until none is left; `fuel` ≥ `woken.length + waiters.length` suffices
(`drain_spec`) because every iteration retires one of them -/
def drain : Nat → Work → Work
  | 0, w => w
  | n + 1, w =>
      match w.woken with
      | [] => w
      | i :: rest => drain n (resume i { w with woken := rest })

def finish (w : Work) : Lim × List Ev :=
  let w' := drain (w.woken.length + w.st.waiters.length) w
  (w'.st, w'.evs)

/-- `Concurrency.__aexit__` retires a unit of capacity instead of releasing when `_sem_value` is
above this: the target — but (F23) never below 1, so the last permit stays in circulation -/
def retireBound (s : Lim) : Int := if s.fixed then max s.T 1 else s.T

def step (s : Lim) : Op → Lim × List Ev
  | .enter i =>
      -- `Semaphore.locked()`: `_value == 0 or any(not w.cancelled() for w in _waiters)`
      if s.S = 0 ∨ s.waiters ≠ [] then
        ({ s with waiters := s.waiters ++ [i] }, [])
      else
        finish (admitTask i ⟨{ s with S := s.S - 1 }, [], []⟩)
  | .exit i =>
      if i ∈ s.holders then
        let s1 := { s with holders := s.holders.erase i }
        -- `Concurrency.__aexit__`
        if s1.V > retireBound s1 then ({ s1 with V := s1.V - 1 }, [])
        else finish (release ⟨s1, [], []⟩)
      else (s, [Ev.bad])
  | .cancelWaiter i =>
      if i ∈ s.waiters then ({ s with waiters := s.waiters.erase i }, [Ev.cancelled i])
      else (s, [Ev.bad])
  | .setTarget n => ({ s with T := n }, [])

/-- **Composite step** (two things in one loop iteration, no quiescence in between): holder `i`
leaves the block and — after its `__aexit__` has run but before any task it woke has run again —
the task of waiter `j` is cancelled (e.g. the holder's completion and the `processing_timeout` of
a queued request fall into the same iteration).  asyncio.Semaphore (3.12): a waiter whose future
already has its result when the cancellation reaches it hands the permit on
(`except CancelledError: if not fut.cancelled(): self._value += 1; self._wake_up_next()`); a
waiter still queued just leaves. -/
def stepExitCancel (s : Lim) (i j : Nat) : Lim × List Ev :=
  if i ∈ s.holders then
    let s1 := { s with holders := s.holders.erase i }
    if s1.V > retireBound s1 then
      let s2 := { s1 with V := s1.V - 1 }
      if j ∈ s2.waiters then ({ s2 with waiters := s2.waiters.erase j }, [Ev.cancelled j])
      else (s2, [Ev.bad])
    else
      let w := release ⟨s1, [], []⟩
      if j ∈ w.woken then
        -- j had been handed the permit: it passes it on, then the next woken task runs
        finish (release { w with woken := w.woken.erase j, evs := w.evs ++ [Ev.cancelled j] })
      else if j ∈ w.st.waiters then
        -- j was still queued: it just leaves; its task notices right after the task woken by the
        -- exit has run (that one was made runnable first), before the rest of the wake-up chain
        let w0 : Work := { w with st := { w.st with waiters := w.st.waiters.erase j } }
        match w0.woken with
        | [] => finish { w0 with evs := w0.evs ++ [Ev.cancelled j] }
        | x :: rest =>
            let w1 := resume x { w0 with woken := rest }
            finish { w1 with evs := w1.evs ++ [Ev.cancelled j] }
      else
        let r := finish w
        (r.1, Ev.bad :: r.2)
  else (s, [Ev.bad])

/-- operation streams that may contain composite steps -/
inductive Op2 where
  | plain (op : Op)
  | exitCancel (i j : Nat)
  deriving Repr, DecidableEq

def step2 (s : Lim) : Op2 → Lim × List Ev
  | .plain op => step s op
  | .exitCancel i j => stepExitCancel s i j

def run2 (s : Lim) : List Op2 → Lim × List Ev
  | [] => (s, [])
  | op :: ops =>
      let r := step2 s op
      let r2 := run2 r.1 ops
      (r2.1, r.2 ++ r2.2)

/-- `Concurrency(n)`, any `n` (repaired class: `_sem_value = max(target, 1)` — at least one permit
is in circulation from the start, so that an initial limit ≤ 0 refuses instead of parking) -/
def init (n : Int) : Lim := ⟨n, max n 1, max n 1, 0, [], [], true⟩
/-- the pinned class (before F23): `Semaphore(n)`, `_sem_value = n` -/
def initPinned (n : Nat) : Lim := ⟨n, n, n, 0, [], [], false⟩

def run (s : Lim) : List Op → Lim × List Ev
  | [] => (s, [])
  | op :: ops =>
      let r := step s op
      let r2 := run r.1 ops
      (r2.1, r.2 ++ r2.2)

/-- all the states passed through (for "at every moment" statements) -/
def states (s : Lim) : List Op → List Lim
  | [] => [s]
  | op :: ops => s :: states (step s op).1 ops

/-- ghost: largest limit that has been in force (initial value and every `set_target`) -/
def maxTarget (m : Int) : List Op → Int
  | [] => m
  | .setTarget n :: ops => maxTarget (max m n) ops
  | _ :: ops => maxTarget m ops

def targetsGE1 : List Op → Prop
  | [] => True
  | .setTarget n :: ops => 1 ≤ n ∧ targetsGE1 ops
  | _ :: ops => targetsGE1 ops

/-- `SessionBase.unanswered_request_count`: `max(0, len(self._group._pending) - 1)` where the
group holds the message-loop task (while it is alive) and one task per received request or
notification whose `_throttled_request` has not finished. -/
structure Sess where
  loopAlive : Bool
  active : Nat            -- spawned `_throttled_request` tasks not yet done
  deriving Repr, DecidableEq

def Sess.pending (s : Sess) : Nat := s.active + (if s.loopAlive then 1 else 0)
def Sess.unanswered (s : Sess) : Nat := s.pending - 1     -- Nat subtraction = max(0, ·)

end Aiorpcx.C13
