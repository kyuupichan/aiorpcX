import Aiorpcx.C13.Composite
/-!
# C13 — property theorems for the concurrency limiter

Model: `Aiorpcx.C13.step` (Model.lean) = what `Concurrency.__aenter__/__aexit__/set_target` and the
`asyncio.Semaphore` wake-up chain do between two quiescent points.  `run (init n) ops` is a
`Concurrency(n)` driven by the operation list `ops`.  Everything below is quantified over **all**
operation lists (every interleaving of entries, exits, cancelled waiters and limit changes) — no
bound.  The semaphore's FIFO wake-up and cancel-safety are assumed laws of asyncio (trusted base),
exercised by the correspondence.

The model mirrors the class **as repaired by fixes/F23-limiter-last-permit.diff** (`fixed = true`):
a refused entrant hands its permit back and `__aexit__` never retires the last permit.  All
theorems therefore hold for **all** targets, also ≤ 0.  The pinned class (`initPinned`,
`fixed = false`) loses the permit of a refused entrant and retires capacity down to 0, after which
nobody can ever enter: see the `*_fails_pinned` witnesses.
-/
namespace Aiorpcx.C13

/-- **Permits are neither lost nor duplicated** — for **every** sequence of entries, exits,
cancelled waiters and `set_target(n)` with *any* `n` (also zero and negative) on a
`Concurrency(n)` with *any* initial limit, and however many entrants were refused: the free permits
plus the holders are exactly the represented capacity (no permit is lost by a refusal), and at
least one permit always stays in circulation (`V ≥ 1`).  (The statement is about every op list, hence about every
prefix = every moment.) -/
theorem permit_conservation (n : Int) (ops : List Op) :
    let s := (run (init n) ops).1
    s.S + s.holders.length = s.V ∧ 0 ≤ s.S ∧ 1 ≤ s.V ∧ s.leaked = 0 := by
  have i := run_inv ops _ (init_inv n)
  exact ⟨i.cons, i.S_nonneg, i.V_pos, i.no_leak⟩

/-- the full statement as a predicate of the start state (used for the pinned witness) -/
def permit_conservation_full (start : Lim) : Prop :=
  ∀ ops : List Op, let s := (run start ops).1
    s.S + s.holders.length = s.V ∧ 1 ≤ s.V

theorem permit_conservation_repaired (n : Int) : permit_conservation_full (init n) :=
  fun ops => ⟨(permit_conservation n ops).1, (permit_conservation n ops).2.2.1⟩

/-- **F23 (pinned class)**: a refused entrant keeps the permit it acquired (`1 t0 e0`: S = 0,
no holder, V = 1), and the last permit is retired at target 0 (`1 e0 t0 x0`: V = 0). -/
theorem permit_conservation_fails_pinned : ¬ permit_conservation_full (initPinned 1) := by
  intro h
  have := (h [.setTarget 0, .enter 0]).1
  revert this
  decide

theorem last_permit_retired_pinned :
    (run (initPinned 1) [.enter 0, .setTarget 0, .exit 0]).1.V = 0 := by decide

/-- **The number of holders never exceeds the largest limit that has been in force** (the
initial one and every `set_target` so far; an initial limit ≤ 0 admits nobody, the bound then
starts at 1) — for all op lists, all targets. -/
theorem never_exceeds_max_target (n : Int) (ops : List Op) :
    ((run (init n) ops).1.holders.length : Int) ≤ maxTarget (max n 1) ops := by
  have := never_exceeds_max_target_composite n (ops.map .plain)
  rwa [run2_plain, maxTarget2_plain] at this

/-- effective exits (a holder really left) in an op list run from `s` -/
def exitsDone (s : Lim) : List Op → Nat
  | [] => 0
  | op :: ops => effExit s op + exitsDone (step s op).1 ops

def noSetTarget : List Op → Prop
  | [] => True
  | op :: ops => op.isSetTarget = false ∧ noSetTarget ops

/-- `e` holders leave, then `k` more: the last permit, or the target, stops the retiring -/
theorem retire_twice (b V : Int) (e k : Nat) :
    max b (max b (V - e) - k) = max b (V - ((e + k : Nat) : Int)) := by
  by_cases h : b ≤ V - e
  · rw [Int.max_eq_right h, Int.natCast_add, Int.sub_sub]
  · have h' := Int.le_of_lt (Int.not_le.1 h)
    rw [Int.max_eq_left h', Int.max_eq_left (by omega), Int.max_eq_left (by omega)]

theorem reduction_run (ops : List Op) : ∀ (s : Lim), Inv s → s.T ≤ s.V → noSetTarget ops →
    (run s ops).1.V = max (bound s) (s.V - exitsDone s ops) ∧ (run s ops).1.T = s.T := by
  induction ops with
  | nil => intro s h htv _; exact ⟨cap_same h.V_pos htv, rfl⟩
  | cons op ops ih =>
    intro s h htv hno
    have f := step_facts s op h hno.1
    have hV := f.V_eff htv
    have hb : bound (step s op).1 = bound s := bound_congr f.T
    obtain ⟨r1, r2⟩ := ih _ f.inv
      (by rw [f.T, hV]; exact Int.le_trans (Int.le_max_left _ _) (Int.le_max_left _ _)) hno.2
    refine ⟨?_, r2.trans f.T⟩
    show (run (step s op).1 ops).1.V = max (bound s) (s.V - ((effExit s op + exitsDone (step s op).1 ops : Nat) : Int))
    rw [r1, hb, hV, retire_twice]

/-- **A lowered limit retires one excess permit per exit and then holds.**  From any reachable
state with capacity `V₀`, after `set_target(n)` with `n ≤ V₀` (any `n`, also ≤ 0) and any further
operations other than `set_target` among which `k` holders left, the capacity is exactly
`max (max n 1) (V₀ − k)` — the last permit is never retired; hence once `V₀ − n` handlers have
completed the number of holders is at most `max n 1` (until the next raise), i.e. at most `n` for
every limit of at least 1. -/
theorem reduction_takes_effect (s : Lim) (h : Inv s) (n : Int) (hn : n ≤ s.V) (ops : List Op)
    (hno : noSetTarget ops) :
    let s' := (run (step s (.setTarget n)).1 ops).1
    let k := exitsDone (step s (.setTarget n)).1 ops
    s'.V = max (max n 1) (s.V - k) ∧ (s'.holders.length : Int) ≤ max (max n 1) (s.V - k) ∧
    (s.V - n ≤ k → (s'.holders.length : Int) ≤ max n 1) := by
  have hi : Inv (step s (.setTarget n)).1 := step_inv s _ h
  have r : _ = max (max n 1) (s.V - _) := (reduction_run ops _ hi hn hno).1
  have i' := run_inv ops _ hi
  have hle : ((run (step s (.setTarget n)).1 ops).1.holders.length : Int) ≤
      max (max n 1) (s.V - exitsDone (step s (.setTarget n)).1 ops) := by
    rw [← r]; have := i'.cons; have := i'.S_nonneg; omega
  refine ⟨r, hle, fun hk => ?_⟩
  rwa [Int.max_eq_left (Int.le_trans (by omega) (Int.le_max_left n 1))] at hle

/-- **A raised limit admits the extra holders from the next entry on**: in any reachable state
with a positive limit, a step in which somebody enters the block brings the capacity up to the
limit (`V' = max V T`), and afterwards either nobody waits or every permit is in use. -/
theorem raise_admits_on_next_entry (s : Lim) (h : Inv s) (hT : 0 < s.T) (op : Op)
    (hop : op.isSetTarget = false) (j : Nat) (hj : Ev.entered j ∈ (step s op).2) :
    (step s op).1.V = max s.V s.T ∧
    ((step s op).1.waiters = [] ∨
      ((step s op).1.holders.length : Int) = (step s op).1.V) := by
  have f := step_facts s op h hop
  refine ⟨f.raise j hj, ?_⟩
  by_cases hw : (step s op).1.waiters = []
  · exact Or.inl hw
  · exact Or.inr (f.inv.no_starvation.1 hw).1

/-- **Waiting tasks are admitted in arrival order.**  In every reachable state, whatever the
operation: the tasks admitted by the step (entered or refused) followed by the tasks still
waiting are exactly the old waiting list with the newcomer appended at the back — admission
always takes from the front of the arrival-ordered queue; a cancelled waiter just disappears. -/
theorem fifo_admission (s : Lim) (h : Inv s) (op : Op) :
    let r := step s op
    match op with
    | .enter i => ids r.2 ++ r.1.waiters = s.waiters ++ [i]
    | .exit _ => ids r.2 ++ r.1.waiters = s.waiters
    | .cancelWaiter i => ids r.2 = [] ∧ r.1.waiters = s.waiters.erase i
    | .setTarget _ => ids r.2 = [] ∧ r.1.waiters = s.waiters := by
  cases op with
  | setTarget n => exact ⟨rfl, rfl⟩
  | cancelWaiter i =>
    by_cases hi : i ∈ s.waiters
    · rw [step_cancel s i hi]; exact ⟨rfl, rfl⟩
    · rw [step_cancel_bad s i hi]; exact ⟨rfl, (List.erase_of_not_mem hi).symm⟩
  | enter i => exact (step_facts s (.enter i) h rfl).queue
  | exit i => exact (step_facts s (.exit i) h rfl).queue

/-- **Nobody waits while no handler runs** — for all targets, also ≤ 0: at every quiescent point,
if there are waiters then all `V ≥ 1` permits are held (so some holder exists whose exit will
move the queue). -/
theorem no_starvation (n : Int) (ops : List Op) :
    let s := (run (init n) ops).1
    (s.waiters ≠ [] → (s.holders.length : Int) = s.V ∧ s.holders ≠ []) ∧
    (s.holders = [] → s.waiters = []) :=
  (run_inv ops _ (init_inv n)).no_starvation

/-- the full statement as a predicate of the start state -/
def no_starvation_full (start : Lim) : Prop :=
  ∀ ops : List Op, (run start ops).1.holders = [] → (run start ops).1.waiters = []

theorem no_starvation_repaired (n : Int) : no_starvation_full (init n) :=
  fun ops => (no_starvation n ops).2

/-- **F23 (pinned class)**: two holders, two queued, the limit goes to 0, the holders leave:
the queued tasks wait for ever although nobody holds a permit (they are neither admitted nor
refused) — and stay there after the limit is raised again. -/
theorem no_starvation_fails_pinned : ¬ no_starvation_full (initPinned 2) := by
  intro h
  have := h [.enter 0, .enter 1, .enter 2, .enter 3, .setTarget 0, .exit 0, .exit 1,
             .setTarget 2, .enter 4] (by decide)
  revert this
  decide

/-- **Every exit makes progress for the queue** (ranking function), for all targets.  In a
reachable state with somebody waiting, each exit of a holder either retires one unit of excess
capacity or admits (lets in, or — at a limit ≤ 0 — refuses) at least the head of the queue:
`|admitted| + excess` strictly exceeds the new excess, where `excess = (V − max T 1)⁺`. -/
theorem exit_progress (s : Lim) (h : Inv s) (i : Nat) (hi : i ∈ s.holders)
    (hw : s.waiters ≠ []) :
    let r := step s (.exit i)
    ids r.2 ++ r.1.waiters = s.waiters ∧ r.1.T = s.T ∧
    (r.1.V - bound r.1).toNat + 1 ≤ (ids r.2).length + (s.V - bound s).toNat := by
  by_cases hv : s.V > bound s
  · rw [step_exit_retire s h.fx i hi hv]
    refine ⟨rfl, rfl, ?_⟩
    show (s.V - 1 - bound s).toNat + 1 ≤ 0 + (s.V - bound s).toNat
    generalize bound s = b at hv
    omega
  · rw [step_exit_release s h.fx i hi hv]
    have e := exit_release_spec s i h hi
    generalize finish (release ⟨{ s with holders := s.holders.erase i }, [], []⟩) = r at e
    refine ⟨e.queue, e.T, ?_⟩
    -- no excess before, none after: `V' ≤ max V T ≤ bound`; and the head of the queue was admitted
    have hb : bound r.1 = bound s := bound_congr e.T
    have hV : r.1.V ≤ bound s :=
      Int.le_trans e.V_le (Int.max_le.2 ⟨Int.not_lt.1 hv, Int.le_max_left _ _⟩)
    rw [hb, Int.toNat_of_nonpos (Int.sub_nonpos_of_le hV),
      Int.toNat_of_nonpos (Int.sub_nonpos_of_le (Int.not_lt.1 hv))]
    have := List.length_pos_iff.2 (e.progress hw).1
    omega

/-- every op of the list is the exit of a task that holds a permit at that moment -/
def exitsOnly (s : Lim) : List Op → Prop
  | [] => True
  | .exit i :: ops => i ∈ s.holders ∧ exitsOnly (step s (.exit i)).1 ops
  | _ :: _ => False

theorem exitsOnly_cons {s : Lim} {op : Op} {ops : List Op} (h : exitsOnly s (op :: ops)) :
    ∃ i, op = .exit i ∧ i ∈ s.holders ∧ exitsOnly (step s (.exit i)).1 ops := by
  cases op with
  | exit i => exact ⟨i, rfl, h.1, h.2⟩
  | _ => exact h.elim

/-- while only holders leave, the queue goes out in arrival order -/
theorem exits_queue (ops : List Op) : ∀ (s : Lim), Inv s → exitsOnly s ops →
    ids (run s ops).2 ++ (run s ops).1.waiters = s.waiters := by
  induction ops with
  | nil => intro s _ _; rfl
  | cons op ops ih =>
    intro s h he
    obtain ⟨i, rfl, _, he'⟩ := exitsOnly_cons he
    have q1 : ids (step s (.exit i)).2 ++ (step s (.exit i)).1.waiters = s.waiters :=
      fifo_admission s h (.exit i)
    show ids (_ ++ _) ++ (run (step s (.exit i)).1 ops).1.waiters = _
    rw [ids_append, List.append_assoc, ih _ (step_inv s _ h) he', q1]

/-- … and of the first `n` exits at most `excess` retire a unit of capacity, every other one
admits at least the head of the queue -/
theorem served_count (ops : List Op) : ∀ (s : Lim), Inv s → exitsOnly s ops →
    ∀ n, n ≤ s.waiters.length → n + (s.V - bound s).toNat ≤ ops.length →
      n ≤ (ids (run s ops).2).length := by
  induction ops with
  | nil => intro s _ _ n _ hn; exact Nat.le_trans (Nat.le_add_right _ _) hn
  | cons op ops ih =>
    intro s h he n hn hx
    obtain ⟨i, rfl, hi, he'⟩ := exitsOnly_cons he
    have q1 := congrArg List.length (fifo_admission s h (.exit i))
    show n ≤ (ids (_ ++ _)).length
    rw [ids_append, List.length_append]
    simp only [List.length_append, List.length_cons] at q1 hx
    by_cases hna : n ≤ (ids (step s (.exit i)).2).length
    · exact Nat.le_trans hna (Nat.le_add_right _ _)
    · have pr := (exit_progress s h i hi (List.ne_nil_of_length_pos (by omega))).2.2
      have := ih _ (step_inv s _ h) he' (n - (ids (step s (.exit i)).2).length) (by omega)
      generalize (s.V - bound s).toNat = x at hx pr
      generalize ((step s (.exit i)).1.V - bound (step s (.exit i)).1).toNat = x' at this pr
      omega

/-- **All waiters are eventually served — with a bound**, for all targets.  From any reachable
state, let only holders leave (any holders, in any order; no new arrivals are needed and none can
overtake — `fifo_admission`): after `n` such exits at least `min(|waiters|, n − excess)` waiters
have been admitted — let in, or refused when the limit is ≤ 0 — in queue order, where
`excess = (V − max T 1)⁺` is the capacity still to be retired after a reduction.  Hence the waiter
at position `p` is dealt with after at most `p + 1 + excess` exits, and by `no_starvation` a holder
that can exit always exists while somebody waits. -/
theorem served_within (s : Lim) (h : Inv s) (ops : List Op) (he : exitsOnly s ops)
    (k : Nat) (hk : k < s.waiters.length) (hn : k + 1 + (s.V - bound s).toNat ≤ ops.length) :
    ∃ x, s.waiters[k]? = some x ∧ (ids (run s ops).2)[k]? = some x := by
  have hlen : k < (ids (run s ops).2).length := served_count ops s h he (k + 1) hk hn
  refine ⟨s.waiters[k], List.getElem?_eq_getElem hk, ?_⟩
  rw [← List.getElem?_append_left hlen (l₂ := (run s ops).1.waiters), exits_queue ops s h he]
  exact List.getElem?_eq_getElem hk

/-- operations other than exits and `set_target` never push a waiter back: the excess does not
grow (the queue part is `fifo_admission`). -/
theorem rank_no_regress (s : Lim) (h : Inv s) (op : Op) (hop : op.isSetTarget = false) :
    ((step s op).1.V - bound (step s op).1).toNat ≤ (s.V - bound s).toNat := by
  have f := step_facts s op h hop
  rw [bound_congr f.T]
  by_cases hle : (step s op).1.V ≤ s.V
  · exact Int.toNat_le_toNat (Int.sub_le_sub_right hle _)
  · -- the capacity has grown, so it has grown to the target: no excess at all
    have hT : (step s op).1.V ≤ bound s :=
      Int.le_trans (Int.not_lt.1 fun hlt => Int.not_le.2 (Int.max_lt.2 ⟨Int.not_le.1 hle, hlt⟩) f.V_le)
        (Int.le_max_left s.T 1)
    rw [Int.toNat_of_nonpos (Int.sub_nonpos_of_le hT)]
    exact Nat.zero_le _

/-- **A limit of zero or less refuses entry**: while `T ≤ 0` no step lets anybody into the block,
and a task that gets the permit is refused (`ExcessiveSessionCostError`). -/
theorem zero_refuses (s : Lim) (h : Inv s) (hT : s.T ≤ 0) (op : Op) (hop : op.isSetTarget = false) :
    (∀ j, Ev.entered j ∉ (step s op).2) ∧
    (∀ i, op = .enter i → s.S ≠ 0 → s.waiters = [] →
      (step s op).2 = [Ev.refused i] ∧ (step s op).1.holders = s.holders ∧
      (step s op).1.V = s.V) := by
  refine ⟨(step_facts s op h hop).refuses hT, ?_⟩
  rintro i rfl h1 h2
  rw [step_enter_now s i h1 h2]
  have e := enter_now_spec s i h h1 h2
  exact ⟨e.evs.trans (by rw [admitEv, if_pos hT]), e.H.trans (if_pos hT),
    e.V.trans (Int.max_eq_left (Int.le_trans hT (Int.le_trans (by decide) h.V_pos)))⟩

/-- what the exit of a holder does while the limit is ≤ 0: it retires a unit of capacity while
more than the last permit is out; the exit that returns the last permit refuses **every** waiter,
in arrival order, and leaves nobody waiting -/
theorem exit_at_zero (s : Lim) (h : Inv s) (hT : s.T ≤ 0) (i : Nat) (hi : i ∈ s.holders) :
    let r := step s (.exit i)
    r.1.T = s.T ∧ r.1.holders = s.holders.erase i ∧
    (∀ x ∈ r.2, ∃ j, x = Ev.refused j) ∧
    (1 < s.V → r.2 = [] ∧ r.1.waiters = s.waiters) ∧
    (s.V = 1 → ids r.2 = s.waiters ∧ r.1.waiters = []) := by
  have hvp := h.V_pos
  have hb : bound s = 1 := Int.max_eq_right (Int.le_trans hT (by decide))
  by_cases hv : s.V > bound s
  · rw [step_exit_retire s h.fx i hi hv]
    exact ⟨rfl, rfl, fun _ hx => (nomatch hx), fun _ => ⟨rfl, rfl⟩, fun h1 => by omega⟩
  · rw [step_exit_release s h.fx i hi hv]
    have e := exit_release_spec s i h hi
    generalize finish (release ⟨{ s with holders := s.holders.erase i }, [], []⟩) = r at e
    refine ⟨e.T, e.H_nonpos hT, e.evs.2 hT, fun h1 => by omega, fun hV1 => ?_⟩
    -- `i` was the only holder, so nobody holds a permit now and nobody may be left waiting
    have hw : r.1.waiters = [] := e.inv.no_starvation.2 (by
      have hc := h.cons; have hS := h.S_nonneg
      have hl := List.length_erase_of_mem hi
      rw [e.H_nonpos hT]
      exact List.eq_nil_of_length_eq_zero (by omega))
    exact ⟨by have q := e.queue; rwa [hw, List.append_nil] at q, hw⟩

theorem exitsOnly_noSetTarget (ops : List Op) : ∀ (s : Lim), exitsOnly s ops → noSetTarget ops := by
  induction ops with
  | nil => intro _ _; trivial
  | cons op ops ih =>
    intro s he
    obtain ⟨i, rfl, _, he'⟩ := exitsOnly_cons he
    exact ⟨rfl, ih _ he'⟩

/-- while the limit is ≤ 0 nobody gets in, so every exit shortens the list of holders; whoever is
dealt with is refused -/
theorem exits_at_zero (ops : List Op) : ∀ (s : Lim), Inv s → s.T ≤ 0 → exitsOnly s ops →
    (run s ops).1.T = s.T ∧ (run s ops).1.holders.length + ops.length = s.holders.length ∧
    ∀ x ∈ (run s ops).2, ∃ j, x = Ev.refused j := by
  induction ops with
  | nil => intro s _ _ _; exact ⟨rfl, rfl, fun _ hx => nomatch hx⟩
  | cons op ops ih =>
    intro s h hT he
    obtain ⟨i, rfl, hi, he'⟩ := exitsOnly_cons he
    obtain ⟨eT, eH, eR, _, _⟩ := exit_at_zero s h hT i hi
    obtain ⟨r1, r2, r3⟩ := ih _ (step_inv s _ h) (eT ▸ hT) he'
    have hl := List.length_erase_of_mem hi
    have hp := List.length_pos_of_mem hi
    rw [eH] at r2
    refine ⟨r1.trans eT, by simp only [run, List.length_cons]; omega, fun x hx => ?_⟩
    exact (List.mem_append.1 hx).elim (eR x) (r3 x)

/-- **Refused at zero — nobody is left waiting** (F23).  From any reachable state with a limit
≤ 0: let the holders leave (all of them, any order).  Every task that was waiting is refused
(`ExcessiveSessionCostError`), in arrival order, none is let in, and none is left waiting — so at
session level every queued request gets its −101 instead of timing out. -/
theorem refused_at_zero (s : Lim) (h : Inv s) (hT : s.T ≤ 0) (ops : List Op)
    (he : exitsOnly s ops) (hall : ops.length = s.holders.length) :
    ids (run s ops).2 = s.waiters ∧ (run s ops).1.waiters = [] ∧
    (∀ x ∈ (run s ops).2, ∃ j, x = Ev.refused j) := by
  obtain ⟨_, x2, x3⟩ := exits_at_zero ops s h hT he
  -- all holders have left, so nobody may be left waiting; the queue went out in order
  have hw : (run s ops).1.waiters = [] :=
    (run_inv ops s h).no_starvation.2 (List.eq_nil_of_length_eq_zero (by omega))
  have q := exits_queue ops s h he
  rw [hw, List.append_nil] at q
  exact ⟨q, hw, x3⟩

/-- the full statement as a predicate of a start state and a history leading to a limit ≤ 0 -/
def refused_at_zero_full (start : Lim) : Prop :=
  ∀ pre ops : List Op, let s := (run start pre).1
    s.T ≤ 0 → exitsOnly s ops → ops.length = s.holders.length → (run s ops).1.waiters = []

theorem refused_at_zero_repaired (n : Int) : refused_at_zero_full (init n) :=
  fun pre ops hT he hall => (refused_at_zero _ (run_inv pre _ (init_inv n)) hT ops he hall).2.1

theorem refused_at_zero_fails_pinned : ¬ refused_at_zero_full (initPinned 2) := by
  intro h
  have := h [.enter 0, .enter 1, .enter 2, .enter 3, .setTarget 0] [.exit 0, .exit 1]
    (by decide) ⟨by decide, by decide, trivial⟩ (by decide)
  revert this
  decide

/-- an entry while nobody holds a permit and the limit is positive gets in at once and tops the
permits up to the limit -/
theorem enter_free (s : Lim) (h : Inv s) (hh : s.holders = []) (hT : 0 < s.T) (i : Nat) :
    (step s (.enter i)).2 = [Ev.entered i] ∧ (step s (.enter i)).1.V = max s.V s.T ∧
    (step s (.enter i)).1.S = max s.V s.T - 1 ∧ (step s (.enter i)).1.holders = [i] := by
  have hc := h.cons; have hvp := h.V_pos
  rw [hh] at hc
  have hw : s.waiters = [] := h.no_starvation.2 hh
  have h1 : s.S ≠ 0 := by simp only [List.length_nil] at hc; omega
  rw [step_enter_now s i h1 hw]
  have e := enter_now_spec s i h h1 hw
  generalize finish (admitTask i ⟨{ s with S := s.S - 1 }, [], []⟩) = r at e
  have hH : r.1.holders = [i] := by rw [e.H, if_neg (by omega), hh]; rfl
  have hc' := e.inv.cons
  rw [hH, e.V] at hc'
  exact ⟨e.evs.trans (by rw [admitEv, if_neg (by omega)]), e.V,
    by simp only [List.length_singleton] at hc'; omega, hH⟩

/-- **The limiter recovers after the limit is raised again** (F23).  In any reachable state in
which nobody holds a permit — e.g. after the limit was ≤ 0 and every request was refused —
`set_target(n ≥ 1)` followed by one entry lets that task in at once and tops the permits up to
the new limit: capacity `max V n`, of which all but the one just taken are free for the next
entrants. -/
theorem recovers_after_raise (s : Lim) (h : Inv s) (hh : s.holders = []) (n : Int) (hn : 1 ≤ n)
    (i : Nat) :
    let r := step (step s (.setTarget n)).1 (.enter i)
    r.2 = [Ev.entered i] ∧ r.1.V = max s.V n ∧ r.1.S = max s.V n - 1 ∧ r.1.holders = [i] :=
  enter_free (step s (.setTarget n)).1 (step_inv s _ h) hh (by show 0 < n; omega) i

/-- the full statement as a predicate of the start state -/
def recovers_after_raise_full (start : Lim) : Prop :=
  ∀ (pre : List Op) (n : Int) (i : Nat), let s := (run start pre).1
    s.holders = [] → 1 ≤ n → (step (step s (.setTarget n)).1 (.enter i)).2 = [Ev.entered i]

theorem recovers_after_raise_repaired (k : Int) : recovers_after_raise_full (init k) :=
  fun pre n i hh hn => (recovers_after_raise _ (run_inv pre _ (init_inv k)) hh n hn i).1

/-- **F23 (pinned class)**: `Concurrency(2)`: enter, enter, `set_target(0)`, exit, exit,
`set_target(2)`, enter — the late entrant blocks for ever (V = S = 0). -/
theorem recovers_after_raise_fails_pinned : ¬ recovers_after_raise_full (initPinned 2) := by
  intro h
  have := h [.enter 0, .enter 1, .setTarget 0, .exit 0, .exit 1] 2 5 (by decide) (by decide)
  revert this
  decide

inductive SessOp where
  | recv        -- the message loop spawns `_throttled_request` for a request / notification
  | finish      -- one `_throttled_request` task is done (reply sent)
  | cancelled   -- one handler task is ended from outside (the group cancels it after the loop
                -- task ended, `processing_timeout`, an external `cancel()`): it leaves `_pending`
                -- like one that finished - running or still queued for a slot alike
  | loopExit    -- the message-loop task ends (connection lost)
  deriving Repr, DecidableEq

def Sess.step (s : Sess) : SessOp → Sess
  | .recv => if s.loopAlive then { s with active := s.active + 1 } else s
  | .finish => { s with active := s.active - 1 }
  | .cancelled => { s with active := s.active - 1 }
  | .loopExit => { s with loopAlive := false }

def Sess.run (s : Sess) : List SessOp → Sess
  | [] => s
  | op :: ops => Sess.run (s.step op) ops

def recvs : List SessOp → Nat
  | [] => 0
  | .recv :: r => recvs r + 1
  | _ :: r => recvs r

def finishes : List SessOp → Nat
  | [] => 0
  | .finish :: r => finishes r + 1
  | .cancelled :: r => finishes r + 1        -- ended by cancellation is ended
  | _ :: r => finishes r

/-- a history of a live session: the loop task does not end, and a task can only finish if one
is active -/
def Sess.wf (s : Sess) : List SessOp → Prop
  | [] => True
  | .recv :: r => Sess.wf (s.step .recv) r
  | .finish :: r => 0 < s.active ∧ Sess.wf (s.step .finish) r
  | .cancelled :: r => 0 < s.active ∧ Sess.wf (s.step .cancelled) r
  | .loopExit :: _ => False

theorem unanswered_run (ops : List SessOp) : ∀ (s : Sess), s.loopAlive = true → s.wf ops →
    (Sess.run s ops).loopAlive = true ∧
    (Sess.run s ops).active + finishes ops = s.active + recvs ops := by
  induction ops with
  | nil => intro s h _; exact ⟨h, rfl⟩
  | cons op ops ih =>
    intro s h hw
    -- a handler ends: one active task less, one more finished
    have ended : ∀ op, s.step op = { s with active := s.active - 1 } → 0 < s.active →
        (s.step op).wf ops → (Sess.run (s.step op) ops).loopAlive = true ∧
        (Sess.run (s.step op) ops).active + (finishes ops + 1) = s.active + recvs ops := by
      intro op hs hpos hw'
      rw [hs] at hw' ⊢
      obtain ⟨a, b⟩ := ih { s with active := s.active - 1 } h hw'
      have b' : _ + finishes ops = s.active - 1 + recvs ops := b
      exact ⟨a, by omega⟩
    cases op with
    | loopExit => exact hw.elim
    | recv =>
      have hs : s.step .recv = { s with active := s.active + 1 } := by simp only [Sess.step, h, ↓reduceIte]
      have hw' : (s.step .recv).wf ops := hw
      show (Sess.run (s.step .recv) ops).loopAlive = true ∧ _ + finishes ops = s.active + (recvs ops + 1)
      rw [hs] at hw' ⊢
      obtain ⟨a, b⟩ := ih { s with active := s.active + 1 } h hw'
      have b' : _ + finishes ops = s.active + 1 + recvs ops := b
      exact ⟨a, by rw [Sess.run, hs]; omega⟩
    | finish => exact ended .finish rfl hw.1 hw.2
    | cancelled => exact ended .cancelled rfl hw.1 hw.2

/-- **Unanswered-request count** (session layer; partial: the TaskGroup bookkeeping
`_pending` = live member tasks is C09's invariant and is assumed here).  For every history of a
live session (requests/notifications received, handler tasks finishing **or being cancelled** —
processing timeout, external cancel; only tasks that exist can end): `max(0, len(_pending) − 1)`
equals the number of received requests and notifications minus the number whose handling has
finished. -/
theorem unanswered_count (ops : List SessOp) (hw : (Sess.mk true 0).wf ops) :
    (Sess.run ⟨true, 0⟩ ops).unanswered + finishes ops = recvs ops ∧ finishes ops ≤ recvs ops := by
  obtain ⟨h1, h2⟩ := unanswered_run ops ⟨true, 0⟩ rfl hw
  simp only [Sess.unanswered, Sess.pending, h1, ↓reduceIte] at *
  omega

/-- **… and after the connection is gone**: once the message loop has ended (any earlier
well-formed history) and every handler task still alive — running or queued for a slot — has
been cancelled by the task group, the count is 0: nothing stays stuck (whatever happened before). -/
theorem unanswered_after_teardown (ops : List SessOp) :
    let s := Sess.run ⟨true, 0⟩ ops
    (Sess.run s (.loopExit :: List.replicate s.active .cancelled)).unanswered = 0 ∧
    (Sess.run s (.loopExit :: List.replicate s.active .cancelled)).active = 0 := by
  intro s
  have key : ∀ (a : Nat) (t : Sess), t.loopAlive = false → t.active = a →
      (Sess.run t (List.replicate a .cancelled)).active = 0 ∧
      (Sess.run t (List.replicate a .cancelled)).loopAlive = false := by
    intro a
    induction a with
    | zero => intro t h1 h2; exact ⟨h2, h1⟩
    | succ a ih =>
      intro t h1 h2
      simp only [List.replicate_succ, Sess.run]
      exact ih (t.step .cancelled) h1 (by show t.active - 1 = a; omega)
  obtain ⟨k1, k2⟩ := key s.active (s.step .loopExit) rfl rfl
  simp only [Sess.run]
  exact ⟨by simp [Sess.unanswered, Sess.pending, k1, k2], k1⟩

/-- what the formula gives once the loop task is gone (only between connection loss and the
cancellation of the remaining handlers — never at a quiescent point of a live session) -/
theorem unanswered_after_loop_exit (a : Nat) : (Sess.mk false a).unanswered = a - 1 := by
  simp [Sess.unanswered, Sess.pending]

-- a run that queues, raises, admits two at once, cancels a waiter and reduces
example : (run (init 2) [.enter 0, .enter 1, .enter 2, .setTarget 3, .enter 3, .exit 0]).2
    = [.entered 0, .entered 1, .entered 2, .entered 3] := by decide +kernel
example : (run (init 2) [.enter 0, .enter 1, .enter 2, .setTarget 3, .enter 3, .exit 0]).1
    = ⟨3, 3, 0, 0, [1, 2, 3], [], true⟩ := by decide +kernel
-- reduction: V₀ = 3, target 1, two exits ⇒ capacity 1
example : (run (init 3) [.enter 0, .enter 1, .enter 2, .setTarget 1, .exit 0, .exit 1, .enter 3]).1
    = ⟨1, 1, 0, 0, [2], [3], true⟩ := by decide +kernel
example : exitsDone (step (run (init 3) [.enter 0, .enter 1, .enter 2]).1 (.setTarget 1)).1
    [.exit 0, .exit 1, .enter 3] = 2 := by decide +kernel
-- zero refuses, the permit is handed back, and the limiter recovers (repaired class) …
example : run (init 1) [.setTarget 0, .enter 0, .setTarget 1, .enter 1]
    = (⟨1, 1, 0, 0, [1], [], true⟩, [.refused 0, .entered 1]) := by decide +kernel
-- … whereas the pinned class keeps the permit and the next entrant blocks for ever
example : run (initPinned 1) [.setTarget 0, .enter 0, .setTarget 1, .enter 1]
    = (⟨1, 1, 0, 1, [], [1], false⟩, [.refused 0]) := by decide +kernel
-- an initial limit of 0 refuses, and a later raise works
example : run (init 0) [.enter 0, .setTarget 2, .enter 1, .enter 2]
    = (⟨2, 2, 0, 0, [1, 2], [], true⟩, [.refused 0, .entered 1, .entered 2]) := by decide +kernel
-- F23 scenario on the repaired class: the queued tasks are refused in order when the last holder
-- leaves; after the raise the late entrant gets in and the capacity is back to 2
example : run (init 2) [.enter 0, .enter 1, .enter 2, .enter 3, .setTarget 0, .exit 0, .exit 1,
      .setTarget 2, .enter 4]
    = (⟨2, 2, 1, 0, [4], [], true⟩,
       [.entered 0, .entered 1, .refused 2, .refused 3, .entered 4]) := by decide +kernel
-- hypotheses of `refused_at_zero` are satisfiable
example : exitsOnly (run (init 2) [.enter 0, .enter 1, .enter 2, .enter 3, .setTarget 0]).1
    [.exit 0, .exit 1] := ⟨by decide +kernel, by decide +kernel, trivial⟩
-- `served_within`: after a reduction 3 → 1 with three holders and two waiters, the first waiter
-- (position 0) needs 0 + 1 + excess 2 = 3 exits
example : exitsOnly (run (init 3) [.enter 0, .enter 1, .enter 2, .enter 3, .enter 4, .setTarget 1]).1
    [.exit 0, .exit 1, .exit 2] ∧
    (run (run (init 3) [.enter 0, .enter 1, .enter 2, .enter 3, .enter 4, .setTarget 1]).1
      [.exit 0, .exit 1, .exit 2]).2 = [.entered 3] :=
  ⟨⟨by decide +kernel, by decide +kernel, by decide +kernel, trivial⟩, by decide +kernel⟩
-- hypotheses of `exit_progress` are satisfiable
example : (run (init 1) [.enter 0, .enter 1]).1.waiters ≠ [] ∧ 0 ∈ (run (init 1) [.enter 0, .enter 1]).1.holders :=
  ⟨by decide +kernel, by decide +kernel⟩
example : (Sess.run ⟨true, 0⟩ [.recv, .recv, .recv, .finish, .cancelled]).unanswered = 1 ∧
    (Sess.run ⟨true, 0⟩ [.recv, .recv, .recv, .finish, .loopExit, .cancelled, .cancelled]).unanswered = 0 :=
  ⟨by decide +kernel, by decide +kernel⟩
example : (Sess.run ⟨true, 0⟩ [.recv, .recv, .finish, .recv]).unanswered = 2 ∧
    (Sess.mk true 0).wf [.recv, .recv, .finish, .recv] :=
  ⟨by decide +kernel, by simp [Sess.wf, Sess.step]⟩

end Aiorpcx.C13
