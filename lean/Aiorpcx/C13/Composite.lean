import Aiorpcx.C13.Step
/-!
# C13 — the composite step and operation streams that contain it

`stepExitCancel` (Model.lean) is a holder's exit and the cancellation of a waiter inside one loop
iteration, with no quiescent point in between.  Its outcome is of the same kind as that of a plain
step (`stepExitCancel_spec`), so the invariant, the limit and the arrival order carry over to
streams `List Op2` in which composite steps occur anywhere, any number of times; plain streams are
the special case `ops.map .plain` (`run2_plain`).
-/
namespace Aiorpcx.C13

/-- the composite step has the outcome of a plain step: invariant kept, target untouched, capacity
at most grown towards it, nobody let in at a limit ≤ 0 - and, if `i` did hold a permit, those
admitted followed by those still waiting are the old waiting list without `j` -/
theorem stepExitCancel_spec (s : Lim) (i j : Nat) (h : Inv s) :
    ∃ q, Outcome s q (stepExitCancel s i j) ∧ (i ∈ s.holders → q = s.waiters.erase j) := by
  unfold stepExitCancel
  by_cases hi : i ∈ s.holders
  case neg =>
    exact ⟨s.waiters, by rw [if_neg hi]; exact ⟨h, rfl, Int.le_max_left _ _, rfl, fun _ k hk => by simp at hk⟩,
      fun hh => absurd hh hi⟩
  refine ⟨s.waiters.erase j, ?_, fun _ => rfl⟩
  simp only [hi, ↓reduceIte]
  rw [retireBound_fixed s h.fx]
  by_cases hv : s.V > bound s
  · -- excess capacity: the exit retires a unit, nobody is woken, the waiter just leaves
    simp only [hv, ↓reduceIte]
    have f := step_facts s (.exit i) h rfl
    rw [step_exit_retire s h.fx i hi hv] at f
    by_cases hj : j ∈ s.waiters
    · simp only [hj, ↓reduceIte]
      exact ⟨⟨f.inv.S_nonneg, f.inv.cons, fun _ => h.wait_S (List.ne_nil_of_mem hj), f.inv.V_pos,
        f.inv.no_leak, f.inv.fx⟩, rfl, f.V_le, rfl, fun _ k hk => by simp at hk⟩
    · simp only [hj, ↓reduceIte]
      exact ⟨f.inv, rfl, f.V_le, (List.erase_of_not_mem hj).symm, fun _ k hk => by simp at hk⟩
  · simp only [hv, ↓reduceIte]
    obtain ⟨m, e1, e2, e3, _⟩ := exit_released s i h hi
    generalize release ⟨{ s with holders := s.holders.erase i }, [], []⟩ = w at m e1 e2 e3 ⊢
    by_cases hjw : j ∈ w.woken
    · -- j had been handed the permit: it passes it on
      simp only [hjw, ↓reduceIte]
      have hlen := List.length_erase_of_mem hjw
      have hpos := List.length_pos_of_mem hjw
      have m1 : Mid s 1 { w with woken := w.woken.erase j, evs := w.evs ++ [Ev.cancelled j] } :=
        ⟨m.inv, by have := m.bal; simp only [Work.slack, hlen] at this ⊢; omega, m.T, m.V_ge, m.V_le⟩
      have f := release_spec _ m1.inv
      have m2 := m1.release
      generalize release { w with woken := w.woken.erase j, evs := w.evs ++ [Ev.cancelled j] } = w2 at f m2 ⊢
      obtain ⟨k, k1, k2, _⟩ := f.woke
      have fE : w2.evs = w.evs ++ [Ev.cancelled j] := f.evs
      have k1' : w2.woken = w.woken.erase j ++ k := k1
      have k2' : w.st.waiters = k ++ w2.st.waiters := k2
      have hq : ids w2.evs ++ (w2.woken ++ w2.st.waiters) = s.waiters.erase j := by
        rw [fE, e1, k1', ← e2, List.erase_append_left _ hjw, k2']
        simp [ids]
      exact hq ▸ m2.outcome fun _ k hk => by rw [fE, e1] at hk; simp at hk
    · simp only [hjw, ↓reduceIte]
      by_cases hjq : j ∈ w.st.waiters
      · -- j was still queued: it just leaves; the task woken by the exit, if any, runs first
        simp only [hjq, ↓reduceIte]
        have m0 : Mid s 0 { w with st := { w.st with waiters := w.st.waiters.erase j } } :=
          ⟨⟨m.inv.S_nonneg, fun _ => m.inv.wait_S (List.ne_nil_of_mem hjq), m.inv.V_pos, m.inv.no_leak,
            m.inv.fx⟩, m.bal, m.T, m.V_ge, m.V_le⟩
        have es : s.waiters.erase j = w.woken ++ w.st.waiters.erase j := by
          rw [← e2, List.erase_append_right _ hjw]
        cases hwk : w.woken with
        | nil =>
          simp only []
          have m2 : Mid s 0 ⟨{ w.st with waiters := w.st.waiters.erase j }, [], w.evs ++ [Ev.cancelled j]⟩ :=
            ⟨m0.inv, by have := m.bal; simp only [Work.slack, hwk] at this ⊢; exact this, m.T, m.V_ge, m.V_le⟩
          have o := m2.outcome fun _ k hk => by
            have : Ev.entered k ∈ w.evs ++ [Ev.cancelled j] := hk
            rw [e1] at this; simp at this
          have hq : ids (w.evs ++ [Ev.cancelled j]) ++ ([] ++ w.st.waiters.erase j) =
              s.waiters.erase j := by rw [es, hwk, e1]; rfl
          exact hq ▸ o
        | cons x rest =>
          simp only []
          have m1 := m0.pop hwk
          rw [resume_eq x _ m1.inv]
          have a := admitTask_spec x _ m1.inv
          have m2 := m1.admitted a
          generalize admitTask x { ({ w with st := { w.st with waiters := w.st.waiters.erase j } } : Work)
            with woken := rest } = w1 at a m2 ⊢
          obtain ⟨k, k1, k2⟩ := a.woke
          have aE : w1.evs = w.evs ++ [admitEv w.st.T x] := a.evs
          have k1' : w1.woken = rest ++ k := k1
          have k2' : w.st.waiters.erase j = k ++ w1.st.waiters := k2
          have m3 : Mid s 0 { w1 with evs := w1.evs ++ [Ev.cancelled j] } :=
            ⟨m2.inv, m2.bal, m2.T, m2.V_ge, m2.V_le⟩
          have o := m3.outcome fun hT0 k hk => by
            have : Ev.entered k ∈ w1.evs ++ [Ev.cancelled j] := hk
            rw [aE, e1, admitEv, if_pos (m.T ▸ hT0)] at this; simp at this
          have hq : ids (w1.evs ++ [Ev.cancelled j]) ++ (w1.woken ++ w1.st.waiters) =
              s.waiters.erase j := by
            rw [es, hwk, aE, e1, k1', k2']
            simp [ids_admitEv_cons, ids]
          exact hq ▸ o
      · -- j is not waiting at all
        simp only [hjq, ↓reduceIte]
        have o := m.outcome fun _ k hk => by rw [e1] at hk; simp at hk
        have hns : j ∉ s.waiters := by
          rw [← e2]; exact fun hm => (List.mem_append.1 hm).elim hjw hjq
        refine ⟨o.inv, o.T, o.V_le, ?_, fun hT k hk => o.refuses hT k (by simpa using hk)⟩
        rw [List.erase_of_not_mem hns, ← e2]
        have := o.queue
        rw [e1] at this
        exact this

/-- **Permit conservation across the composite step**: a holder leaves and, within the same loop
iteration, a waiter is cancelled — the one that had just been handed the permit (it passes it
on), or one still queued (it just leaves), or nobody (not waiting): the invariant
(`S + |holders| = V`, `V ≥ 1`, nobody waits while a permit is free) is preserved; no permit is
lost in that window. -/
theorem stepExitCancel_inv (s : Lim) (i j : Nat) (h : Inv s) : Inv (stepExitCancel s i j).1 := by
  obtain ⟨_, o, _⟩ := stepExitCancel_spec s i j h
  exact o.inv

/-- what the composite step leaves alone: the target, and the represented capacity stays below
`max V T` (it can only grow towards the target, by the `_retarget_semaphore` of a task that the
exit woke) -/
theorem stepExitCancel_frame (s : Lim) (i j : Nat) (h : Inv s) :
    (stepExitCancel s i j).1.T = s.T ∧ (stepExitCancel s i j).1.V ≤ max s.V s.T := by
  obtain ⟨_, o, _⟩ := stepExitCancel_spec s i j h
  exact ⟨o.T, o.V_le⟩

/-- **Arrival order survives the composite step**: when holder `i` leaves and waiter `j` is
cancelled within the same loop iteration, the tasks admitted by the step (entered or refused)
followed by the tasks still waiting are exactly the old waiting list without `j` - whether `j` had
already been handed the permit (it passes it on), was still queued, or was not waiting at all. -/
theorem fifo_admission_composite (s : Lim) (h : Inv s) (i j : Nat) (hi : i ∈ s.holders) :
    ids (stepExitCancel s i j).2 ++ (stepExitCancel s i j).1.waiters = s.waiters.erase j := by
  obtain ⟨_, o, hq⟩ := stepExitCancel_spec s i j h
  exact o.queue.trans (hq hi)

/-- **A limit of zero or less refuses entry - also in the composite step**: while `T <= 0` the
exit of a holder together with the cancellation of a waiter in the same loop iteration lets nobody
into the block (whoever gets the permit is refused). -/
theorem zero_refuses_composite (s : Lim) (h : Inv s) (hT : s.T ≤ 0) (i k : Nat) :
    ∀ j, Ev.entered j ∉ (stepExitCancel s i k).2 := by
  obtain ⟨_, o, _⟩ := stepExitCancel_spec s i k h
  exact o.refuses hT

theorem step2_inv (s : Lim) (op : Op2) (h : Inv s) : Inv (step2 s op).1 := by
  cases op with
  | plain op => exact step_inv s op h
  | exitCancel i j => exact stepExitCancel_inv s i j h

theorem run2_inv (ops : List Op2) : ∀ (s : Lim), Inv s → Inv (run2 s ops).1 := by
  induction ops with
  | nil => intro s h; exact h
  | cons op ops ih => intro s h; exact ih _ (step2_inv s op h)

/-- **Permits are neither lost nor duplicated — also over streams with composite steps** (a
holder's exit and the cancellation of a waiter within one loop iteration, anywhere in the
stream, any number of times). -/
theorem permit_conservation_composite (n : Int) (ops : List Op2) :
    let s := (run2 (init n) ops).1
    s.S + s.holders.length = s.V ∧ 0 ≤ s.S ∧ 1 ≤ s.V ∧ s.leaked = 0 ∧ (s.waiters ≠ [] → s.S = 0) := by
  have i := run2_inv ops _ (init_inv n)
  exact ⟨i.cons, i.S_nonneg, i.V_pos, i.no_leak, i.wait_S⟩

/-- **Nobody waits while no handler runs - also over streams with composite steps**: at every
quiescent point, if there are waiters then all `V >= 1` permits are held, so some holder exists
whose exit will move the queue; with no holder nobody waits. -/
theorem no_starvation_composite (n : Int) (ops : List Op2) :
    let s := (run2 (init n) ops).1
    (s.waiters ≠ [] → (s.holders.length : Int) = s.V ∧ s.holders ≠ []) ∧
    (s.holders = [] → s.waiters = []) :=
  (run2_inv ops _ (init_inv n)).no_starvation

/-- ghost over composite streams: largest limit that has been in force -/
def maxTarget2 (m : Int) : List Op2 → Int
  | [] => m
  | .plain (.setTarget n) :: ops => maxTarget2 (max m n) ops
  | _ :: ops => maxTarget2 m ops

theorem run2_bound (ops : List Op2) : ∀ (s : Lim) (m : Int), Inv s → s.V ≤ m → s.T ≤ m →
    (run2 s ops).1.V ≤ maxTarget2 m ops ∧ (run2 s ops).1.T ≤ maxTarget2 m ops := by
  induction ops with
  | nil => intro s m _ hv ht; exact ⟨hv, ht⟩
  | cons op ops ih =>
    intro s m h hv ht
    -- a step that leaves the target alone keeps both below `m`
    have keep : ∀ r : Lim × List Ev, Inv r.1 → r.1.T = s.T → r.1.V ≤ max s.V s.T →
        (run2 r.1 ops).1.V ≤ maxTarget2 m ops ∧ (run2 r.1 ops).1.T ≤ maxTarget2 m ops :=
      fun r hi hT hV => ih r.1 m hi (Int.le_trans hV (Int.max_le.2 ⟨hv, ht⟩)) (hT ▸ ht)
    cases op with
    | exitCancel i j =>
      obtain ⟨_, o, _⟩ := stepExitCancel_spec s i j h
      exact keep _ o.inv o.T o.V_le
    | plain op =>
      cases op with
      | setTarget n =>
        exact ih _ _ (step_inv s _ h) (Int.le_trans hv (Int.le_max_left m n)) (Int.le_max_right m n)
      | enter i => have f := step_facts s (.enter i) h rfl; exact keep _ f.inv f.T f.V_le
      | exit i => have f := step_facts s (.exit i) h rfl; exact keep _ f.inv f.T f.V_le
      | cancelWaiter i => have f := step_facts s (.cancelWaiter i) h rfl; exact keep _ f.inv f.T f.V_le

/-- **The number of holders never exceeds the largest limit that has been in force - also over
streams with composite steps** (a holder's exit and the cancellation of a waiter within one loop
iteration, anywhere in the stream, any number of times), for all targets and all initial limits. -/
theorem never_exceeds_max_target_composite (n : Int) (ops : List Op2) :
    ((run2 (init n) ops).1.holders.length : Int) ≤ maxTarget2 (max n 1) ops := by
  have i := run2_inv ops _ (init_inv n)
  have b := run2_bound ops (init n) (max n 1) (init_inv n) (Int.le_refl _) (Int.le_max_left _ _)
  have := i.cons; have := i.S_nonneg
  omega

theorem run2_plain (ops : List Op) : ∀ s, run2 s (ops.map Op2.plain) = run s ops := by
  induction ops with
  | nil => intro s; rfl
  | cons op ops ih => intro s; simp only [List.map, run2, run, step2, ih]

theorem run_inv (ops : List Op) (s : Lim) (h : Inv s) : Inv (run s ops).1 :=
  run2_plain ops s ▸ run2_inv _ s h

/-- on streams without composite steps the two ghosts agree, so the composite theorem specialises
to `never_exceeds_max_target` -/
theorem maxTarget2_plain (ops : List Op) : ∀ m, maxTarget2 m (ops.map Op2.plain) = maxTarget m ops := by
  induction ops with
  | nil => intro m; rfl
  | cons op ops ih =>
    intro m
    cases op <;> simp only [List.map, maxTarget2, maxTarget, ih]

-- the window itself: limit 1, a holder, a waiter; exit and cancellation of that waiter in one
-- iteration; the permit is back, the next entrant gets in
example : run2 (init 1) [.plain (.enter 0), .plain (.enter 1), .exitCancel 0 1, .plain (.enter 2)]
    = (⟨1, 1, 0, 0, [2], [], true⟩, [.entered 0, .cancelled 1, .entered 2]) := by decide +kernel
-- the cancelled waiter passes the permit on to the one behind it
example : (run2 (init 1) [.plain (.enter 0), .plain (.enter 1), .plain (.enter 2), .exitCancel 0 1]).2
    = [.entered 0, .cancelled 1, .entered 2] := by decide +kernel

-- non-vacuity of `fifo_admission_composite`: limit 1, holder 0, waiters 1 and 2; 0 leaves and 1 -
-- who had just been handed the permit - is cancelled in the same iteration: 2 is admitted
example : let s := (run (init 1) [.enter 0, .enter 1, .enter 2]).1
    Inv s ∧ 0 ∈ s.holders ∧ s.waiters = [1, 2] ∧ (stepExitCancel s 0 1).2 = [.cancelled 1, .entered 2] := by
  refine ⟨run_inv _ _ (init_inv 1), ?_, ?_, ?_⟩ <;> decide +kernel

-- non-vacuity: limit 1 raised to 2 while a holder leaves and the first waiter is cancelled in the
-- same iteration - two holders at the end, never more than the largest limit in force (2)
example : (run2 (init 1) [.plain (.enter 0), .plain (.enter 1), .plain (.enter 2), .plain (.enter 3),
      .plain (.setTarget 2), .exitCancel 0 1]).1.holders = [2, 3] := by decide +kernel
example : maxTarget2 (max 1 1) [.plain (.enter 0), .plain (.enter 1), .plain (.enter 2), .plain (.enter 3),
      .plain (.setTarget 2), .exitCancel 0 1] = 2 := by decide +kernel

end Aiorpcx.C13
