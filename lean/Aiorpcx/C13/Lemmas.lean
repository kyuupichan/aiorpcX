import Aiorpcx.C13.Model
/-! C13 — the wake-up chain: what `release`, `grow`, `admitTask` and `drain` do to the quantities
the property talks about. -/
namespace Aiorpcx.C13

/-- ids admitted (entered or refused) by a list of events, in order -/
def ids : List Ev → List Nat
  | [] => []
  | .entered i :: r => i :: ids r
  | .refused i :: r => i :: ids r
  | _ :: r => ids r

@[simp] theorem ids_nil : ids [] = [] := rfl
theorem ids_append (a b : List Ev) : ids (a ++ b) = ids a ++ ids b := by
  induction a with
  | nil => rfl
  | cons e r ih => cases e <;> simp [ids, ih]

theorem entered_mem_ids {j : Nat} {l : List Ev} (h : Ev.entered j ∈ l) : j ∈ ids l := by
  induction l with
  | nil => cases h
  | cons e r ih =>
    rcases List.mem_cons.1 h with rfl | h'
    · exact List.mem_cons_self
    · cases e <;> simp [ids, ih h']

/-- what a task is told once it has the permit: turned away at a limit ≤ 0, let in otherwise -/
def admitEv (T : Int) (i : Nat) : Ev := if T ≤ 0 then .refused i else .entered i

theorem ids_admitEv_cons (T : Int) (i : Nat) (r : List Ev) : ids (admitEv T i :: r) = i :: ids r := by
  unfold admitEv; split <;> rfl

theorem ids_map_admitEv (T : Int) (l : List Nat) : ids (l.map (admitEv T)) = l := by
  induction l with
  | nil => rfl
  | cons i r ih => rw [List.map_cons, ids_admitEv_cons, ih]

theorem map_admitEv_entered {T : Int} (h : 0 < T) {l : List Nat} {x : Ev}
    (hx : x ∈ l.map (admitEv T)) : ∃ j, x = .entered j := by
  obtain ⟨j, _, rfl⟩ := List.mem_map.1 hx
  exact ⟨j, if_neg (by omega)⟩

theorem map_admitEv_refused {T : Int} (h : T ≤ 0) {l : List Nat} {x : Ev}
    (hx : x ∈ l.map (admitEv T)) : ∃ j, x = .refused j := by
  obtain ⟨j, _, rfl⟩ := List.mem_map.1 hx
  exact ⟨j, if_pos h⟩

/-- permits that are out of `S` and not (yet) accounted to a holder or a woken task -/
def Work.slack (w : Work) : Int :=
  w.st.V - (w.st.S + w.st.holders.length + w.woken.length)

/-- the part of the invariant that holds at every point inside a step as well -/
structure SemInv (s : Lim) : Prop where
  S_nonneg : 0 ≤ s.S
  wait_S : s.waiters ≠ [] → s.S = 0
  V_pos : 1 ≤ s.V
  no_leak : s.leaked = 0
  fx : s.fixed = true

/-- `w'` arises from `w` by `dv` more units of capacity and `n` permits put into the semaphore:
the permits go to the first waiters, who are woken in order, what is left over to `S` -/
structure Feeds (dv n : Nat) (w w' : Work) : Prop where
  inv : SemInv w'.st
  T : w'.st.T = w.st.T
  V : w'.st.V = w.st.V + dv
  H : w'.st.holders = w.st.holders
  evs : w'.evs = w.evs
  woke : ∃ k, w'.woken = w.woken ++ k ∧ w.st.waiters = k ++ w'.st.waiters ∧
    w'.st.S + k.length = w.st.S + n

theorem Feeds.trans {a b c d : Nat} {w w' w'' : Work} (f : Feeds a b w w') (g : Feeds c d w' w'') :
    Feeds (a + c) (b + d) w w'' := by
  obtain ⟨k, k1, k2, k3⟩ := f.woke
  obtain ⟨l, l1, l2, l3⟩ := g.woke
  refine ⟨g.inv, g.T.trans f.T, ?_, g.H.trans f.H, g.evs.trans f.evs, k ++ l, ?_, ?_, ?_⟩
  · rw [g.V, f.V, Int.natCast_add, Int.add_assoc]
  · rw [l1, k1, List.append_assoc]
  · rw [k2, l2, List.append_assoc]
  · rw [List.length_append]; omega

theorem Feeds.slack {dv n : Nat} {w w' : Work} (f : Feeds dv n w w') : w'.slack = w.slack + dv - n := by
  obtain ⟨k, k1, _, k3⟩ := f.woke
  simp only [Work.slack, f.V, f.H, k1, List.length_append]
  omega

theorem release_nil (w : Work) (h : w.st.waiters = []) :
    release w = { w with st := { w.st with S := w.st.S + 1 } } := by
  simp [release, wakeNext, h]

theorem release_cons (w : Work) (x : Nat) (rest : List Nat) (h : w.st.waiters = x :: rest) :
    release w = { w with st := { w.st with S := w.st.S + 1 - 1, waiters := rest },
                         woken := w.woken ++ [x] } := by
  simp [release, wakeNext, h]

theorem release_spec (w : Work) (h : SemInv w.st) : Feeds 0 1 w (release w) := by
  cases hw : w.st.waiters with
  | nil =>
    rw [release_nil w hw]
    exact ⟨⟨Int.add_nonneg h.S_nonneg (by decide), fun hne => absurd hw hne, h.V_pos, h.no_leak, h.fx⟩,
      rfl, (Int.add_zero _).symm, rfl, rfl, [], (List.append_nil _).symm, rfl, Int.add_zero _⟩
  | cons x rest =>
    -- somebody waits, so `S = 0`: the permit goes straight to the head of the queue
    have hS : w.st.S + 1 - 1 = 0 := (Int.add_sub_cancel _ _).trans (h.wait_S (by simp [hw]))
    rw [release_cons w x rest hw]
    exact ⟨⟨Int.le_of_eq hS.symm, fun _ => hS, h.V_pos, h.no_leak, h.fx⟩, rfl, (Int.add_zero _).symm,
      rfl, rfl, [x], rfl, hw, congrArg (· + 1) (Int.add_sub_cancel _ _)⟩

theorem grow_spec (n : Nat) : ∀ (w : Work), SemInv w.st → Feeds n n w (grow n w) := by
  induction n with
  | zero =>
    intro w h
    exact ⟨h, rfl, (Int.add_zero _).symm, rfl, rfl, [], (List.append_nil _).symm, rfl, rfl⟩
  | succ n ih =>
    intro w h
    have h1 : SemInv ({ w with st := { w.st with V := w.st.V + 1 } } : Work).st :=
      ⟨h.S_nonneg, h.wait_S, Int.le_add_of_nonneg_left (Int.le_trans (by decide) h.V_pos), h.no_leak, h.fx⟩
    have g := (release_spec _ h1).trans (ih _ (release_spec _ h1).inv)
    obtain ⟨k, k1, k2, k3⟩ := g.woke
    refine ⟨g.inv, g.T, g.V.trans ?_, g.H, g.evs, k, k1, k2, k3.trans ?_⟩
    · show w.st.V + 1 + ((0 + n : Nat) : Int) = w.st.V + ((n + 1 : Nat) : Int); omega
    · show w.st.S + ((1 + n : Nat) : Int) = w.st.S + ((n + 1 : Nat) : Int); omega

/-- task `i`, holding the permit, runs `_retarget_semaphore` and then either enters the block or —
at a limit ≤ 0 — is refused and hands the permit back -/
structure Admits (i : Nat) (w w' : Work) : Prop where
  inv : SemInv w'.st
  T : w'.st.T = w.st.T
  V : w'.st.V = max w.st.V w.st.T
  H : w'.st.holders = if w.st.T ≤ 0 then w.st.holders else w.st.holders ++ [i]
  evs : w'.evs = w.evs ++ [admitEv w.st.T i]
  woke : ∃ k, w'.woken = w.woken ++ k ∧ w.st.waiters = k ++ w'.st.waiters
  slack : w'.slack = w.slack - 1

theorem add_toNat_sub (V T : Int) : V + ((T - V).toNat : Int) = max V T := by
  by_cases h : T ≤ V
  · rw [Int.toNat_of_nonpos (Int.sub_nonpos_of_le h), Int.max_eq_left h]; exact Int.add_zero V
  · have h' := Int.le_of_lt (Int.not_le.1 h)
    rw [Int.toNat_of_nonneg (Int.sub_nonneg_of_le h'), Int.max_eq_right h']; omega

theorem admitTask_spec (i : Nat) (w : Work) (h : SemInv w.st) : Admits i w (admitTask i w) := by
  unfold admitTask
  by_cases hT : w.st.T ≤ 0
  · simp only [hT, h.fx, ↓reduceIte]
    have f := release_spec { w with evs := w.evs ++ [Ev.refused i] } h
    obtain ⟨k, k1, k2, _⟩ := f.woke
    have hTV : w.st.T ≤ w.st.V := Int.le_trans hT (Int.le_trans (by decide) h.V_pos)
    exact ⟨f.inv, f.T, f.V.trans ((Int.add_zero _).trans (Int.max_eq_left hTV).symm),
      f.H.trans (if_pos hT).symm, by rw [f.evs, admitEv, if_pos hT], ⟨k, k1, k2⟩,
      f.slack.trans (by show w.slack + 0 - 1 = _; rw [Int.add_zero])⟩
  · simp only [hT, ↓reduceIte]
    have f := grow_spec (w.st.T - w.st.V).toNat w h
    generalize grow (w.st.T - w.st.V).toNat w = g at f
    obtain ⟨k, k1, k2, _⟩ := f.woke
    refine ⟨⟨f.inv.S_nonneg, f.inv.wait_S, f.inv.V_pos, f.inv.no_leak, f.inv.fx⟩, f.T,
      f.V.trans (add_toNat_sub _ _), (congrArg (· ++ [i]) f.H).trans (if_neg hT).symm, ?_, ⟨k, k1, k2⟩, ?_⟩
    · show g.evs ++ _ = _; rw [f.evs, admitEv, if_neg hT]
    · have := f.slack
      simp only [Work.slack, List.length_append, List.length_singleton] at this ⊢
      omega

/-- a woken waiter that resumes finds nobody to wake: either no permit is free or nobody waits -/
theorem resume_eq (i : Nat) (w : Work) (h : SemInv w.st) : resume i w = admitTask i w := by
  unfold resume
  split
  · next hS =>
    cases hw : w.st.waiters with
    | nil => simp only [wakeNext, hw]
    | cons a b => have := h.wait_S (by simp [hw]); omega
  · rfl

theorem drain_nil (n : Nat) (w : Work) (h : w.woken = []) : drain n w = w := by
  cases n with
  | zero => rfl
  | succ n => simp only [drain, h]

/-- the woken tasks have run, and those they woke in turn -/
structure Settled (w w' : Work) : Prop where
  inv : SemInv w'.st
  done : w'.woken = []
  T : w'.st.T = w.st.T
  slack : w'.slack = w.slack
  V_ge : w.st.V ≤ w'.st.V
  V_le : w'.st.V ≤ max w.st.V w.st.T
  V_raise : w.woken ≠ [] → w'.st.V = max w.st.V w.st.T
  H_nonpos : w.st.T ≤ 0 → w'.st.holders = w.st.holders
  /-- everybody woken, and a further stretch `l` from the front of the waiting list, has been
  dealt with - let in, or refused at a limit ≤ 0 - in that order -/
  dealt : ∃ l, w.st.waiters = l ++ w'.st.waiters ∧
    w'.evs = w.evs ++ (w.woken ++ l).map (admitEv w.st.T)

theorem Settled.refl {w : Work} (h : SemInv w.st) (hw : w.woken = []) : Settled w w :=
  ⟨h, hw, rfl, rfl, Int.le_refl _, Int.le_max_left _ _, fun hne => absurd hw hne, fun _ => rfl, [], rfl,
    by rw [hw]; simp⟩

theorem drain_spec (n : Nat) : ∀ (w : Work), SemInv w.st → w.woken.length + w.st.waiters.length ≤ n →
    Settled w (drain n w) := by
  induction n with
  | zero =>
    intro w h hn
    exact Settled.refl h (List.eq_nil_of_length_eq_zero (by omega))
  | succ n ih =>
    intro w h hn
    cases hw : w.woken with
    | nil => rw [drain_nil _ _ hw]; exact Settled.refl h hw
    | cons i rest =>
      have e : drain (n + 1) w = drain n (admitTask i { w with woken := rest }) := by
        simp only [drain, hw]; rw [resume_eq i { w with woken := rest } h]
      have a := admitTask_spec i { w with woken := rest } h
      obtain ⟨k, k1, k2⟩ := a.woke
      have aT : (admitTask i { w with woken := rest }).st.T = w.st.T := a.T
      have aV : (admitTask i { w with woken := rest }).st.V = max w.st.V w.st.T := a.V
      have k1' : (admitTask i { w with woken := rest }).woken = rest ++ k := k1
      have k2' : w.st.waiters = k ++ (admitTask i { w with woken := rest }).st.waiters := k2
      have d := ih _ a.inv (by
        rw [hw, k2'] at hn
        simp only [List.length_cons, List.length_append] at hn
        rw [k1', List.length_append]; omega)
      rw [e]
      obtain ⟨l, l1, l2⟩ := d.dealt
      have dV1 := d.V_ge
      have dV2 := d.V_le
      rw [aV] at dV1
      rw [aT, aV, Int.max_assoc, Int.max_self] at dV2
      refine ⟨d.inv, d.done, d.T.trans aT, ?_, Int.le_trans (Int.le_max_left _ _) dV1, dV2,
        fun _ => Int.le_antisymm dV2 dV1,
        fun hT => (d.H_nonpos (aT ▸ hT)).trans (a.H.trans (if_pos hT)), k ++ l, ?_, ?_⟩
      · rw [d.slack, a.slack]; simp only [Work.slack, hw, List.length_cons]; omega
      · rw [k2', l1, List.append_assoc]
      · rw [l2, a.evs, k1', aT, hw]; simp

end Aiorpcx.C13
