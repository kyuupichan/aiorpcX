import Aiorpcx.C13.Props
import Aiorpcx.C13.Table
import Aiorpcx.Facts.C13
/-!
# C13 — tie of the limiter model to the source

The behavioural tables are regenerated on every run by RUNNING the current tree
(tools/facts/c13.py).  Nothing below depends on how `Concurrency` is written — only on what it
does; a behaviour-preserving rewrite leaves the tables, hence these theorems, untouched.

Kept apart from Props.lean so that the properties that reuse the limiter *model and theorems*
(C14's composition, C20's outgoing limiter) do not depend on C13's facts tables.
-/
namespace Aiorpcx.C13

theorem facts_initial : Facts.C13.initialConcurrent = 20 ∧ Facts.C13.outgoingInitial = 50 ∧
    Facts.C13.refusalIsRuntimeError = true := by
  decide

def opOf (code arg : Int) : Op :=
  if code = 0 then .enter arg.toNat
  else if code = 1 then .exit arg.toNat
  else if code = 2 then .cancelWaiter arg.toNat
  else .setTarget arg

def evCode : Ev → List Int
  | .entered i => [0, (i : Int)]
  | .refused i => [1, (i : Int)]
  | .cancelled i => [2, (i : Int)]
  | .bad => [3, 0]

def insertSorted (x : Nat) : List Nat → List Nat
  | [] => [x]
  | y :: r => if x ≤ y then x :: y :: r else y :: insertSorted x r

def isort : List Nat → List Nat
  | [] => []
  | x :: r => insertSorted x (isort r)

def natsI (l : List Nat) : List Int := (l.length : Int) :: l.map (fun (x : Nat) => (x : Int))

/-- what the facts probe observes after each operation, computed by the model and flattened the
way tools/facts/limprobe.py flattens its own observations -/
def obsRun (s : Lim) : List Op → List Int
  | [] => []
  | op :: ops =>
      let r := step s op
      ((r.2.length : Int) :: (r.2.map evCode).flatten) ++ natsI (isort r.1.holders) ++
        natsI r.1.waiters ++ [r.1.T] ++ obsRun r.1 ops

/-- read `n` (code, argument) pairs -/
def takeOps : Nat → List Int → Option (List Op × List Int)
  | 0, l => some ([], l)
  | n + 1, c :: a :: l => (takeOps n l).map (fun r => (opOf c a :: r.1, r.2))
  | _ + 1, _ => none

def rowOk (row : List Int) : Bool :=
  match row with
  | n :: k :: rest =>
      match takeOps k.toNat rest with
      | some (ops, obs) => decide (obsRun (init n) ops = obs)
      | none => false
  | _ => false

/-! ### evaluating the table

The kernel evaluates by name and shares nothing: run through `obsRun`, every field of the state
after k operations is a term that still contains the whole run up to there and is reduced again at
every use.  `checkRun` makes the same comparison operation by operation, on a state brought to
normal form after each one (`forceLim`); `checkRun_eq` shows it is the same test. -/

/-- `k n`, with `n` evaluated first -/
def forceNat {α : Type} (n : Nat) (k : Nat → α) : α :=
  match n with
  | 0 => k 0
  | m + 1 => k (m + 1)

def forceInt {α : Type} (x : Int) (k : Int → α) : α :=
  match x with
  | .ofNat n => forceNat n fun n => k (.ofNat n)
  | .negSucc n => forceNat n fun n => k (.negSucc n)

def forceList {α : Type} : List Nat → (List Nat → α) → α
  | [], k => k []
  | x :: r, k => forceNat x fun x => forceList r fun r => k (x :: r)

def forceLim {α : Type} (s : Lim) (k : Lim → α) : α :=
  forceInt s.T fun T => forceInt s.V fun V => forceInt s.S fun S => forceNat s.leaked fun l =>
  forceList s.holders fun h => forceList s.waiters fun w =>
  match s.fixed with
  | true => k ⟨T, V, S, l, h, w, true⟩
  | false => k ⟨T, V, S, l, h, w, false⟩

theorem forceNat_eq {α : Type} (n : Nat) (k : Nat → α) : forceNat n k = k n := by
  cases n <;> rfl

theorem forceInt_eq {α : Type} (x : Int) (k : Int → α) : forceInt x k = k x := by
  cases x <;> simp only [forceInt, forceNat_eq]

theorem forceList_eq {α : Type} (l : List Nat) : ∀ k : List Nat → α, forceList l k = k l := by
  induction l with
  | nil => intro k; rfl
  | cons x r ih => intro k; rw [forceList, forceNat_eq, ih]

theorem forceLim_eq {α : Type} (s : Lim) (k : Lim → α) : forceLim s k = k s := by
  unfold forceLim
  simp only [forceInt_eq, forceNat_eq, forceList_eq]
  cases s with
  | mk T V S l h w f => cases f <;> rfl

/-- `obs` without its beginning `xs`, if it begins that way -/
def dropPrefix : List Int → List Int → Option (List Int)
  | [], obs => some obs
  | x :: xs, o :: obs => if x = o then dropPrefix xs obs else none
  | _ :: _, [] => none

theorem dropPrefix_some {xs : List Int} : ∀ {obs rest : List Int},
    dropPrefix xs obs = some rest ↔ obs = xs ++ rest := by
  induction xs with
  | nil => intro obs rest; simp [dropPrefix]
  | cons x xs ih =>
    intro obs rest
    cases obs with
    | nil => simp [dropPrefix]
    | cons o obs =>
      by_cases h : x = o
      · simp [dropPrefix, h, ih]
      · simp [dropPrefix, h, Ne.symm h]

/-- `obsRun s ops = obs`, tested operation by operation -/
def checkRun (s : Lim) : List Op → List Int → Bool
  | [], obs => obs.isEmpty
  | op :: ops, obs =>
      forceLim (step s op).1 fun s' =>
        match dropPrefix ((((step s op).2.length : Int) :: ((step s op).2.map evCode).flatten) ++
            natsI (isort s'.holders) ++ natsI s'.waiters ++ [s'.T]) obs with
        | some rest => checkRun s' ops rest
        | none => false

theorem checkRun_eq (ops : List Op) : ∀ (s : Lim) (obs : List Int),
    checkRun s ops obs = decide (obsRun s ops = obs) := by
  induction ops with
  | nil => intro s obs; cases obs <;> rfl
  | cons op ops ih =>
    intro s obs
    rw [show obsRun s (op :: ops) = _ ++ obsRun (step s op).1 ops from rfl]
    simp only [checkRun, forceLim_eq]
    split
    · next rest h =>
      rw [dropPrefix_some.1 h, ih, decide_eq_decide, List.append_right_inj]
    · next h =>
      refine (decide_eq_false fun he => ?_).symm
      rw [dropPrefix_some.2 he.symm] at h
      cases h

def rowOkStrict (row : List Int) : Bool :=
  match row with
  | n :: k :: rest =>
      match takeOps k.toNat rest with
      | some (ops, obs) => checkRun (init n) ops obs
      | none => false
  | _ => false

theorem rowOk_eq (row : List Int) : rowOk row = rowOkStrict row := by
  unfold rowOk rowOkStrict
  split
  · split
    · rw [checkRun_eq]
    · rfl
  · rfl

/-- **The model computes what the real `Concurrency` does** on the whole grid of operation
sequences the facts extractor ran (every applicable sequence of three operations over enter /
exit / cancel a waiter / `set_target 0..3` for initial limits 1 and 2, each followed by three
probe entries, plus the F23 scenarios and other longer sequences): same admissions, refusals,
holders, queue and `max_concurrent` after every operation.  On the tree without F23 this
obligation fails (rows with limit ≤ 0). -/
theorem facts_limiter_table :
    Facts.C13.limiterTable.all rowOk = true ∧ 100 ≤ Facts.C13.limiterTable.length := by
  rw [funext rowOk_eq]
  decide +kernel

/-- let the oldest holder leave until nobody holds a permit; collects the events and the peak -/
def drainOldest : Nat → Lim → List Ev → Nat → List Ev × Nat
  | 0, _, evs, pk => (evs, pk)
  | f + 1, s, evs, pk =>
      match s.holders with
      | [] => (evs, pk)
      | i :: _ =>
          let r := step s (.exit i)
          drainOldest f r.1 (evs ++ r.2) (max pk r.1.holders.length)

/-- a burst of `k` entries on a limiter of `limit`, then everybody leaves oldest first:
(peak number of holders, order of admission) -/
def burstObs (limit k : Nat) : Nat × List Nat :=
  let r := run (init (limit : Int)) ((List.range k).map Op.enter)
  let d := drainOldest k r.1 r.2 r.1.holders.length
  (d.2, ids d.1)

/-- **Both session classes run their handler inside the incoming limiter**: bursts of `k`
messages through a real `RPCSession` and a real `MessageSession` with `initial_concurrent = limit`
show exactly the peak concurrency and the start order the limiter model gives. -/
theorem facts_session_guard :
    Facts.C13.guardTable.all (fun row => decide (burstObs row.2.1 row.2.2.1 = (row.2.2.2.1, row.2.2.2.2)))
      = true ∧
    (Facts.C13.guardTable.map (·.1)).eraseDups = [0, 1] := by decide +kernel

/-- the history a row of the table stands for -/
def unansweredOps (k j how : Nat) : List SessOp :=
  List.replicate k .recv ++ List.replicate j .finish ++
    (if how = 1 then .loopExit :: List.replicate (k - j) .cancelled
     else if how = 2 then List.replicate (k - j) .cancelled else [])

/-- `unanswered_request_count()` read from live sessions of both classes agrees with the session
model - also after the handlers still running or queued were ended by the loss of the connection
or by the processing timeout -/
theorem facts_unanswered :
    Facts.C13.unansweredTable.all (fun row =>
      decide ((Sess.run ⟨true, 0⟩ (unansweredOps row.2.1 row.2.2.1 row.2.2.2.1)).unanswered = row.2.2.2.2))
      = true ∧ 20 ≤ Facts.C13.unansweredTable.length ∧
    (Facts.C13.unansweredTable.map (·.1)).eraseDups = [0, 1] ∧
    (Facts.C13.unansweredTable.map (·.2.2.2.1)).eraseDups = [0, 1, 2] := by decide +kernel

end Aiorpcx.C13
