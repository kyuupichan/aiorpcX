import Aiorpcx.C13.Lemmas
/-! C13 — what one quiescent big-step does, in the vocabulary of the property. -/
namespace Aiorpcx.C13

/-- the invariant of quiescent states of the repaired class — **any** targets, also ≤ 0, and any
number of refusals: no permit is ever lost (`S + |holders| = V`), nobody waits while a permit is
free, and at least one permit always stays in circulation -/
structure Inv (s : Lim) : Prop where
  S_nonneg : 0 ≤ s.S
  cons : s.S + s.holders.length = s.V
  wait_S : s.waiters ≠ [] → s.S = 0
  V_pos : 1 ≤ s.V
  no_leak : s.leaked = 0
  fx : s.fixed = true

theorem init_inv (n : Int) : Inv (init n) :=
  ⟨by simp only [init]; omega, by simp [init], by simp [init], by simp only [init]; omega, rfl, rfl⟩

theorem Inv.no_starvation {s : Lim} (h : Inv s) :
    (s.waiters ≠ [] → (s.holders.length : Int) = s.V ∧ s.holders ≠ []) ∧
    (s.holders = [] → s.waiters = []) := by
  have hc := h.cons; have hv := h.V_pos
  have key : s.waiters ≠ [] → (s.holders.length : Int) = s.V ∧ s.holders ≠ [] := fun hw => by
    have h0 := h.wait_S hw
    refine ⟨by omega, fun hh => ?_⟩
    rw [hh, h0] at hc; simp at hc; omega
  exact ⟨key, fun hh => Decidable.byContradiction fun hw => (key hw).2 hh⟩

theorem finish_spec (w : Work) (h : SemInv w.st) : ∃ w', Settled w w' ∧ finish w = (w'.st, w'.evs) :=
  ⟨_, drain_spec _ w h (Nat.le_refl _), rfl⟩

theorem finish_nil (w : Work) (h : w.woken = []) : finish w = (w.st, w.evs) := by
  unfold finish; rw [drain_nil _ _ h]

/-- a point inside a step that started in the quiescent state `s`, between two task activations:
`n` permits are out of `S` without being accounted to a holder or a woken task yet (the task about
to run holds one), the target is untouched and the capacity has at most grown towards it -/
structure Mid (s : Lim) (n : Int) (w : Work) : Prop where
  inv : SemInv w.st
  bal : w.slack = n
  T : w.st.T = s.T
  V_ge : s.V ≤ w.st.V
  V_le : w.st.V ≤ max s.V s.T

theorem Mid.release {s : Lim} {w : Work} (m : Mid s 1 w) : Mid s 0 (release w) :=
  have f := release_spec w m.inv
  have fV := f.V.trans (Int.add_zero _)
  ⟨f.inv, by rw [f.slack, m.bal]; rfl, f.T.trans m.T, fV ▸ m.V_ge, fV ▸ m.V_le⟩

theorem Mid.admitted {s : Lim} {w w' : Work} {i : Nat} (m : Mid s 1 w) (a : Admits i w w') :
    Mid s 0 w' :=
  ⟨a.inv, by rw [a.slack, m.bal]; rfl, a.T.trans m.T,
    a.V ▸ Int.le_trans m.V_ge (Int.le_max_left _ _),
    a.V ▸ Int.max_le.2 ⟨m.V_le, m.T ▸ Int.le_max_right _ _⟩⟩

/-- the next woken task is about to run -/
theorem Mid.pop {s : Lim} {w : Work} {x : Nat} {rest : List Nat} (m : Mid s 0 w)
    (hw : w.woken = x :: rest) : Mid s 1 { w with woken := rest } := by
  refine ⟨m.inv, ?_, m.T, m.V_ge, m.V_le⟩
  have := m.bal
  simp only [Work.slack, hw, List.length_cons] at this ⊢
  omega

theorem Mid.settled {s : Lim} {n : Int} {w w' : Work} (m : Mid s n w) (d : Settled w w') :
    Mid s n w' :=
  ⟨d.inv, d.slack.trans m.bal, d.T.trans m.T, Int.le_trans m.V_ge d.V_ge,
    Int.le_trans d.V_le (by rw [m.T]; exact Int.max_le.2 ⟨m.V_le, Int.le_max_right _ _⟩)⟩

theorem Mid.quiescent {s : Lim} {w : Work} (m : Mid s 0 w) (hw : w.woken = []) : Inv w.st := by
  have := m.bal
  simp only [Work.slack, hw, List.length_nil] at this
  exact ⟨m.inv.S_nonneg, by omega, m.inv.wait_S, m.inv.V_pos, m.inv.no_leak, m.inv.fx⟩

/-- outcome `r` of a step from the quiescent state `s` that leaves the target alone and deals with
the arrival-ordered queue `q`: those admitted (let in or refused) followed by those still waiting
are `q`; the capacity has at most grown towards the target; at a limit ≤ 0 nobody got in -/
structure Outcome (s : Lim) (q : List Nat) (r : Lim × List Ev) : Prop where
  inv : Inv r.1
  T : r.1.T = s.T
  V_le : r.1.V ≤ max s.V s.T
  queue : ids r.2 ++ r.1.waiters = q
  refuses : s.T ≤ 0 → ∀ k, Ev.entered k ∉ r.2

theorem Mid.outcome {s : Lim} {w : Work} (m : Mid s 0 w) (hev : s.T ≤ 0 → ∀ k, Ev.entered k ∉ w.evs) :
    Outcome s (ids w.evs ++ (w.woken ++ w.st.waiters)) (finish w) := by
  obtain ⟨w', d, hf⟩ := finish_spec w m.inv
  have m' := m.settled d
  obtain ⟨l, l1, l2⟩ := d.dealt
  rw [hf]
  refine ⟨m'.quiescent d.done, m'.T, m'.V_le, ?_, fun hT k hk => ?_⟩
  · show ids w'.evs ++ w'.st.waiters = _
    rw [l2, ids_append, ids_map_admitEv, l1]; simp only [List.append_assoc]
  · rcases List.mem_append.1 (l2 ▸ hk : Ev.entered k ∈ _ ++ _) with hk | hk
    · exact hev hT k hk
    · obtain ⟨j, hj⟩ := map_admitEv_refused (m.T ▸ hT) hk
      cases hj

theorem step_enter_wait (s : Lim) (i : Nat) (h : s.S = 0 ∨ s.waiters ≠ []) :
    step s (.enter i) = ({ s with waiters := s.waiters ++ [i] }, []) := by
  simp [step, h]

theorem step_enter_now (s : Lim) (i : Nat) (h1 : s.S ≠ 0) (h2 : s.waiters = []) :
    step s (.enter i) = finish (admitTask i ⟨{ s with S := s.S - 1 }, [], []⟩) := by
  simp [step, h1, h2]

theorem step_exit_bad (s : Lim) (i : Nat) (h : i ∉ s.holders) :
    step s (.exit i) = (s, [Ev.bad]) := by
  simp [step, h]

/-- the retire bound of the repaired class: the target, but never below 1 -/
def bound (s : Lim) : Int := max s.T 1

theorem bound_congr {s s' : Lim} (h : s'.T = s.T) : bound s' = bound s :=
  congrArg (max · 1) h

theorem retireBound_fixed (s : Lim) (h : s.fixed = true) (l : List Nat) :
    retireBound { s with holders := l } = bound s := by
  simp [retireBound, bound, h]

theorem step_exit_retire (s : Lim) (hf : s.fixed = true) (i : Nat) (h : i ∈ s.holders)
    (hv : s.V > bound s) :
    step s (.exit i) = ({ s with holders := s.holders.erase i, V := s.V - 1 }, []) := by
  simp only [step, h, ↓reduceIte, retireBound_fixed s hf]
  simp [hv]

theorem step_exit_release (s : Lim) (hf : s.fixed = true) (i : Nat) (h : i ∈ s.holders)
    (hv : ¬ s.V > bound s) :
    step s (.exit i) = finish (release ⟨{ s with holders := s.holders.erase i }, [], []⟩) := by
  simp only [step, h, ↓reduceIte, retireBound_fixed s hf]
  simp [hv]

theorem step_cancel (s : Lim) (i : Nat) (h : i ∈ s.waiters) :
    step s (.cancelWaiter i) = ({ s with waiters := s.waiters.erase i }, [Ev.cancelled i]) := by
  simp [step, h]

theorem step_cancel_bad (s : Lim) (i : Nat) (h : i ∉ s.waiters) :
    step s (.cancelWaiter i) = (s, [Ev.bad]) := by
  simp [step, h]

theorem step_setTarget (s : Lim) (n : Int) : step s (.setTarget n) = ({ s with T := n }, []) := rfl

/-- `enter i` when the semaphore is not locked: the task is told at once, nobody else moves -/
structure EnterNowSpec (s : Lim) (i : Nat) (r : Lim × List Ev) : Prop where
  inv : Inv r.1
  T : r.1.T = s.T
  V : r.1.V = max s.V s.T
  evs : r.2 = [admitEv s.T i]
  H : r.1.holders = if s.T ≤ 0 then s.holders else s.holders ++ [i]
  waiters : r.1.waiters = []

theorem enter_now_spec (s : Lim) (i : Nat) (h : Inv s) (hS : s.S ≠ 0) (hw : s.waiters = []) :
    EnterNowSpec s i (finish (admitTask i ⟨{ s with S := s.S - 1 }, [], []⟩)) := by
  have hS0 := h.S_nonneg
  have hc := h.cons
  have m0 : Mid s 1 ⟨{ s with S := s.S - 1 }, [], []⟩ :=
    ⟨⟨by show 0 ≤ s.S - 1; omega, fun hne => absurd hw hne, h.V_pos, h.no_leak, h.fx⟩,
      by show s.V - (s.S - 1 + s.holders.length + (0 : Nat)) = 1; omega, rfl, Int.le_refl _,
      Int.le_max_left _ _⟩
  have a := admitTask_spec i _ m0.inv
  have m := m0.admitted a
  generalize admitTask i ⟨{ s with S := s.S - 1 }, [], []⟩ = w1 at a m
  obtain ⟨k, k1, k2⟩ := a.woke
  have hk := List.append_eq_nil_iff.1 (k2.symm.trans hw)
  have hwk : w1.woken = [] := by rw [k1, hk.1]; rfl
  rw [finish_nil w1 hwk]
  exact ⟨m.quiescent hwk, a.T, a.V, a.evs, a.H, hk.2⟩

/-- `exit i` of a holder when no capacity has to be retired (`V ≤ max T 1`): the permit goes back
to the semaphore -/
structure ExitReleaseSpec (s : Lim) (i : Nat) (r : Lim × List Ev) : Prop where
  inv : Inv r.1
  T : r.1.T = s.T
  queue : ids r.2 ++ r.1.waiters = s.waiters
  V_le : r.1.V ≤ max s.V s.T
  V_ge : s.V ≤ r.1.V
  V_same : s.T ≤ s.V → r.1.V = s.V
  progress : s.waiters ≠ [] → ids r.2 ≠ [] ∧ (0 < s.T → r.1.V = max s.V s.T)
  H_nonpos : s.T ≤ 0 → r.1.holders = s.holders.erase i
  evs : (0 < s.T → ∀ x ∈ r.2, ∃ j, x = Ev.entered j) ∧ (s.T ≤ 0 → ∀ x ∈ r.2, ∃ j, x = Ev.refused j)

/-- the exiting holder's permit is back in the semaphore and the head waiter, if any, is woken -/
theorem exit_released (s : Lim) (i : Nat) (h : Inv s) (hi : i ∈ s.holders) :
    let w := release ⟨{ s with holders := s.holders.erase i }, [], []⟩
    Mid s 0 w ∧ w.evs = [] ∧ w.woken ++ w.st.waiters = s.waiters ∧ w.st.holders = s.holders.erase i ∧
    (s.waiters ≠ [] → w.woken ≠ []) := by
  intro w
  have m0 : Mid s 1 ⟨{ s with holders := s.holders.erase i }, [], []⟩ :=
    ⟨⟨h.S_nonneg, h.wait_S, h.V_pos, h.no_leak, h.fx⟩, by
      have := h.cons; have := List.length_erase_of_mem hi; have := List.length_pos_of_mem hi
      show s.V - (s.S + (s.holders.erase i).length + (0 : Nat)) = 1; omega,
      rfl, Int.le_refl _, Int.le_max_left _ _⟩
  have f : Feeds 0 1 _ w := release_spec _ m0.inv
  obtain ⟨k, k1, k2, k3⟩ := f.woke
  have k1' : w.woken = k := k1
  have k2' : s.waiters = k ++ w.st.waiters := k2
  refine ⟨m0.release, f.evs, by rw [k1', ← k2'], f.H, fun hne hk => ?_⟩
  -- nobody woken although somebody waits: the permit would be free (`S = 1`) with waiters left
  have k3' : w.st.S + k.length = s.S + 1 := k3
  rw [k1'] at hk
  rw [hk, List.nil_append] at k2'
  rw [hk] at k3'
  have := f.inv.wait_S (k2' ▸ hne)
  have := h.S_nonneg
  simp only [List.length_nil] at k3'
  omega

theorem exit_release_spec (s : Lim) (i : Nat) (h : Inv s) (hi : i ∈ s.holders) :
    ExitReleaseSpec s i (finish (release ⟨{ s with holders := s.holders.erase i }, [], []⟩)) := by
  obtain ⟨m, e1, e2, e3, e4⟩ := exit_released s i h hi
  generalize release ⟨{ s with holders := s.holders.erase i }, [], []⟩ = w at m e1 e2 e3 e4
  obtain ⟨w', d, hf⟩ := finish_spec w m.inv
  have m' := m.settled d
  obtain ⟨l, l1, l2⟩ := d.dealt
  rw [e1, List.nil_append, m.T] at l2
  have hq : ids w'.evs ++ w'.st.waiters = s.waiters := by
    rw [l2, ids_map_admitEv, List.append_assoc, ← l1, e2]
  rw [hf]
  refine ⟨m'.quiescent d.done, m'.T, hq, m'.V_le, m'.V_ge, fun hTV => ?_, fun hne => ⟨?_, fun _ => ?_⟩,
    fun hT => (d.H_nonpos (m.T ▸ hT)).trans e3,
    fun hT x hx => map_admitEv_entered hT (l2 ▸ hx), fun hT x hx => map_admitEv_refused hT (l2 ▸ hx)⟩
  · exact Int.le_antisymm (Int.max_eq_left hTV ▸ m'.V_le) m'.V_ge
  · show ids w'.evs ≠ []
    rw [l2, ids_map_admitEv]
    exact fun hnil => e4 hne (List.append_eq_nil_iff.1 hnil).1
  · show w'.st.V = _
    rw [d.V_raise (e4 hne), m.T]
    exact Int.le_antisymm (Int.max_le.2 ⟨m.V_le, Int.le_max_right _ _⟩)
      (Int.max_le.2 ⟨Int.le_trans m.V_ge (Int.le_max_left _ _), Int.le_max_right _ _⟩)

def Op.isSetTarget : Op → Bool
  | .setTarget _ => true
  | _ => false

/-- 1 when `op` is the exit of a task that really holds a permit -/
def effExit (s : Lim) : Op → Nat
  | .exit i => if i ∈ s.holders then 1 else 0
  | _ => 0

/-- the arrival-ordered queue a step has to deal with: a newcomer goes to the back, a waiter that
gives up leaves it -/
def queueAt (s : Lim) : Op → List Nat
  | .enter i => s.waiters ++ [i]
  | .cancelWaiter i => s.waiters.erase i
  | _ => s.waiters

/-- what every step other than `set_target` does, in one place: the outcome of a step on the queue
`queueAt s op`, and the capacity moves towards the target - up when somebody enters, down by one
when a holder leaves while there is excess -/
structure StepFacts (s : Lim) (op : Op) (r : Lim × List Ev) : Prop
    extends Outcome s (queueAt s op) r where
  V_eff : s.T ≤ s.V → r.1.V = max (bound s) (s.V - effExit s op)
  raise : ∀ j, Ev.entered j ∈ r.2 → r.1.V = max s.V s.T

/-- with the target at or below it the capacity stays where it is unless a holder leaves -/
theorem cap_same {s : Lim} (hv : 1 ≤ s.V) (h : s.T ≤ s.V) :
    s.V = max (bound s) (s.V - ((0 : Nat) : Int)) := by
  rw [show ((0 : Nat) : Int) = 0 from rfl, Int.sub_zero]
  exact (Int.max_eq_right (Int.max_le.2 ⟨h, hv⟩)).symm

theorem step_facts (s : Lim) (op : Op) (h : Inv s) (hop : op.isSetTarget = false) :
    StepFacts s op (step s op) := by
  have hS0 := h.S_nonneg
  have hc := h.cons
  have hvp := h.V_pos
  cases op with
  | setTarget n => exact absurd hop (by simp [Op.isSetTarget])
  | enter i =>
    by_cases hl : s.S = 0 ∨ s.waiters ≠ []
    · rw [step_enter_wait s i hl]
      exact ⟨⟨⟨hS0, hc, fun _ => hl.elim id h.wait_S, hvp, h.no_leak, h.fx⟩, rfl, Int.le_max_left _ _,
        rfl, fun _ _ hj => nomatch hj⟩, cap_same hvp, fun _ hj => nomatch hj⟩
    · have h1 : s.S ≠ 0 := fun hh => hl (Or.inl hh)
      have h2 : s.waiters = [] := Decidable.byContradiction fun hh => hl (Or.inr hh)
      rw [step_enter_now s i h1 h2]
      have e := enter_now_spec s i h h1 h2
      refine ⟨⟨e.inv, e.T, Int.le_of_eq e.V, ?_, fun hT j hj => ?_⟩, fun hTV => ?_, fun _ _ => e.V⟩
      · show ids _ ++ _ = s.waiters ++ [i]
        rw [e.evs, e.waiters, h2, ids_admitEv_cons]; rfl
      · rw [e.evs, admitEv, if_pos hT] at hj
        simp at hj
      · rw [e.V, Int.max_eq_left hTV]; exact cap_same hvp hTV
  | exit i =>
    by_cases hi : i ∈ s.holders
    · by_cases hv : s.V > bound s
      · rw [step_exit_retire s h.fx i hi hv]
        have hlen := List.length_erase_of_mem hi
        have hpos := List.length_pos_of_mem hi
        have hb : 1 ≤ bound s := Int.le_max_right _ _
        exact ⟨⟨⟨hS0, by show s.S + ((s.holders.erase i).length : Int) = s.V - 1; omega, h.wait_S,
          by show 1 ≤ s.V - 1; omega, h.no_leak, h.fx⟩, rfl,
          Int.le_trans (Int.sub_le_self _ (by decide)) (Int.le_max_left _ _), rfl,
          fun _ _ hj => nomatch hj⟩,
          fun _ => by
            simp only [effExit, hi, ↓reduceIte]
            exact (Int.max_eq_right (Int.le_sub_one_of_lt hv)).symm,
          fun _ hj => nomatch hj⟩
      · rw [step_exit_release s h.fx i hi hv]
        have e := exit_release_spec s i h hi
        have noEnt : ∀ j, Ev.entered j ∈ _ → ¬ s.T ≤ 0 := fun j hj hT => by
          obtain ⟨k, hk⟩ := e.evs.2 hT _ hj
          cases hk
        refine ⟨⟨e.inv, e.T, e.V_le, e.queue, fun hT j hj => noEnt j hj hT⟩, fun hTV => ?_,
          fun j hj => ?_⟩
        · -- no excess and the target not above the capacity: `V = bound`, and it stays
          have hVb : s.V = bound s := Int.le_antisymm (Int.not_lt.1 hv) (Int.max_le.2 ⟨hTV, hvp⟩)
          rw [e.V_same hTV]; simp only [effExit, hi, ↓reduceIte]
          rw [hVb]; exact (Int.max_eq_left (Int.sub_le_self _ (by decide))).symm
        · -- somebody entered, so somebody had been waiting and the target is positive
          refine (e.progress fun h0 => ?_).2 (Int.not_le.1 (noEnt j hj))
          have := entered_mem_ids hj
          rw [(List.append_eq_nil_iff.1 (e.queue.trans h0)).1] at this
          cases this
    · rw [step_exit_bad s i hi]
      refine ⟨⟨h, rfl, Int.le_max_left _ _, rfl, fun _ _ hj => by simp at hj⟩, fun hTV => ?_,
        fun _ hj => by simp at hj⟩
      simp only [effExit, hi, ↓reduceIte]; exact cap_same hvp hTV
  | cancelWaiter i =>
    by_cases hi : i ∈ s.waiters
    · rw [step_cancel s i hi]
      exact ⟨⟨⟨hS0, hc, fun _ => h.wait_S (List.ne_nil_of_mem hi), hvp, h.no_leak, h.fx⟩, rfl,
        Int.le_max_left _ _, rfl, fun _ _ hj => by simp at hj⟩, cap_same hvp,
        fun _ hj => by simp at hj⟩
    · rw [step_cancel_bad s i hi]
      exact ⟨⟨h, rfl, Int.le_max_left _ _, (List.erase_of_not_mem hi).symm,
        fun _ _ hj => by simp at hj⟩, cap_same hvp, fun _ hj => by simp at hj⟩

theorem step_inv (s : Lim) (op : Op) (h : Inv s) : Inv (step s op).1 := by
  cases hop : op.isSetTarget with
  | false => exact (step_facts s op h hop).inv
  | true =>
    cases op with
    | setTarget n => exact ⟨h.S_nonneg, h.cons, h.wait_S, h.V_pos, h.no_leak, h.fx⟩
    | _ => simp [Op.isSetTarget] at hop

end Aiorpcx.C13
