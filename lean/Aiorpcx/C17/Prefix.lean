import Aiorpcx.C17.Spec
/-! C17 — grammar lemmas: what a granting reply sequence looks like, and that every proper
    prefix of one is `bad` (so "EOF at every offset before completion" is covered by the `bad`
    case of `outcome_spec`). -/
namespace Aiorpcx.C17
open Aiorpcx.C17.Spec

theorem verdict4_short {s : Bytes} (h : s.length < 8) : verdict4 s = .bad := by
  match s with
  | [] | [_] | [_, _] | [_, _, _] | [_, _, _, _] | [_, _, _, _, _] | [_, _, _, _, _, _]
  | [_, _, _, _, _, _, _] => rfl
  | _ :: _ :: _ :: _ :: _ :: _ :: _ :: _ :: _ => simp at h; omega

theorem verdict4_granted {s : Bytes} {n : Nat} (h : verdict4 s = .granted n) :
    n = 8 ∧ 8 ≤ s.length := by
  match s with
  | [] | [_] | [_, _] | [_, _, _] | [_, _, _, _] | [_, _, _, _, _] | [_, _, _, _, _, _]
  | [_, _, _, _, _, _, _] => simp [verdict4] at h
  | vn :: cd :: _ :: _ :: _ :: _ :: _ :: _ :: _ =>
    simp only [verdict4] at h
    by_cases h1 : vn = 0 <;> by_cases h2 : cd = 90 <;> simp [h1, h2] at h
    exact ⟨h.symm, by simp⟩

theorem verdict4_prefix_bad (s : Bytes) (h : verdict4 s = .granted s.length) (j : Nat)
    (hj : j < s.length) : verdict4 (s.take j) = .bad :=
  verdict4_short (by have := (verdict4_granted h).1; simp only [List.length_take]; omega)

theorem addrFieldLen_some {atyp : UInt8} {after : Bytes} {n : Nat}
    (h : addrFieldLen atyp after = some n) :
    (atyp = 1 ∧ n = 4) ∨ (atyp = 4 ∧ n = 16) ∨
      (atyp = 3 ∧ ∃ l rest, after = l :: rest ∧ n = 1 + l.toNat) := by
  unfold addrFieldLen at h
  split at h
  · exact Or.inl ⟨‹_›, by simpa using h.symm⟩
  · split at h
    · exact Or.inr (Or.inl ⟨‹_›, by simpa using h.symm⟩)
    · split at h
      · cases after with
        | nil => simp at h
        | cons l rest => exact Or.inr (Or.inr ⟨‹_›, l, rest, rfl, by simpa using h.symm⟩)
      · simp at h

theorem addrFieldLen_take (atyp : UInt8) (after : Bytes) (n j : Nat)
    (h : addrFieldLen atyp after = some n) :
    addrFieldLen atyp (after.take j) = some n ∨ addrFieldLen atyp (after.take j) = none := by
  rcases addrFieldLen_some h with ⟨rfl, rfl⟩ | ⟨rfl, rfl⟩ | ⟨rfl, l, rest, rfl, rfl⟩
  · exact Or.inl rfl
  · exact Or.inl rfl
  · cases j with
    | zero => exact Or.inr rfl
    | succ j => exact Or.inl rfl

/-- a granting RFC 1928 reply: `05 00 00 ATYP`, an address field that is all there, two more
    bytes -/
theorem connectReply_granted {s : Bytes} {n : Nat} (h : connectReply s = .granted n) :
    ∃ atyp after addr, s = 5 :: 0 :: 0 :: atyp :: after ∧ (atyp = 1 ∨ atyp = 3 ∨ atyp = 4) ∧
      addrFieldLen atyp after = some addr ∧ addr + 2 ≤ after.length ∧ n = 4 + addr + 2 := by
  match s with
  | [] | [_] | [_, _] | [_, _, _] => simp [connectReply] at h
  | ver :: rep :: rsv :: atyp :: after =>
    simp only [connectReply] at h
    by_cases hb : ver ≠ 5 ∨ rsv ≠ 0
    · rw [if_pos hb] at h; cases h
    by_cases ha : atyp = 1 ∨ atyp = 3 ∨ atyp = 4
    · rw [if_neg hb, if_neg (not_not_intro ha)] at h
      cases hn : addrFieldLen atyp after with
      | none => simp only [hn] at h; split at h <;> cases h
      | some addr =>
        simp only [hn] at h
        by_cases hlen : addr + 2 ≤ after.length
        · by_cases hrep : rep = 0
          · simp only [if_pos hlen, if_pos hrep] at h
            have hv : ver = 5 := Decidable.byContradiction fun x => hb (Or.inl x)
            have hr : rsv = 0 := Decidable.byContradiction fun x => hb (Or.inr x)
            subst hv hr hrep
            exact ⟨atyp, after, addr, rfl, ha, hn, hlen, (Verdict.granted.inj h).symm⟩
          · simp only [if_pos hlen, if_neg hrep] at h; cases h
        · simp only [if_neg hlen] at h; split at h <;> cases h
    · rw [if_neg hb, if_pos ha] at h; cases h

theorem connectReply_prefix_bad (s : Bytes) (h : connectReply s = .granted s.length) (j : Nat)
    (hj : j < s.length) : connectReply (s.take j) = .bad := by
  obtain ⟨atyp, after, addr, rfl, ha, hn, hlen, hs⟩ := connectReply_granted h
  simp only [List.length_cons] at hs hj
  match j with
  | 0 | 1 | 2 | 3 => rfl
  | j' + 4 =>
    rcases addrFieldLen_take atyp after addr j' hn with h' | h' <;> simp [connectReply, ha, h']
    omega

theorem shift_granted_len {k : Nat} {v : Verdict} {n : Nat} (h : v.shift k = .granted n) :
    ∃ m, v = .granted m ∧ n = k + m := by
  cases v <;> simp [Verdict.shift] at h
  exact ⟨_, rfl, h.symm⟩

/-- a granting SOCKS5 dialogue: `05 00` and a granting reply, or - with credentials offered -
    `05 02`, `01 00` and a granting reply -/
theorem verdict5_granted {creds : Bool} {s : Bytes} {n : Nat} (h : verdict5 creds s = .granted n) :
    (∃ s1 k, s = 5 :: 0 :: s1 ∧ connectReply s1 = .granted k ∧ n = 2 + k) ∨
    (creds = true ∧ ∃ s2 k, s = 5 :: 2 :: 1 :: 0 :: s2 ∧ connectReply s2 = .granted k ∧
      n = 4 + k) := by
  match s with
  | [] | [_] => simp [verdict5] at h
  | ver :: m :: s1 =>
    simp only [verdict5] at h
    by_cases hv : ver ≠ 5
    · rw [if_pos hv] at h; cases h
    have hv' : ver = 5 := Decidable.not_not.1 hv
    by_cases hm : m = 0
    · rw [if_neg hv, if_pos hm] at h
      obtain ⟨k, hk, hn⟩ := shift_granted_len h
      exact Or.inl ⟨s1, k, by rw [hv', hm], hk, hn⟩
    by_cases hc : m = 2 ∧ creds = true
    · rw [if_neg hv, if_neg hm, if_pos hc] at h
      match s1 with
      | [] | [_] => cases h
      | av :: st :: s2 =>
        simp only at h
        by_cases hav : av ≠ 1
        · rw [if_pos hav] at h; cases h
        by_cases hst : st ≠ 0
        · rw [if_neg hav, if_pos hst] at h; cases h
        rw [if_neg hav, if_neg hst] at h
        obtain ⟨k, hk, hn⟩ := shift_granted_len h
        exact Or.inr ⟨hc.2, s2, k,
          by rw [hv', hc.1, Decidable.not_not.1 hav, Decidable.not_not.1 hst], hk, hn⟩
    · rw [if_neg hv, if_neg hm, if_neg hc] at h; cases h

theorem verdict5_prefix_bad (creds : Bool) (s : Bytes) (h : verdict5 creds s = .granted s.length)
    (j : Nat) (hj : j < s.length) : verdict5 creds (s.take j) = .bad := by
  rcases verdict5_granted h with ⟨s1, k, rfl, hk, hn⟩ | ⟨hc, s2, k, rfl, hk, hn⟩
  · simp only [List.length_cons] at hn hj
    have hk' : connectReply s1 = .granted s1.length := by rw [hk]; congr 1; omega
    match j with
    | 0 | 1 => rfl
    | j' + 2 =>
      simp only [List.take_succ_cons, verdict5]
      rw [connectReply_prefix_bad s1 hk' j' (by omega)]
      rfl
  · simp only [List.length_cons] at hn hj
    have hk' : connectReply s2 = .granted s2.length := by rw [hk]; congr 1; omega
    match j with
    | 0 | 1 => rfl
    | 2 | 3 => simp [verdict5, hc]
    | j' + 4 =>
      simp only [List.take_succ_cons, verdict5, hc]
      rw [connectReply_prefix_bad s2 hk' j' (by omega)]
      rfl

end Aiorpcx.C17
