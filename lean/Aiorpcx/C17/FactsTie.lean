import Aiorpcx.C17.ByHand
import Aiorpcx.Facts.C17
/-! C17 — the decision tables regenerated from the source tree on every run
    (`tools/facts/c17.py`: what the *real* protocol objects do for every value 0..255 of every
    decision byte) are exactly what the model does: if an edit of `socks.py` changes the reaction
    to any value of any decision byte, one of these stops compiling.

    A by-hand run of the model is its closed form (`tableEntry_closed`, `driveExact_closed`).
    `simp` works the closed form out on each table's stream with the decision byte `b` left
    symbolic, which leaves a conditional in `b` (e.g. `if b % 256 = 5 then handOf 13 1 ⟨none, [],
    [7, 0]⟩ else handOf 13 1 ⟨some .socksProtocolError, [], ..⟩`); the kernel evaluates that for
    the 256 values.  (Letting the kernel run the closed form, or the model itself, on all 256
    streams of a table is much slower to check.) -/
namespace Aiorpcx.C17
open Aiorpcx.Socks

/-- the extractor's client configurations are the ones used here -/
theorem facts_cfgs :
    mkCfg .socks4 (.ipv4 (vec4 1 2 3 4)) 80 none = .ok cfg4 ∧
    mkCfg .socks5 (.ipv4 (vec4 1 2 3 4)) 80 none = .ok cfg5n ∧
    mkCfg .socks5 (.ipv4 (vec4 1 2 3 4)) 80 (some ([117], [112])) = .ok cfg5a := by decide

theorem socks4Start_cfg4 :
    socks4Start (.ipv4 (vec4 1 2 3 4)) 80 none = .ok [4, 1, 0, 80, 1, 2, 3, 4, 0] := by decide

attribute [local simp] table tableEntry_closed handOf_consMsg
  handOf_ite startRun first4Run first5Run authRun connectRun eofRun cfg4 cfg5n cfg5a ok5
  socks4Start_cfg4 Cfg.methods addrLenOf UInt8.ofNat_eq_iff_mod_eq_toNat

/-- SOCKS4 reply: every value of VN and of CD; and with a second fault (VN with a refusing CD,
    CD with a bad VN: the version check wins) -/
theorem facts_table_socks4 :
    Facts.C17.s4Vn = table cfg4 (fun b => [b, 90, 0, 0, 0, 0, 0, 0, 7]) ∧
    Facts.C17.s4Cd = table cfg4 (fun b => [0, b, 1, 2, 3, 4, 5, 6, 7]) ∧
    Facts.C17.s4VnRefused = table cfg4 (fun b => [b, 91, 0, 0, 0, 0, 0, 0, 7]) ∧
    Facts.C17.s4CdVnBad = table cfg4 (fun b => [1, b, 0, 0, 0, 0, 0, 0, 7]) := by
  simp
  decide +kernel

/-- RFC 1928 method selection: every value of VER and of METHOD, with and without credentials;
    VER with a refusing METHOD, METHOD with a bad VER -/
theorem facts_table_method :
    Facts.C17.s5Ver = table cfg5n (fun b => [b, 0] ++ ok5 ++ [7]) ∧
    Facts.C17.s5MethodNoAuth = table cfg5n (fun b => [5, b] ++ ok5 ++ [7]) ∧
    Facts.C17.s5MethodAuth = table cfg5a (fun b => [5, b] ++ ok5 ++ [7]) ∧
    Facts.C17.s5VerMethodBad = table cfg5n (fun b => [b, 255] ++ ok5 ++ [7]) ∧
    Facts.C17.s5MethodVerBad = table cfg5a (fun b => [4, b] ++ ok5 ++ [7]) := by
  simp
  decide +kernel

/-- RFC 1929 status reply: every value of VER and of STATUS; each with the other one faulty -/
theorem facts_table_auth :
    Facts.C17.s5AuthVer = table cfg5a (fun b => [5, 2, b, 0] ++ ok5 ++ [7]) ∧
    Facts.C17.s5AuthStatus = table cfg5a (fun b => [5, 2, 1, b] ++ ok5 ++ [7]) ∧
    Facts.C17.s5AuthVerStatusBad = table cfg5a (fun b => [5, 2, b, 1] ++ ok5 ++ [7]) ∧
    Facts.C17.s5AuthStatusVerBad = table cfg5a (fun b => [5, 2, 2, b] ++ ok5 ++ [7]) := by
  simp
  decide +kernel

/-- RFC 1928 reply: every value of VER, REP, RSV, ATYP (granting) -/
theorem facts_table_reply :
    Facts.C17.s5ConnVer = table cfg5n (fun b => [5, 0, b, 0, 0, 1, 9, 9, 9, 9, 0, 80, 7]) ∧
    Facts.C17.s5ConnRep = table cfg5n (fun b => [5, 0, 5, b, 0, 1, 9, 9, 9, 9, 0, 80, 7]) ∧
    Facts.C17.s5ConnRsv = table cfg5n (fun b => [5, 0, 5, 0, b, 1, 9, 9, 9, 9, 0, 80, 7]) ∧
    Facts.C17.s5ConnAtyp = table cfg5n (fun b => [5, 0, 5, 0, 0, b, 2] ++ List.replicate 20 9) ∧
    Facts.C17.s5ZeroReply = table cfg5n (fun b => [5, 0, 5, 0, 0, 1, 0, 0, 0, 0, 0, 0, b]) := by
  simp
  decide +kernel

/-- RFC 1928 reply with two faults: which check wins.  A malformed VER / RSV / ATYP beats a
    refusal code (SOCKSProtocolError, not SOCKSFailure), whatever the value of the other byte. -/
theorem facts_table_reply_double :
    Facts.C17.s5ConnVerRefused = table cfg5n (fun b => [5, 0, b, 1, 0, 1, 9, 9, 9, 9, 0, 80, 7]) ∧
    Facts.C17.s5ConnRsvRefused = table cfg5n (fun b => [5, 0, 5, 1, b, 1, 9, 9, 9, 9, 0, 80, 7]) ∧
    Facts.C17.s5ConnAtypRefused =
      table cfg5n (fun b => [5, 0, 5, 1, 0, b, 2] ++ List.replicate 20 9) ∧
    Facts.C17.s5ConnRepVerBad = table cfg5n (fun b => [5, 0, 4, b, 0, 1, 9, 9, 9, 9, 0, 80, 7]) ∧
    Facts.C17.s5ConnRepRsvBad = table cfg5n (fun b => [5, 0, 5, b, 1, 1, 9, 9, 9, 9, 0, 80, 7]) ∧
    Facts.C17.s5ConnRepAtypBad =
      table cfg5n (fun b => [5, 0, 5, b, 0, 9, 2] ++ List.replicate 20 9) ∧
    Facts.C17.s5ConnVerRsvBad = table cfg5n (fun b => [5, 0, b, 0, 1, 1, 9, 9, 9, 9, 0, 80, 7]) := by
  simp
  decide +kernel

/-- domain-name replies: every bound-address length 0..255 (exactly `2 [+2] + 5 + len + 2`
    bytes are taken; one byte fewer on the wire and the object still wants data) -/
theorem facts_table_length :
    Facts.C17.s5ConnLen =
      tableExact cfg5n (fun b => [5, 0, 5, 0, 0, 3, b] ++ List.replicate (b.toNat + 3) 0) ∧
    Facts.C17.s5ConnLenAuth =
      tableExact cfg5a (fun b => [5, 2, 1, 0, 5, 0, 0, 3, b] ++ List.replicate (b.toNat + 3) 0) ∧
    Facts.C17.s5ConnLenShort =
      tableExact cfg5n (fun b => [5, 0, 5, 0, 0, 3, b] ++ List.replicate (b.toNat + 1) 0) := by
  simp only [tableExact, driveExact_closed]
  simp
  simp [handOf, codeOf]
  decide +kernel

/-- the model's exception kinds, in the order the extractor probes them -/
def allExc : List PyExc :=
  [.socksProtocolError, .socksFailure, .unicodeEncodeError, .assertionError, .structError,
   .attributeError, .osError, .unboundLocalError]

/-- **Exception hierarchy and the `try` of one proxy attempt, observed by running
    `create_connection`**: both SOCKS exceptions are `SOCKSError`s, neither is a subclass of the
    other, a `SOCKSError` is not an `OSError`; an exception raised by the handshake on one
    proxy address lets the client go on to the next address exactly when the model's `isCaught`
    says so (`OSError`, `SOCKSError` and their subclasses; nothing else); and the points of an
    attempt whose failure is survivable are `sock_connect`, the handshake and `getpeername()` -
    not the protocol constructor and not `socket.socket()` (`connectOne`). -/
theorem facts_exceptions :
    Facts.C17.protocolErrorIsSocksError = true ∧ Facts.C17.failureIsSocksError = true ∧
    Facts.C17.failureIsProtocolError = false ∧ Facts.C17.protocolErrorIsFailure = false ∧
    Facts.C17.socksErrorIsOsError = false ∧
    Facts.C17.caughtTable = allExc.map isCaught ++ [true, true, true, false, false] ∧
    Facts.C17.tryScope = [false, false, true, true, true] := by decide

end Aiorpcx.C17
