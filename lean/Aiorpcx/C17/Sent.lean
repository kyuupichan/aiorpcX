import Aiorpcx.C17.Stages
/-! C17 / C16 — which messages the client sends, as a function of the reply stream alone
    (every segmentation): greeting; the RFC 1929 credential message only after the proxy
    selected method 2 (and only if it was offered); CONNECT only after the method (and the
    credentials, if asked for) were accepted. -/
namespace Aiorpcx.C17
open Aiorpcx.Socks

/-- the messages a SOCKS5 object with methods `ms` sends when the proxy's replies are `stream` -/
def sentSpec (dst ab : Bytes) (ms : List UInt8) (stream : Bytes) : List Bytes :=
  socks5Greeting ms ::
    match stream with
    | v :: m :: s1 =>
      if v ≠ 5 ∨ m ∉ ms then []
      else if m = 2 then
        ab :: (match s1 with
               | av :: st :: _ => if av = 1 ∧ st = 0 then [socks5Connect dst] else []
               | _ => [])
      else [socks5Connect dst]
    | _ => []

theorem connectRun_sent (s : Bytes) : (connectRun s).sent = [] := by
  unfold connectRun
  split
  · split
    · rfl
    · split
      · rfl
      · split <;> rfl
  · rfl

/-- **What is sent depends only on the reply bytes**, for every segmentation oracle. -/
theorem sent_spec (oracle : Nat → Nat) (dst ab : Bytes) (ms : List UInt8) (stream : Bytes)
    (idx : Nat) :
    (handshake oracle (Client.init (.s5 dst ab ms)) ⟨stream, idx⟩).sent =
      sentSpec dst ab ms stream := by
  have h := congrArg RefRun.sent (handshake_ref oracle (Client.init (.s5 dst ab ms)) ⟨stream, idx⟩)
  simp only [refOf] at h
  rw [h, runRef_init]
  simp only [startRun, consMsg, sentSpec, List.cons.injEq, true_and]
  match stream with
  | [] | [_] => rfl
  | v :: m :: s1 =>
    simp only [first5Run, Cfg.methods, Cfg.authBytes, Cfg.dst]
    by_cases hv : v = 5
    · subst hv
      by_cases hm : m ∈ ms
      · by_cases h2 : m = 2
        · subst h2
          match s1 with
          | [] | [_] => simp [hm, authRun, consMsg, eofRun]
          | av :: st :: s2 =>
            by_cases ha : av = 1
            · by_cases hs : st = 0
              · simp [hm, ha, hs, authRun, consMsg, connectRun_sent, Cfg.dst]
              · simp [hm, ha, hs, authRun, consMsg]
            · simp [hm, ha, authRun, consMsg]
        · simp [hm, h2, consMsg, connectRun_sent]
      · simp [hm]
    · simp [hv]

/-- unless the proxy's first reply is `05 02` *and* method 2 was offered, the credential
    message is never sent: the client sends the greeting and at most the CONNECT request -/
theorem sent_without_method2 (dst ab : Bytes) (ms : List UInt8) (stream : Bytes)
    (h : (¬ ∃ rest, stream = 5 :: 2 :: rest) ∨ 2 ∉ ms) :
    sentSpec dst ab ms stream = [socks5Greeting ms] ∨
    sentSpec dst ab ms stream = [socks5Greeting ms, socks5Connect dst] := by
  unfold sentSpec
  match stream with
  | [] | [_] => simp
  | v :: m :: s1 =>
    simp only
    by_cases hbad : v ≠ 5 ∨ m ∉ ms
    · simp [hbad]
    · simp only [hbad, if_false]
      have hv : v = 5 := Decidable.byContradiction fun hh => hbad (Or.inl hh)
      have hm : m ∈ ms := Decidable.byContradiction fun hh => hbad (Or.inr hh)
      by_cases h2 : m = 2
      · subst hv h2
        rcases h with h | h
        · exact absurd ⟨s1, rfl⟩ h
        · exact absurd hm h
      · simp [h2]

/-- when it is (`05 02` with method 2 offered) the credential message is the second message,
    and CONNECT follows only after the status reply `01 00` -/
theorem sent_with_method2 (dst ab : Bytes) (ms : List UInt8) (rest : Bytes) (h2 : 2 ∈ ms) :
    sentSpec dst ab ms (5 :: 2 :: rest) =
      socks5Greeting ms :: ab ::
        (match rest with
         | av :: st :: _ => if av = 1 ∧ st = 0 then [socks5Connect dst] else []
         | _ => []) := by
  cases rest with
  | nil => simp [sentSpec, h2]
  | cons a t => cases t <;> simp [sentSpec, h2]

end Aiorpcx.C17
