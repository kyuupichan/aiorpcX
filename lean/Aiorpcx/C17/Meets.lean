import Aiorpcx.C17.Stages
import Aiorpcx.C17.Spec
/-! C17 — the reference run meets the verdict of the independent reply grammar (helper file:
    the per-stage case analyses over every value of every decision byte). -/
namespace Aiorpcx.C17
open Aiorpcx.Socks

/-- what the property demands of a run, given what the replies mean -/
def Meets (stream : Bytes) (r : RefRun) : Spec.Verdict → Prop
  | .granted n => r.outcome = none ∧ n ≤ stream.length ∧ r.unread = stream.drop n
  | .refused => r.outcome = some .socksFailure
  | .refusedCut => r.outcome = some .socksFailure ∨ r.outcome = some .socksProtocolError
  | .bad => r.outcome = some .socksProtocolError

theorem meets_consMsg (s : Bytes) (b : Bytes) (r : RefRun) (v : Spec.Verdict) :
    Meets s (consMsg b r) v ↔ Meets s r v := by
  cases v <;> simp [Meets, consMsg]

/-- replies read before the ones the verdict speaks of shift a granted length and nothing else -/
theorem meets_shift (p s : Bytes) (r : RefRun) (v : Spec.Verdict) (h : Meets s r v) :
    Meets (p ++ s) r (v.shift p.length) := by
  cases v with
  | granted n =>
    obtain ⟨h1, h2, h3⟩ := h
    exact ⟨h1, by simp only [List.length_append]; omega, by rw [h3, List.drop_length_add_append]⟩
  | refused => exact h
  | refusedCut => exact h
  | bad => exact h

theorem meets_first4 (s : Bytes) : Meets s (first4Run s) (Spec.verdict4 s) := by
  match s with
  | [] | [_] | [_, _] | [_, _, _] | [_, _, _, _] | [_, _, _, _, _] | [_, _, _, _, _, _]
  | [_, _, _, _, _, _, _] => simp [Spec.verdict4, first4Run, Meets, eofRun]
  | vn :: cd :: a :: b :: c :: d :: e :: f :: rest =>
    simp only [Spec.verdict4, first4Run]
    by_cases h1 : vn = 0
    · by_cases h2 : cd = 90 <;> simp [h1, h2, Meets]
    · simp [h1, Meets]

/-- RFC 1928 counts the length octet of a domain name into the address field; `addr_len` of
    `_connect_response` counts what follows the fifth byte -/
theorem addrFieldLen_cons {atyp : UInt8} (h : atyp = 1 ∨ atyp = 3 ∨ atyp = 4) (l : UInt8)
    (rest : Bytes) : Spec.addrFieldLen atyp (l :: rest) = some (addrLenOf atyp l + 1) := by
  rcases h with rfl | rfl | rfl <;> simp [Spec.addrFieldLen, addrLenOf, Nat.add_comm]

theorem meets_connect (s : Bytes) : Meets s (connectRun s) (Spec.connectReply s) := by
  match s with
  | [] | [_] | [_, _] | [_, _, _] => simp [Spec.connectReply, connectRun, Meets, eofRun]
  | [v, rep, rsv, atyp] =>
    have hcut : Meets [v, rep, rsv, atyp] eofRun (if rep = 0 then .bad else .refusedCut) := by
      split
      · rfl
      · exact Or.inr rfl
    simp only [Spec.connectReply, connectRun]
    by_cases hb : v ≠ 5 ∨ rsv ≠ 0
    · rw [if_pos hb]; rfl
    by_cases ha : ¬ (atyp = 1 ∨ atyp = 3 ∨ atyp = 4)
    · rw [if_neg hb, if_pos ha]; rfl
    rw [if_neg hb, if_neg ha]
    cases Spec.addrFieldLen atyp [] with
    | none => exact hcut
    | some n => simp only [List.length_nil]; rw [if_neg (by omega)]; exact hcut
  | v :: rep :: rsv :: atyp :: l :: rest =>
    simp only [Spec.connectReply, connectRun]
    by_cases hb : v ≠ 5 ∨ rsv ≠ 0
    · rw [if_pos hb, if_pos (hb.elim Or.inl fun h => Or.inr (Or.inl h))]
      rfl
    by_cases ha : atyp = 1 ∨ atyp = 3 ∨ atyp = 4
    · have hno : ¬ (v ≠ 5 ∨ rsv ≠ 0 ∨ ¬ (atyp = 1 ∨ atyp = 3 ∨ atyp = 4)) := fun h =>
        h.elim (fun h => hb (Or.inl h)) fun h => h.elim (fun h => hb (Or.inr h)) fun h => h ha
      rw [if_neg hb, if_neg (not_not_intro ha), if_neg hno, addrFieldLen_cons ha]
      simp only [List.length_cons]
      by_cases hrep : rep = 0
      · rw [if_neg (not_not_intro hrep)]
        by_cases hlen : rest.length < addrLenOf atyp l + 2
        · rw [if_pos hlen, if_neg (by omega), if_pos hrep]
          rfl
        · rw [if_neg hlen, if_pos (by omega), if_pos hrep,
            show 4 + (addrLenOf atyp l + 1) + 2 = addrLenOf atyp l + 2 + 5 by omega]
          exact ⟨rfl, by simp only [List.length_cons]; omega, rfl⟩
      · rw [if_pos hrep]
        by_cases hlen : addrLenOf atyp l + 1 + 2 ≤ rest.length + 1
        · rw [if_pos hlen, if_neg hrep]
          rfl
        · rw [if_neg hlen, if_neg hrep]
          exact Or.inl rfl
    · rw [if_neg hb, if_pos ha, if_pos (Or.inr (Or.inr ha))]
      rfl

/-- methods a SOCKS5 object offers (`SOCKS5._authentication`) -/
def methodsOf (creds : Bool) : List UInt8 := if creds then [0, 2] else [0]

theorem methodsOf_contains (creds : Bool) : (methodsOf creds).contains 2 = creds := by
  cases creds <;> decide

theorem meets_first5 (dst ab : Bytes) (creds : Bool) (s : Bytes) :
    Meets s (first5Run (.s5 dst ab (methodsOf creds)) s) (Spec.verdict5 creds s) := by
  match s with
  | [] | [_] => simp [Spec.verdict5, first5Run, Meets, eofRun]
  | v :: m :: s1 =>
    simp only [Spec.verdict5, first5Run, Cfg.methods]
    by_cases hv : v = 5
    · subst hv
      simp only [ne_eq, not_true_eq_false, if_false]
      by_cases h0 : m = 0
      · subst h0
        have hm : (0 : UInt8) ∈ methodsOf creds := by cases creds <;> simp [methodsOf]
        simp only [hm, not_true_eq_false, if_false, show ¬ ((0 : UInt8) = 2) by decide, if_true]
        rw [meets_consMsg]
        exact meets_shift [5, 0] s1 _ _ (meets_connect s1)
      · by_cases h2 : m = 2 ∧ creds = true
        · obtain ⟨rfl, rfl⟩ := h2
          have hm : (2 : UInt8) ∈ methodsOf true := by simp [methodsOf]
          simp only [hm, not_true_eq_false, if_false, if_true, h0, and_self]
          rw [meets_consMsg]
          match s1 with
          | [] | [_] => simp [authRun, Meets, eofRun]
          | av :: st :: s2 =>
            simp only [authRun]
            by_cases ha : av = 1
            · by_cases hs : st = 0
              · subst ha hs
                simp only [ne_eq, not_true_eq_false, if_false]
                rw [meets_consMsg]
                exact meets_shift [5, 2, 1, 0] s2 _ _ (meets_connect s2)
              · simp [ha, hs, Meets]
            · simp [ha, Meets]
        · have hm : m ∉ methodsOf creds := by
            cases creds
            · simp [methodsOf, h0]
            · simp only [methodsOf, if_true, List.mem_cons, List.not_mem_nil, or_false]
              rintro (h | h)
              · exact h0 h
              · exact h2 ⟨h, rfl⟩
          simp [hm, h0, h2, Meets]
    · simp [hv, Meets]

end Aiorpcx.C17
