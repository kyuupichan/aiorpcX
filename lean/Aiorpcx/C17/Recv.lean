import Aiorpcx.C17.Ref
/-! C17 — what the driver asks the socket for: conservation of bytes, and no request ever
    exceeds what the handshake still has to receive. -/
namespace Aiorpcx.C17
open Aiorpcx.Socks

/-- bytes returned by a list of `recv` calls -/
def sumN : List (Nat × Nat) → Nat
  | [] => 0
  | (_, n) :: rs => n + sumN rs

theorem sumN_append (a b : List (Nat × Nat)) : sumN (a ++ b) = sumN a + sumN b := by
  induction a with
  | nil => simp [sumN]
  | cons x xs ih => obtain ⟨k, n⟩ := x; simp [sumN, ih]; omega

/-- every byte of the stream is either returned by some `recv` or still unread -/
theorem recv_conservation (oracle : Nat → Nat) (c : Client) (s : Sock) :
    sumN (handshake oracle c s).recvs + (handshake oracle c s).unread.length = s.stream.length := by
  fun_induction handshake oracle c s with
  | case1 => simp [sumN]
  | case2 => simp [sumN]
  | case3 c s c' b h r ih => simpa using ih
  | case4 c s c' k h hne =>
    have : s.stream = [] := by simpa using hne
    simp [sumN, this]
  | case5 c s c' k h hne n r ih =>
    have hb := clamp_bounds h hne (oracle s.idx)
    change sumN r.recvs + r.unread.length = _ at ih
    simp only [List.length_drop] at ih
    simp only [sumN]
    omega

/-- a client that still misses `m` bytes of its current step cannot finish the handshake
    without receiving at least `m` more bytes -/
theorem success_receives_missing (oracle : Nat → Nat) (c : Client) (s : Sock)
    (hok : (handshake oracle c s).outcome = none) :
    c.st.size - c.buf.length ≤ sumN (handshake oracle c s).recvs := by
  fun_induction handshake oracle c s with
  | case1 c s c' e h => simp at hok
  | case2 c s c' h =>
    by_cases hs : c.buf.length < c.st.size
    · rw [nextMessage_short c hs] at h; cases h
    · omega
  | case3 c s c' b h r ih =>
    by_cases hs : c.buf.length < c.st.size
    · rw [nextMessage_short c hs] at h; cases h
    · omega
  | case4 c s c' k h hne => simp at hok
  | case5 c s c' k h hne n r ih =>
    by_cases hs : c.buf.length < c.st.size
    · have hb := clamp_bounds h hne (oracle s.idx)
      have ih' := ih (by simpa using hok)
      rw [nextMessage_short c hs] at h
      cases h
      rw [receiveData_st, receiveData_take_length c hb.2.2] at ih'
      change _ ≤ sumN r.recvs at ih'
      simp only [sumN]
      omega
    · omega

/-- **No over-read, request by request.**  In a handshake that succeeds, every `sock_recv`
    asks for at least one byte and for no more than the handshake goes on to receive from that
    point on: with `pre` the calls made before it, `bytes(pre) + k ≤ bytes(all calls)`; and a
    call never returns more than it asked for. -/
theorem recv_within_handshake (oracle : Nat → Nat) (c : Client) (s : Sock)
    (hok : (handshake oracle c s).outcome = none) :
    ∀ pre k n post, (handshake oracle c s).recvs = pre ++ (k, n) :: post →
      1 ≤ k ∧ n ≤ k ∧ sumN pre + k ≤ sumN (handshake oracle c s).recvs := by
  fun_induction handshake oracle c s with
  | case1 c s c' e h => simp at hok
  | case2 c s c' h => intro pre k n post hsplit; simp at hsplit
  | case3 c s c' b h r ih =>
    intro pre k n post hsplit
    exact ih (by simpa using hok) pre k n post (by simpa using hsplit)
  | case4 c s c' k h hne => simp at hok
  | case5 c s c' k h hne n r ih =>
    intro pre k' n' post hsplit
    obtain ⟨h1, h2, _⟩ := nextMessage_need h
    have hb := clamp_bounds h hne (oracle s.idx)
    have hok' : r.outcome = none := by simpa using hok
    cases pre with
    | nil =>
      obtain ⟨⟨rfl, rfl⟩, rfl⟩ : (k, n) = (k', n') ∧ r.recvs = post := by simpa using hsplit
      have hm := success_receives_missing oracle _ _ hok'
      rw [receiveData_st, receiveData_take_length c' hb.2.2] at hm
      change _ ≤ sumN r.recvs at hm
      simp only [sumN]
      omega
    | cons x pre' =>
      obtain ⟨rfl, hrest⟩ : (k, n) = x ∧ r.recvs = pre' ++ (k', n') :: post := by
        simpa using hsplit
      have := ih hok' pre' k' n' post hrest
      change _ ∧ _ ∧ _ ≤ sumN r.recvs at this
      simp only [sumN]
      omega

end Aiorpcx.C17
