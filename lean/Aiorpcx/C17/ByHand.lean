import Aiorpcx.C17.Stages
import Aiorpcx.C17.Tables
/-! C17 — a protocol object driven by hand (`tableEntry`: one byte per `NeedData`; `driveExact`:
    exactly the bytes asked for) in closed form.  The reference run is made on the reply bytes
    followed by some further ones: if it reads into those, the object that was given the reply
    bytes only still wants more; if not, it has decided, and on what `startRun` says. -/
namespace Aiorpcx.C17
open Aiorpcx.Socks

/-- verdict code of the facts tables for the way a run ends -/
def codeOf : Option PyExc → Nat
  | none => 0
  | some .socksFailure => 1
  | some .socksProtocolError => 2
  | some _ => 3

/-- (verdict, bytes taken) of a by-hand run that was given `n` bytes, from the reference run `r`
    on those bytes followed by `extra` more -/
def handOf (n extra : Nat) (r : RefRun) : Nat × Nat :=
  if r.unread.length < extra then (4, n) else (codeOf r.outcome, n + extra - r.unread.length)

theorem handOf_consMsg (n extra : Nat) (b : Bytes) (r : RefRun) :
    handOf n extra (consMsg b r) = handOf n extra r := rfl

theorem handOf_ite (n extra : Nat) (p : Prop) [Decidable p] (r₁ r₂ : RefRun) :
    handOf n extra (if p then r₁ else r₂) = if p then handOf n extra r₁ else handOf n extra r₂ :=
  apply_ite _ _ _ _

theorem handOf_untouched (n : Nat) (o : Option PyExc) (m : List Bytes) (s t : Bytes) :
    handOf (n + s.length) t.length ⟨o, m, s ++ t⟩ = (codeOf o, n) := by
  have : ¬ s.length + t.length < t.length := by omega
  simp only [handOf, List.length_append, this, if_false]
  congr 1
  omega

theorem runRef_unread_le (c : Client) (s : Bytes) : (runRef c s).unread.length ≤ s.length := by
  fun_induction runRef c s with
  | case1 | case2 | case4 => simp
  | case3 _ _ _ _ _ _ ih => exact ih
  | case5 _ _ _ _ _ _ ih => simp only [List.length_drop] at ih; omega

theorem handOf_starved {r : RefRun} {extra : Nat} (h : r.unread.length < extra) (n : Nat) :
    handOf n extra r = (4, n) := if_pos h

theorem handOf_succ {n extra : Nat} {r : RefRun} (h : r.unread.length ≤ n + extra) :
    ((handOf n extra r).1, (handOf n extra r).2 + 1) = handOf (n + 1) extra r := by
  unfold handOf
  split
  · rfl
  · congr 1; omega

/-- a step that asks for more reads into whatever follows -/
theorem runRef_need_reads {c c' : Client} {k : Nat} (h : nextMessage c = (c', .need k))
    {t : Bytes} (ht : t ≠ []) : (runRef c t).unread.length < t.length := by
  obtain ⟨h1, h2, _⟩ := nextMessage_need h
  have hpos : 0 < t.length := List.length_pos_iff.2 ht
  rw [runRef_eq, h]
  dsimp only
  split
  · exact hpos
  · have := runRef_unread_le (c'.receiveData (t.take k)) (t.drop k)
    simp only [List.length_drop] at this
    omega

/-- a step that asks for `k` bytes and is handed the next `d`, no more than `k` of them -/
theorem runRef_fed {c c' : Client} {k : Nat} (h : nextMessage c = (c', .need k)) (d rest : Bytes)
    (hd : d.length ≤ k) : runRef c (d ++ rest) = runRef (c'.receiveData d) rest := by
  obtain ⟨h1, h2, _⟩ := nextMessage_need h
  have := runRef_partial c' (d ++ rest) d.length h1 (by omega) (by simp)
  rw [List.take_left, List.drop_left, ← runRef_need h] at this
  exact this.symm

theorem nextMessage_need_rank {c c' : Client} {k : Nat} (h : nextMessage c = (c', .need k)) :
    c'.st.rank ≤ c.st.rank :=
  (nextMessage_need h).2.2.elim Nat.le_of_lt fun e => e ▸ Nat.le_refl _

theorem driveExact_ref (t : Bytes) (ht : t ≠ []) :
    ∀ (f : Nat) (c : Client) (s : Bytes) (fed : Nat), c.st.rank + s.length + 2 ≤ f →
      driveExact f c s fed = handOf (fed + s.length) t.length (runRef c (s ++ t)) := by
  intro f
  induction f with
  | zero => intro c s fed hf; omega
  | succ f ih =>
    intro c s fed hf
    rw [driveExact]
    rcases h : nextMessage c with ⟨c', b | _ | k | e⟩
    · have := nextMessage_msg_rank h
      rw [runRef_eq, h]
      exact ih c' s fed (by omega)
    · rw [runRef_eq, h, handOf_untouched]
      rfl
    · have hk := nextMessage_need h
      have hrank := nextMessage_need_rank h
      cases s with
      | nil => exact (handOf_starved (runRef_need_reads h ht) _).symm
      | cons a s =>
        have hrun :=
          runRef_fed h ((a :: s).take k) ((a :: s).drop k ++ t) (List.length_take_le ..)
        rw [← List.append_assoc, List.take_append_drop] at hrun
        have hfuel :
            (c'.receiveData ((a :: s).take k)).st.rank + ((a :: s).drop k).length + 2 ≤ f := by
          rw [receiveData_st]
          simp only [List.length_drop, List.length_cons] at hf ⊢
          omega
        show driveExact f (c'.receiveData ((a :: s).take k)) ((a :: s).drop k)
          (fed + ((a :: s).take k).length) = _
        rw [hrun, ih _ _ _ hfuel, Nat.add_assoc, ← List.length_append, List.take_append_drop]
    · rw [runRef_eq, h, handOf_untouched]
      cases e <;> rfl

theorem summarize_msg (b : Bytes) (l : List Res) : summarize (.msg b :: l) = summarize l := by
  cases l with
  | nil => rfl
  | cons x l => simp [summarize, isNeed, List.getLast?_cons_cons]

theorem summarize_need (k : Nat) {l : List Res} (hl : l ≠ []) :
    summarize (.need k :: l) = ((summarize l).1, (summarize l).2 + 1) := by
  obtain ⟨x, l, rfl⟩ := List.exists_cons_of_ne_nil hl
  simp only [summarize, List.filter_cons_of_pos (show isNeed (.need k) = true from rfl),
    List.length_cons, List.getLast?_cons_cons]
  split
  · rfl
  · rfl
  · rfl
  · rename_i j hlast
    have : 0 < ((x :: l).filter isNeed).length :=
      List.length_pos_of_mem (List.mem_filter.2 ⟨List.mem_of_getLast? hlast, rfl⟩)
    simp only [Nat.add_sub_cancel]
    congr 1
    omega
  · rfl

theorem driveObject_ne_nil (f : Nat) (c : Client) (chunks : List Bytes) :
    driveObject (f + 1) c chunks ≠ [] := by
  unfold driveObject
  split
  · simp
  · simp
  · simp
  · split <;> simp

theorem driveObject_ref (t : Bytes) (ht : t ≠ []) :
    ∀ (f : Nat) (c : Client) (s : Bytes), c.st.rank + s.length + 2 ≤ f →
      summarize (driveObject f c (s.map fun b => [b])) =
        handOf s.length t.length (runRef c (s ++ t)) := by
  intro f
  induction f with
  | zero => intro c s hf; omega
  | succ f ih =>
    intro c s hf
    rw [driveObject]
    rcases h : nextMessage c with ⟨c', b | _ | k | e⟩
    · have := nextMessage_msg_rank h
      rw [runRef_eq, h]
      exact (summarize_msg ..).trans (ih c' s (by omega))
    · rw [runRef_eq, h, ← Nat.zero_add s.length, handOf_untouched]
      rfl
    · have hk := nextMessage_need h
      have hrank := nextMessage_need_rank h
      cases s with
      | nil => exact (handOf_starved (runRef_need_reads h ht) _).symm
      | cons a s =>
        rw [List.length_cons] at hf
        obtain ⟨f, rfl⟩ : ∃ g, f = g + 1 := ⟨f - 1, by omega⟩
        have hle := runRef_unread_le (c'.receiveData [a]) (s ++ t)
        rw [List.length_append] at hle
        show summarize (.need k :: driveObject _ (c'.receiveData [a]) (s.map fun b => [b])) = _
        have hrun : runRef c (a :: s ++ t) = runRef (c'.receiveData [a]) (s ++ t) :=
          runRef_fed h [a] (s ++ t) (by show 1 ≤ k; omega)
        rw [hrun, summarize_need k (driveObject_ne_nil _ _ _),
          ih _ s (by rw [receiveData_st]; omega), handOf_succ hle]
        rfl
    · rw [runRef_eq, h, ← Nat.zero_add s.length, handOf_untouched]
      cases e <;> rfl

theorem tableEntry_closed (cfg : Cfg) (s : Bytes) :
    tableEntry cfg s = handOf s.length 1 (startRun cfg (s ++ [0])) := by
  rw [← runRef_init]
  exact driveObject_ref [0] (by simp) _ (Client.init cfg) s (by simp [Client.init, St.rank]; omega)

theorem driveExact_closed (cfg : Cfg) (s : Bytes) :
    driveExact (s.length + 8) (Client.init cfg) s 0 =
      handOf s.length 1 (startRun cfg (s ++ [0])) := by
  rw [← runRef_init, driveExact_ref [0] (by simp) _ (Client.init cfg) s 0
    (by simp [Client.init, St.rank]; omega), Nat.zero_add]
  rfl

end Aiorpcx.C17
