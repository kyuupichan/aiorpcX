import Aiorpcx.C17.Meets
import Aiorpcx.C17.Recv
import Aiorpcx.C17.FactsTie
import Aiorpcx.C17.Prefix
import Aiorpcx.C17.Sent
/-!
# C17 — the SOCKS handshake outcome depends only on the reply bytes; never over-reads

Model (`C16/Model.lean`, mirrors `socks.py`): `handshake oracle client sock` is
`SOCKSProxy._handshake` driving a protocol object over a socket whose remaining reply bytes are
`sock.stream`; `oracle i` proposes how many bytes the `i`-th `sock_recv` returns (clamped to
`[1, min requested available]`, `b''` when the stream is exhausted), so the theorems below,
quantified over **every** oracle, cover every segmentation of the reply stream including one
byte at a time and EOF at every offset.  SPEC: `C17/Spec.lean`, the reply grammar written from
the SOCKS4 protocol note and RFC 1928 / RFC 1929.  No bound on stream length anywhere.
-/
namespace Aiorpcx.C17
open Aiorpcx.Socks

/-- configurations the theorems range over: any SOCKS5 object (`dst`, `authBytes` arbitrary,
    methods `[0]` or `[0, 2]`), and any SOCKS4 / SOCKS4a object whose request could be built
    (`socks4Start` succeeded: destination and user id have a UTF-8 form) -/
inductive GoodCfg : Cfg → Prop where
  | s5 (dst ab : Bytes) (creds : Bool) : GoodCfg (.s5 dst ab (methodsOf creds))
  | s4 (h : Host) (port : Nat) (a : Auth) (b : Bytes) (hs : socks4Start h port a = .ok b) :
      GoodCfg (.s4 h port a)

/-- what the replies mean for this configuration, by the independent reply grammar -/
def verdictFor : Cfg → Bytes → Spec.Verdict
  | .s4 .., s => Spec.verdict4 s
  | .s5 _ _ ms, s => Spec.verdict5 (ms.contains 2) s

/-- **Segmentation independence.**  For any client state, any reply stream and any two
    segmentation oracles (and recv counters) the handshake has the same outcome, sends the
    same messages and leaves exactly the same bytes unread — hence consumes the same number of
    bytes. -/
theorem segmentation_irrelevant (o₁ o₂ : Nat → Nat) (c : Client) (stream : Bytes) (i₁ i₂ : Nat) :
    refOf (handshake o₁ c ⟨stream, i₁⟩) = refOf (handshake o₂ c ⟨stream, i₂⟩) := by
  rw [handshake_ref, handshake_ref]

/-- two genuinely different segmentations of the same 13 reply bytes: 12 `recv` calls of one
    byte each vs 3 calls (2, 5, 5 bytes); the last byte is application data -/
example :
    handshake (fun _ => 1) (Client.init (.s5 [1, 8, 8, 8, 8, 0, 53] [] [0]))
      ⟨[5, 0, 5, 0, 0, 1, 1, 2, 3, 4, 0, 80, 0x16], 0⟩ =
    ⟨none, [[5, 1, 0], [5, 1, 0, 1, 8, 8, 8, 8, 0, 53]], [0x16],
     [(2, 1), (1, 1), (5, 1), (4, 1), (3, 1), (2, 1), (1, 1), (5, 1), (4, 1), (3, 1), (2, 1),
      (1, 1)]⟩ ∧
    handshake (fun _ => 1000) (Client.init (.s5 [1, 8, 8, 8, 8, 0, 53] [] [0]))
      ⟨[5, 0, 5, 0, 0, 1, 1, 2, 3, 4, 0, 80, 0x16], 0⟩ =
    ⟨none, [[5, 1, 0], [5, 1, 0, 1, 8, 8, 8, 8, 0, 53]], [0x16], [(2, 2), (5, 5), (5, 5)]⟩ :=
  ⟨handshakeFuel_sound _ 40 _ _ _ (by decide +kernel),
   handshakeFuel_sound _ 40 _ _ _ (by decide +kernel)⟩

theorem meets_runRef {cfg : Cfg} (hg : GoodCfg cfg) (stream : Bytes) :
    Meets stream (runRef (Client.init cfg) stream) (verdictFor cfg stream) := by
  rw [runRef_init]
  cases hg with
  | s5 dst ab creds =>
    simp only [startRun, meets_consMsg, verdictFor, methodsOf_contains]
    exact meets_first5 dst ab creds stream
  | s4 h port a b hs =>
    simp only [startRun, hs, meets_consMsg]
    exact meets_first4 stream

/-- **Outcome = meaning of the replies**, for every segmentation.  With `v` the verdict of the
    independent reply grammar on the stream:
    * `granted n` (the stream starts with a complete well-formed granting reply sequence of
      `n` bytes): the handshake returns normally and exactly the bytes after those `n` are left
      on the socket;
    * `refused` (well-formed refusal): `SOCKSFailure`;
    * `bad` (malformed byte, or the stream ends before the replies are complete):
      `SOCKSProtocolError`;
    * `refusedCut` (an RFC 1928 reply header carrying a refusal code, cut short by EOF):
      `SOCKSFailure` or `SOCKSProtocolError`. -/
theorem outcome_spec {cfg : Cfg} (hg : GoodCfg cfg) (oracle : Nat → Nat) (stream : Bytes)
    (idx : Nat) :
    Meets stream (refOf (handshake oracle (Client.init cfg) ⟨stream, idx⟩))
      (verdictFor cfg stream) := by
  rw [handshake_ref]
  exact meets_runRef hg stream

theorem outcome_cases {cfg : Cfg} (hg : GoodCfg cfg) (oracle : Nat → Nat) (stream : Bytes)
    (idx : Nat) :
    let o := (handshake oracle (Client.init cfg) ⟨stream, idx⟩).outcome
    let v := verdictFor cfg stream
    (o = none ∧ ∃ n, v = .granted n) ∨ (o = some .socksFailure ∧ (v = .refused ∨ v = .refusedCut)) ∨
      (o = some .socksProtocolError ∧ (v = .bad ∨ v = .refusedCut)) := by
  have h := outcome_spec hg oracle stream idx
  cases hv : verdictFor cfg stream with
  | granted n => rw [hv] at h; exact Or.inl ⟨h.1, n, rfl⟩
  | refused => rw [hv] at h; exact Or.inr (Or.inl ⟨h, Or.inl rfl⟩)
  | refusedCut =>
    rw [hv] at h
    exact h.elim (fun h => Or.inr (Or.inl ⟨h, Or.inr rfl⟩)) fun h => Or.inr (Or.inr ⟨h, Or.inr rfl⟩)
  | bad => rw [hv] at h; exact Or.inr (Or.inr ⟨h, Or.inl rfl⟩)

/-- **Success iff granted**: the handshake reports success exactly when the replies are well
    formed and grant the request. -/
theorem success_iff_granted {cfg : Cfg} (hg : GoodCfg cfg) (oracle : Nat → Nat) (stream : Bytes)
    (idx : Nat) :
    (handshake oracle (Client.init cfg) ⟨stream, idx⟩).outcome = none ↔
      ∃ n, verdictFor cfg stream = .granted n := by
  rcases outcome_cases hg oracle stream idx with ⟨h, hv⟩ | ⟨h, hv | hv⟩ | ⟨h, hv | hv⟩ <;>
    simp [h, hv]

/-- **Converse directions**: `SOCKSFailure` is raised only on a refusal (complete, or an RFC 1928
    refusal header cut short); `SOCKSProtocolError` only on a malformed / truncated stream (or
    such a cut-short refusal). -/
theorem failure_only_if_refused {cfg : Cfg} (hg : GoodCfg cfg) (oracle : Nat → Nat)
    (stream : Bytes) (idx : Nat) :
    ((handshake oracle (Client.init cfg) ⟨stream, idx⟩).outcome = some .socksFailure →
      verdictFor cfg stream = .refused ∨ verdictFor cfg stream = .refusedCut) ∧
    ((handshake oracle (Client.init cfg) ⟨stream, idx⟩).outcome = some .socksProtocolError →
      verdictFor cfg stream = .bad ∨ verdictFor cfg stream = .refusedCut) := by
  rcases outcome_cases hg oracle stream idx with ⟨h, n, hv⟩ | ⟨h, hv | hv⟩ | ⟨h, hv | hv⟩ <;>
    simp [h, hv]

/-- **No other exception**: whatever the proxy sends and however it is segmented, the
    handshake returns, raises `SOCKSFailure` or raises `SOCKSProtocolError`. -/
theorem no_other_exception {cfg : Cfg} (hg : GoodCfg cfg) (oracle : Nat → Nat) (stream : Bytes)
    (idx : Nat) :
    let o := (handshake oracle (Client.init cfg) ⟨stream, idx⟩).outcome
    o = none ∨ o = some .socksFailure ∨ o = some .socksProtocolError :=
  (outcome_cases hg oracle stream idx).imp And.left (Or.imp And.left And.left)

/-- the model is not total by accident: a SOCKS4 object whose user id is a lone surrogate lets
    `UnicodeEncodeError` out of the handshake (outside `GoodCfg`) -/
example : handshake (fun _ => 1)
      (Client.init (.s4 (.ipv4 (vec4 1 2 3 4)) 80 (some ([0xD800], [])))) ⟨[0, 90], 0⟩
    = ⟨some .unicodeEncodeError, [], [0, 90], []⟩ :=
  handshakeFuel_sound _ 5 _ _ _ (by decide +kernel)

/-- **Exact consumption.**  If the stream is a granting reply sequence `seq` followed by
    anything at all (`trailing`: whatever the proxy relays next), then for every segmentation
    the handshake succeeds and `trailing` is left on the socket untouched. -/
theorem exact_consumption {cfg : Cfg} (hg : GoodCfg cfg) (oracle : Nat → Nat)
    (seq trailing : Bytes) (idx : Nat)
    (hv : verdictFor cfg (seq ++ trailing) = .granted seq.length) :
    let r := handshake oracle (Client.init cfg) ⟨seq ++ trailing, idx⟩
    r.outcome = none ∧ r.unread = trailing := by
  have h := outcome_spec hg oracle (seq ++ trailing) idx
  rw [hv] at h
  exact ⟨h.1, by simpa [refOf] using h.2.2⟩

/-- **EOF at every offset.**  If `seq` is a complete granting reply sequence, then on every
    proper prefix of it (the proxy closes the connection early), under every segmentation, the
    handshake raises `SOCKSProtocolError`. -/
theorem eof_before_completion {cfg : Cfg} (hg : GoodCfg cfg) (oracle : Nat → Nat) (seq : Bytes)
    (idx : Nat) (hv : verdictFor cfg seq = .granted seq.length) (j : Nat) (hj : j < seq.length) :
    (handshake oracle (Client.init cfg) ⟨seq.take j, idx⟩).outcome =
      some .socksProtocolError := by
  have h := outcome_spec hg oracle (seq.take j) idx
  have hbad : verdictFor cfg (seq.take j) = .bad := by
    cases cfg with
    | s4 hh port a => exact verdict4_prefix_bad seq hv j hj
    | s5 dst ab ms => exact verdict5_prefix_bad _ seq hv j hj
  rw [hbad] at h
  exact h

/-- **Length of a granted handshake**: 8 bytes for SOCKS4/4a; for SOCKS5
    `2 [+ 2] + 4 + (4 | 1 + len | 16) + 2`. -/
theorem granted_length {cfg : Cfg} (stream : Bytes) (n : Nat)
    (h : verdictFor cfg stream = .granted n) :
    match cfg with
    | .s4 .. => n = 8
    | .s5 .. => ∃ auth addr, (auth = 0 ∨ auth = 2) ∧
        (addr = 4 ∨ addr = 16 ∨ ∃ l : UInt8, addr = 1 + l.toNat) ∧
        n = 2 + auth + 4 + addr + 2 := by
  cases cfg with
  | s4 hh port a => exact (verdict4_granted h).1
  | s5 dst ab ms =>
    have key : ∀ {s : Bytes} {k : Nat}, Spec.connectReply s = .granted k →
        ∃ addr, (addr = 4 ∨ addr = 16 ∨ ∃ l : UInt8, addr = 1 + l.toNat) ∧ k = 4 + addr + 2 := by
      intro s k hk
      obtain ⟨atyp, after, addr, _, _, hn, _, rfl⟩ := connectReply_granted hk
      refine ⟨addr, ?_, rfl⟩
      rcases addrFieldLen_some hn with ⟨_, rfl⟩ | ⟨_, rfl⟩ | ⟨_, l, _, _, rfl⟩
      · exact Or.inl rfl
      · exact Or.inr (Or.inl rfl)
      · exact Or.inr (Or.inr ⟨l, rfl⟩)
    rcases verdict5_granted h with ⟨s1, k, _, hk, rfl⟩ | ⟨_, s2, k, _, hk, rfl⟩
    · obtain ⟨addr, ha, rfl⟩ := key hk
      exact ⟨0, addr, Or.inl rfl, ha, by omega⟩
    · obtain ⟨addr, ha, rfl⟩ := key hk
      exact ⟨2, addr, Or.inr rfl, ha, by omega⟩

/-- **Exact consumption, request by request** (with `recv_conservation` and
    `recv_within_handshake` of `Recv.lean`): in a granted handshake of `n` bytes the `recv`
    calls return exactly `n` bytes in total, and each call asks for at least 1 byte and at most
    the number of handshake bytes still outstanding when it is made. -/
theorem recv_sizes_bounded {cfg : Cfg} (hg : GoodCfg cfg) (oracle : Nat → Nat) (stream : Bytes)
    (idx n : Nat) (hv : verdictFor cfg stream = .granted n) :
    let r := handshake oracle (Client.init cfg) ⟨stream, idx⟩
    sumN r.recvs = n ∧
    ∀ pre k got post, r.recvs = pre ++ (k, got) :: post →
      1 ≤ k ∧ got ≤ k ∧ k ≤ n - sumN pre := by
  have h := outcome_spec hg oracle stream idx
  rw [hv] at h
  obtain ⟨hok, hn, hun⟩ := h
  have hc := recv_conservation oracle (Client.init cfg) ⟨stream, idx⟩
  have hsum : sumN (handshake oracle (Client.init cfg) ⟨stream, idx⟩).recvs = n := by
    simp only [refOf] at hun
    rw [hun] at hc
    simp only [List.length_drop] at hc
    omega
  refine ⟨hsum, ?_⟩
  intro pre k got post hsplit
  have := recv_within_handshake oracle (Client.init cfg) ⟨stream, idx⟩ hok pre k got post hsplit
  rw [hsum] at this
  omega

/-- how one `getaddrinfo` entry ends: `OSError` from `socket.socket()` (which escapes, see
    `isSocketFails`) or from `sock_connect`, the handshake's outcome, or - the handshake
    having succeeded - `OSError` from `getpeername()` -/
def attemptOutcome (cfg : Cfg) : Attempt → Option PyExc
  | .connectFails => some .osError
  | .socketFails => some .osError
  | .talks s o => (handshake o (Client.init cfg) ⟨s, 0⟩).outcome
  | .peernameFails s o =>
    match (handshake o (Client.init cfg) ⟨s, 0⟩).outcome with
    | none => some .osError
    | some e => some e

def isSuccess (cfg : Cfg) (a : Attempt) : Bool := (attemptOutcome cfg a).isNone

/-- `socket.socket(family)` raises: it sits outside the `try`, so the `OSError` escapes -/
def isSocketFails : Attempt → Bool
  | .socketFails => true
  | _ => false

/-- the exception `_connect_one` is left holding after trying all entries -/
def lastExc (cfg : Cfg) : List Attempt → Option PyExc → Option PyExc
  | [], l => l
  | a :: as, _ => lastExc cfg as (attemptOutcome cfg a)

theorem lastExc_getLast (cfg : Cfg) : ∀ (as : List Attempt) (l : Option PyExc) (h : as ≠ []),
    lastExc cfg as l = attemptOutcome cfg (as.getLast h)
  | [a], l, _ => rfl
  | a :: b :: as, l, _ => by
    have := lastExc_getLast cfg (b :: as) (attemptOutcome cfg a) (by simp)
    simpa [lastExc, List.getLast_cons_cons] using this

theorem handshake_outcome_good {cfg : Cfg} (hg : GoodCfg cfg) (s : Bytes) (o : Nat → Nat) :
    (handshake o (Client.init cfg) ⟨s, 0⟩).outcome = none ∨
    ∃ e, (handshake o (Client.init cfg) ⟨s, 0⟩).outcome = some e ∧ isCaught e = true := by
  rcases no_other_exception hg o s 0 with h | h | h
  · exact Or.inl h
  · exact Or.inr ⟨_, h, rfl⟩
  · exact Or.inr ⟨_, h, rfl⟩

/-- an entry that neither succeeds nor fails in `socket.socket()` is skipped: the loop goes
    on to the next entry holding this entry's exception -/
theorem connectOne_skip {cfg : Cfg} (hg : GoodCfg cfg) (b : Attempt) (rest : List Attempt)
    (i : Nat) (last : Option PyExc) (h1 : isSuccess cfg b = false) (h2 : isSocketFails b = false) :
    connectOne (.ok cfg) (b :: rest) i last =
      connectOne (.ok cfg) rest (i + 1) (attemptOutcome cfg b) := by
  cases b with
  | connectFails => simp [connectOne, attemptOutcome]
  | socketFails => simp [isSocketFails] at h2
  | talks s o =>
    rcases handshake_outcome_good hg s o with h | ⟨e, h, hc⟩
    · simp [isSuccess, attemptOutcome, h] at h1
    · simp [connectOne, attemptOutcome, h, hc]
  | peernameFails s o =>
    rcases handshake_outcome_good hg s o with h | ⟨e, h, hc⟩
    · simp [connectOne, attemptOutcome, h]
    · simp [connectOne, attemptOutcome, h, hc]

theorem connectOne_success {cfg : Cfg} (b : Attempt) (rest : List Attempt) (i : Nat)
    (last : Option PyExc) (h1 : isSuccess cfg b = true) :
    ∃ u, connectOne (.ok cfg) (b :: rest) i last = .sock i u := by
  cases b with
  | connectFails => simp [isSuccess, attemptOutcome] at h1
  | socketFails => simp [isSuccess, attemptOutcome] at h1
  | talks s o =>
    simp only [isSuccess, attemptOutcome, Option.isNone_iff_eq_none] at h1
    exact ⟨(handshake o (Client.init cfg) ⟨s, 0⟩).unread, by simp [connectOne, h1]⟩
  | peernameFails s o =>
    simp only [isSuccess, attemptOutcome] at h1
    split at h1 <;> simp at h1

/-- `_connect_one` returns a socket iff some entry's handshake succeeds before any entry fails
    in `socket.socket()` (the first such entry ends the loop); if no entry succeeds and none
    fails in `socket.socket()` it returns the exception of the last entry; the only exceptions
    that escape are the `OSError` of `socket.socket()` and the `UnboundLocalError` of an empty
    `getaddrinfo` result. -/
theorem connectOne_spec {cfg : Cfg} (hg : GoodCfg cfg) :
    ∀ (as : List Attempt) (i : Nat) (last : Option PyExc),
      match connectOne (.ok cfg) as i last with
      | .sock _ _ => as.any (isSuccess cfg) = true
      | .returned e => as.any (isSuccess cfg) = false ∧ as.any isSocketFails = false ∧
          lastExc cfg as last = some e
      | .escaped e => (as = [] ∧ last = none) ∨ (e = .osError ∧ as.any isSocketFails = true)
  | [], i, none => by simp [connectOne]
  | [], i, some e => by simp [connectOne, lastExc]
  | a :: as, i, last => by
    by_cases hs : isSuccess cfg a = true
    · obtain ⟨u, hu⟩ := connectOne_success a as i last hs
      rw [hu]; simp [hs]
    · have hs' : isSuccess cfg a = false := by simpa using hs
      by_cases hf : isSocketFails a = true
      · cases a <;> simp [isSocketFails] at hf
        simp [connectOne, isSocketFails]
      · have hf' : isSocketFails a = false := by simpa using hf
        rw [connectOne_skip hg a as i last hs' hf']
        have ih := connectOne_spec hg as (i + 1) (attemptOutcome cfg a)
        split <;> rename_i heq <;> rw [heq] at ih
        · simp [hs', ih]
        · simp only [List.any_cons, hs', hf', Bool.false_or, lastExc]
          exact ih
        · rcases ih with ⟨rfl, h0⟩ | ⟨he, h1⟩
          · simp [isSuccess, h0] at hs'
          · exact Or.inr ⟨he, by simp [h1]⟩

/-- the first entry whose handshake succeeds wins, when every earlier entry merely failed -/
theorem connectOne_first_success {cfg : Cfg} (hg : GoodCfg cfg) :
    ∀ (pre : List Attempt) (a : Attempt) (post : List Attempt) (i : Nat) (last : Option PyExc),
      (∀ b ∈ pre, isSuccess cfg b = false ∧ isSocketFails b = false) → isSuccess cfg a = true →
      ∃ u, connectOne (.ok cfg) (pre ++ a :: post) i last = .sock (i + pre.length) u
  | [], a, post, i, last, _, ha => by simpa using connectOne_success a post i last ha
  | b :: pre, a, post, i, last, hpre, ha => by
    obtain ⟨h1, h2⟩ := hpre b (by simp)
    obtain ⟨u, hu⟩ := connectOne_first_success hg pre a post (i + 1) (attemptOutcome cfg b)
      (fun x hx => hpre x (by simp [hx])) ha
    refine ⟨u, ?_⟩
    rw [List.cons_append, connectOne_skip hg b _ i last h1 h2, hu]
    congr 1
    simp; omega

/-- **socket creation failing** (`socket.socket(family)` raising, e.g. `EAFNOSUPPORT`) is not
    inside the `try`: the `OSError` escapes `_connect_one` as soon as such an entry is reached,
    the remaining entries are not tried -/
theorem connectOne_socket_failure {cfg : Cfg} (hg : GoodCfg cfg) :
    ∀ (pre post : List Attempt) (i : Nat) (last : Option PyExc),
      (∀ b ∈ pre, isSuccess cfg b = false ∧ isSocketFails b = false) →
      connectOne (.ok cfg) (pre ++ .socketFails :: post) i last = .escaped .osError
  | [], post, i, last, _ => by simp [connectOne]
  | b :: pre, post, i, last, hpre => by
    obtain ⟨h1, h2⟩ := hpre b (by simp)
    rw [List.cons_append, connectOne_skip hg b _ i last h1 h2]
    exact connectOne_socket_failure hg pre post _ _ (fun x hx => hpre x (by simp [hx]))

theorem isSuccess_talks_iff {cfg : Cfg} (hg : GoodCfg cfg) (s : Bytes) (o : Nat → Nat) :
    isSuccess cfg (.talks s o) = true ↔ ∃ n, verdictFor cfg s = .granted n := by
  rw [← success_iff_granted hg o s 0]
  simp [isSuccess, attemptOutcome]

theorem isSuccess_peername (cfg : Cfg) (s : Bytes) (o : Nat → Nat) :
    isSuccess cfg (.peernameFails s o) = false := by
  simp only [isSuccess, attemptOutcome]
  split <;> rfl

/-- the all-zero granting reply most proxies send (`BND.ADDR` 0.0.0.0, `BND.PORT` 0) -/
def grant5 : Bytes := [5, 0, 5, 0, 0, 1, 0, 0, 0, 0, 0, 0]

/-- **the `try` of one proxy attempt, in the model** - the scenarios `Facts.C17.tryScope`
    observes on the real `create_connection` (`facts_exceptions`): a raising constructor and a
    raising `socket.socket()` escape at once; a refused `sock_connect`, a handshake ending in a
    SOCKS error and a raising `getpeername()` are followed by the next address (here: which
    grants, with the all-zero reply), for every segmentation. -/
theorem try_scope_model (o : Nat → Nat) :
    (∀ e a as i last, connectOne (.error e) (a :: as) i last = .escaped e) ∧
    connectOne (.ok cfg5n) [.socketFails, .talks grant5 o] 0 none = .escaped .osError ∧
    (∃ u, connectOne (.ok cfg5n) [.connectFails, .talks grant5 o] 0 none = .sock 1 u) ∧
    (∃ u, connectOne (.ok cfg5n) [.talks [5, 255] o, .talks grant5 o] 0 none = .sock 1 u) ∧
    (∃ u, connectOne (.ok cfg5n) [.peernameFails grant5 o, .talks grant5 o] 0 none = .sock 1 u) := by
  have hg : GoodCfg cfg5n := GoodCfg.s5 _ _ false
  have hgrant : isSuccess cfg5n (.talks grant5 o) = true :=
    (isSuccess_talks_iff hg grant5 o).2 ⟨12, by decide⟩
  have hrefuse : isSuccess cfg5n (.talks [5, 255] o) = false := by
    cases h : isSuccess cfg5n (.talks [5, 255] o) with
    | false => rfl
    | true =>
      obtain ⟨n, hn⟩ := (isSuccess_talks_iff hg [5, 255] o).1 h
      have hv : verdictFor cfg5n [5, 255] = .refused := by decide
      rw [hv] at hn
      cases hn
  refine ⟨fun _ _ _ _ _ => rfl, rfl, ?_, ?_, ?_⟩
  · simpa using connectOne_first_success hg [.connectFails] _ [] 0 none
      (by intro b hb; simp at hb; subst hb; exact ⟨rfl, rfl⟩) hgrant
  · simpa using connectOne_first_success hg [.talks [5, 255] o] _ [] 0 none
      (by intro b hb; simp at hb; subst hb; exact ⟨hrefuse, rfl⟩) hgrant
  · simpa using connectOne_first_success hg [.peernameFails grant5 o] _ [] 0 none
      (by intro b hb; simp at hb; subst hb; exact ⟨isSuccess_peername _ _ _, rfl⟩) hgrant

/-- **`create_connection` to one remote address through a proxy with one address** is the
    handshake: it succeeds iff the handshake does and otherwise raises the handshake's
    exception (this is how the harness drives the handshake: through the public API) -/
theorem create_connection_single {cfg : Cfg} (hg : GoodCfg cfg) (s : Bytes) (o : Nat → Nat) :
    createConnection1 (.ok cfg) [.talks s o] =
      match (handshake o (Client.init cfg) ⟨s, 0⟩).outcome with
      | none => .connected 0 (handshake o (Client.init cfg) ⟨s, 0⟩).unread
      | some e => .raised e := by
  rcases handshake_outcome_good hg s o with h | ⟨e, h, hc⟩
  · simp [createConnection1, connectOne, h, OneRes.toAddr, connect, connectLoop, connectLoopWith]
  · simp [createConnection1, connectOne, h, hc, OneRes.toAddr, connect, connectLoop,
      connectLoopWith, aggregate]

/-- the protocol object `_detect_proxy` builds -/
def detectCfg (p : Proto) (a : Auth) : Except PyExc Cfg :=
  if p = .socks4a then mkCfg p (.name wwwAppleCom) 80 a
  else mkCfg p (.ipv4 (vec4 8 8 8 8)) 53 a

theorem detectProxy_eq (p : Proto) (a : Auth) (as : List Attempt) :
    detectProxy p a as =
      match connectOne (detectCfg p a) as 0 none with
      | .sock _ _ => .ok true
      | .returned e => .ok (e == .socksFailure)
      | .escaped e => .error e := rfl

/-- **Detection verdict.**  When no entry fails in `socket.socket()`, `_detect_proxy` answers
    `True` exactly when some entry's handshake succeeds (and `getpeername()` works) or the
    last entry tried ends in `SOCKSFailure` (a proxy that refuses is still a proxy); `False`
    otherwise; it raises nothing. -/
theorem detect_verdict (p : Proto) (a : Auth) (cfg : Cfg) (hmk : detectCfg p a = .ok cfg)
    (hg : GoodCfg cfg) (as : List Attempt) (hne : as ≠ [])
    (hns : as.any isSocketFails = false) :
    detectProxy p a as =
      .ok (as.any (isSuccess cfg) ||
           attemptOutcome cfg (as.getLast hne) == some .socksFailure) := by
  have hspec := connectOne_spec hg as 0 none
  simp only [detectProxy_eq, hmk]
  split <;> rename_i heq <;> rw [heq] at hspec
  · simp [hspec]
  · obtain ⟨h1, _, h2⟩ := hspec
    rw [lastExc_getLast cfg as none hne] at h2
    rw [h1, h2]
    cases ‹PyExc› <;> rfl
  · rcases hspec with ⟨h, _⟩ | ⟨_, h⟩
    · exact absurd h hne
    · rw [hns] at h; simp at h

/-- ... and when an entry does fail in `socket.socket()` before any handshake succeeded, the
    `OSError` escapes `_detect_proxy` instead of a verdict (observed behaviour of the code,
    outside the property: the text speaks of reply bytes only) -/
theorem detect_socket_failure (p : Proto) (a : Auth) (cfg : Cfg) (hmk : detectCfg p a = .ok cfg)
    (hg : GoodCfg cfg) (pre post : List Attempt)
    (hpre : ∀ b ∈ pre, isSuccess cfg b = false ∧ isSocketFails b = false) :
    detectProxy p a (pre ++ .socketFails :: post) = .error .osError := by
  simp only [detectProxy_eq, hmk, connectOne_socket_failure hg pre post 0 none hpre]

/-- a granted handshake followed by a failing `getpeername()` is not a success: with that as
    the only entry the verdict is `False` although the replies grant the request -/
example : detectProxy .socks5 none [.peernameFails [5, 0, 5, 0, 0, 1, 0, 0, 0, 0, 0, 0] (fun _ => 99)]
    = .ok false := by
  have h : handshake (fun _ => 99) (Client.init (.s5 [1, 8, 8, 8, 8, 0, 53] [] [0]))
      ⟨[5, 0, 5, 0, 0, 1, 0, 0, 0, 0, 0, 0], 0⟩ =
      ⟨none, [[5, 1, 0], [5, 1, 0, 1, 8, 8, 8, 8, 0, 53]], [], [(2, 2), (5, 5), (5, 5)]⟩ :=
    handshakeFuel_sound _ 40 _ _ _ (by decide +kernel)
  have hm : mkCfg .socks5 (.ipv4 (vec4 8 8 8 8)) 53 none = .ok (.s5 [1, 8, 8, 8, 8, 0, 53] [] [0]) := by
    decide
  simp [detectProxy, hm, connectOne, h]

/-- `SOCKS5._authentication` offers method 0, and method 2 with it when there are credentials -/
theorem socks5Authentication_methods {a : Auth} {ab : Bytes} {ms : List UInt8}
    (h : socks5Authentication a = .ok (ab, ms)) : ms = methodsOf a.isSome := by
  cases a with
  | none => exact (Prod.mk.inj (Except.ok.inj h)).2.symm
  | some up =>
    simp only [socks5Authentication] at h
    split at h
    · cases h
    · split at h
      · cases h
      · split at h
        · cases h
        · split at h
          · cases h
          · exact (Prod.mk.inj (Except.ok.inj h)).2.symm

/-- a SOCKS4 / SOCKS4a object keeps its arguments -/
theorem mkCfg_s4 {p : Proto} {h : Host} {port : Nat} {a : Auth} {cfg : Cfg} (hp : p ≠ .socks5)
    (hmk : mkCfg p h port a = .ok cfg) : cfg = .s4 h port a := by
  unfold mkCfg at hmk
  split at hmk
  · exact absurd rfl hp
  · split at hmk
    · cases hmk
    · exact (Except.ok.inj hmk).symm

/-- the detection destinations are expressible and (for credentials with a UTF-8 form) the
    resulting object is a `GoodCfg`; for SOCKS5 any accepted credentials will do -/
theorem detect_cfg_good (p : Proto) (a : Auth) (cfg : Cfg) (hmk : detectCfg p a = .ok cfg)
    (hu : p ≠ .socks5 → ∃ ub, (match a with | some (u, _) => utf8 u | none => .ok []) = .ok ub) :
    GoodCfg cfg := by
  have hh : utf8 wwwAppleCom = .ok (wwwAppleCom.map Nat.toUInt8) := by decide
  cases p <;> simp only [detectCfg, reduceCtorEq, if_false, if_true] at hmk
  case socks5 =>
    simp only [mkCfg] at hmk
    split at hmk
    · cases hmk
    · split at hmk
      · cases hmk
      · rename_i ab ms ha
        rw [← Except.ok.inj hmk, socks5Authentication_methods ha]
        exact GoodCfg.s5 _ _ _
  case socks4 =>
    obtain ⟨ub, hub⟩ := hu (by decide)
    rw [mkCfg_s4 (by decide) hmk]
    cases a with
    | none => exact GoodCfg.s4 _ _ _ _ (by simp [socks4Start, packH]; rfl)
    | some up => exact GoodCfg.s4 _ _ _ _ (by simp [socks4Start, show utf8 up.1 = _ from hub, packH]; rfl)
  case socks4a =>
    obtain ⟨ub, hub⟩ := hu (by decide)
    rw [mkCfg_s4 (by decide) hmk]
    cases a with
    | none => exact GoodCfg.s4 _ _ _ _ (by simp [socks4Start, hh, packH]; rfl)
    | some up =>
      exact GoodCfg.s4 _ _ _ _ (by simp [socks4Start, show utf8 up.1 = _ from hub, hh, packH]; rfl)

/-- addresses that all returned an exception -/
def excs (xs : List (PyExc × Nat)) : List AddrOutcome := xs.map fun x => .exc x.1 x.2

theorem excs_of_all {l : List AddrOutcome} (h : ∀ o ∈ l, ∃ e r, o = AddrOutcome.exc e r) :
    ∃ xs, l = excs xs := by
  induction l with
  | nil => exact ⟨[], rfl⟩
  | cons o t ih =>
    obtain ⟨e, r, rfl⟩ := h o (by simp)
    obtain ⟨xs, rfl⟩ := ih fun o ho => h o (by simp [ho])
    exact ⟨(e, r) :: xs, rfl⟩

theorem mem_excs {e : PyExc} {r : Nat} {xs : List (PyExc × Nat)} :
    AddrOutcome.exc e r ∈ excs xs ↔ (e, r) ∈ xs := by
  simp [excs]

/-- the loop of `_connect` runs through addresses that returned an exception, collecting them -/
theorem connectLoop_excs (agg : List (PyExc × Nat) → PyExc) (xs : List (PyExc × Nat))
    (tail : List AddrOutcome) (i : Nat) (acc : List (PyExc × Nat)) :
    connectLoopWith agg (excs xs ++ tail) i acc =
      connectLoopWith agg tail (i + xs.length) (acc ++ xs) := by
  induction xs generalizing i acc with
  | nil => simp [excs]
  | cons x xs ih =>
    show connectLoopWith agg (excs xs ++ tail) (i + 1) (acc ++ [x]) = _
    rw [ih, List.append_assoc, List.length_cons, Nat.add_assoc, Nat.add_comm 1]
    rfl

/-- when every address returned an exception, `_connect` raises the aggregate of them -/
theorem connect_excs (agg : List (PyExc × Nat) → PyExc) (xs : List (PyExc × Nat)) :
    connectLoopWith agg (excs xs) 0 [] = .raised (agg xs) := by
  have := connectLoop_excs agg xs [] 0 []
  rwa [List.append_nil] at this

/-- the final `raise` of the repaired `_connect` on a non-empty list, condition by condition -/
theorem aggregate_cons (e : PyExc) (r : Nat) (rest : List (PyExc × Nat)) :
    aggregate ((e, r) :: rest) =
      if ∀ x ∈ rest, x.2 = r then e
      else if ∀ x ∈ (e, r) :: rest, isSocksError x.1 = true then
        if ∀ x ∈ (e, r) :: rest, x.1 = .socksFailure then .socksFailure else .socksProtocolError
      else .osError := by
  simp only [aggregate, List.all_eq_true, beq_iff_eq]

/-- **the aggregate exception** (repaired `_connect`, F28): it is an `OSError` only if some
    address failed with something that is not a `SOCKSError` (a socket-level failure); when
    every address failed at SOCKS level it is a `SOCKSError` - `SOCKSFailure` if all are
    refusals; and if it is a `SOCKSFailure` some address was refused. -/
theorem aggregate_sound (l : List (PyExc × Nat)) (hne : l ≠ []) :
    (aggregate l = .osError → ∃ x ∈ l, isSocksError x.1 = false) ∧
    ((∀ x ∈ l, isSocksError x.1 = true) → isSocksError (aggregate l) = true) ∧
    ((∀ x ∈ l, x.1 = .socksFailure) → aggregate l = .socksFailure) := by
  cases l with
  | nil => exact absurd rfl hne
  | cons x rest =>
    obtain ⟨e, r⟩ := x
    rw [aggregate_cons]
    by_cases h1 : ∀ x ∈ rest, x.2 = r
    · rw [if_pos h1]
      exact ⟨fun he => ⟨(e, r), by simp, by simp [he, isSocksError]⟩, fun h => h (e, r) (by simp),
        fun h => h (e, r) (by simp)⟩
    · rw [if_neg h1]
      by_cases h2 : ∀ x ∈ (e, r) :: rest, isSocksError x.1 = true
      · rw [if_pos h2]
        by_cases h3 : ∀ x ∈ (e, r) :: rest, x.1 = .socksFailure
        · rw [if_pos h3]; exact ⟨nofun, fun _ => rfl, fun _ => rfl⟩
        · rw [if_neg h3]; exact ⟨nofun, fun _ => rfl, fun h => absurd h h3⟩
      · rw [if_neg h2]
        have := List.all_eq_false.1 (Bool.eq_false_iff.2 (mt List.all_eq_true.1 h2))
        exact ⟨fun _ => by simpa using this, fun h => absurd h h2,
          fun h => absurd (fun x hx => by rw [h x hx]; rfl) h2⟩

/-- **`_connect`** (repaired, F28).  (1) The first address whose `_connect_one` yields a socket
    wins (every earlier address having returned an exception); (2) an exception escaping
    `_connect_one` propagates at once; (3) when every address returned an exception and all
    their reprs coincide, the first of them is raised; (4) when the reprs differ and every
    exception is a `SOCKSFailure`, a `SOCKSFailure` is raised; (5) when they differ, all are
    `SOCKSError`s and not all of them `SOCKSFailure`s, a `SOCKSProtocolError`; (6) when the reprs
    differ and some address failed at socket level, an `OSError`; (7) `assert
    remote_addresses`. -/
theorem connect_spec :
    (∀ pre u post, (∀ o ∈ pre, ∃ e r, o = AddrOutcome.exc e r) →
      connect (pre ++ .sock u :: post) = .connected pre.length u) ∧
    (∀ pre e post, (∀ o ∈ pre, ∃ e' r, o = AddrOutcome.exc e' r) →
      connect (pre ++ .escaped e :: post) = .raised e) ∧
    (∀ e r rest, (∀ o ∈ rest, ∃ e', o = AddrOutcome.exc e' r) →
      connect (.exc e r :: rest) = .raised e) ∧
    (∀ r rest, (∀ o ∈ rest, ∃ r', o = AddrOutcome.exc .socksFailure r') →
      (∃ e' r', AddrOutcome.exc e' r' ∈ rest ∧ r' ≠ r) →
      connect (.exc .socksFailure r :: rest) = .raised .socksFailure) ∧
    (∀ e r rest, (∀ o ∈ rest, ∃ e' r', o = AddrOutcome.exc e' r' ∧ isSocksError e' = true) →
      isSocksError e = true → (∃ e' r', AddrOutcome.exc e' r' ∈ rest ∧ r' ≠ r) →
      (e ≠ .socksFailure ∨ ∃ e' r', AddrOutcome.exc e' r' ∈ rest ∧ e' ≠ .socksFailure) →
      connect (.exc e r :: rest) = .raised .socksProtocolError) ∧
    (∀ e r rest, (∀ o ∈ rest, ∃ e' r', o = AddrOutcome.exc e' r') →
      (∃ e' r', AddrOutcome.exc e' r' ∈ rest ∧ r' ≠ r) →
      (isSocksError e = false ∨ ∃ e' r', AddrOutcome.exc e' r' ∈ rest ∧ isSocksError e' = false) →
      connect (.exc e r :: rest) = .raised .osError) ∧
    connect [] = .raised .assertionError := by
  -- every clause: the addresses that returned an exception are `excs xs`; clauses 3-6 then read
  -- the raised exception off `aggregate_cons`
  have hdiff : ∀ {r : Nat} {xs : List (PyExc × Nat)},
      (∃ e' r', AddrOutcome.exc e' r' ∈ excs xs ∧ r' ≠ r) → ¬ ∀ x ∈ xs, x.2 = r :=
    fun ⟨e', r', hm, hne⟩ h => hne (h _ (mem_excs.1 hm))
  refine ⟨?_, ?_, ?_, ?_, ?_, ?_, rfl⟩
  · intro pre u post h
    obtain ⟨xs, rfl⟩ := excs_of_all h
    exact (connectLoop_excs aggregate xs _ 0 []).trans (by simp [connectLoopWith, excs])
  · intro pre e post h
    obtain ⟨xs, rfl⟩ := excs_of_all h
    exact connectLoop_excs aggregate xs _ 0 []
  · intro e r rest h
    obtain ⟨xs, rfl⟩ := excs_of_all fun o ho => (h o ho).imp fun _ he => ⟨r, he⟩
    refine (connect_excs aggregate ((e, r) :: xs)).trans ?_
    rw [aggregate_cons, if_pos]
    intro x hx
    obtain ⟨e', he⟩ := h _ (mem_excs.2 hx)
    exact (AddrOutcome.exc.inj he).2
  · intro r rest h _
    obtain ⟨xs, rfl⟩ := excs_of_all fun o ho => let ⟨r', he⟩ := h o ho; ⟨_, r', he⟩
    refine (connect_excs aggregate ((_, r) :: xs)).trans ?_
    rw [(aggregate_sound _ (List.cons_ne_nil _ _)).2.2]
    intro x hx
    rcases List.mem_cons.1 hx with rfl | hx
    · rfl
    · obtain ⟨r', he⟩ := h _ (mem_excs.2 hx)
      exact (AddrOutcome.exc.inj he).1
  · intro e r rest h he hd hnf
    obtain ⟨xs, rfl⟩ := excs_of_all fun o ho => let ⟨e', r', he, _⟩ := h o ho; ⟨e', r', he⟩
    refine (connect_excs aggregate ((e, r) :: xs)).trans ?_
    rw [aggregate_cons, if_neg (hdiff hd), if_pos, if_neg]
    · rcases hnf with h1 | ⟨e', r', hm, h1⟩
      · exact fun hall => h1 (hall (e, r) (by simp))
      · exact fun hall => h1 (hall (e', r') (List.mem_cons_of_mem _ (mem_excs.1 hm)))
    · intro x hx
      rcases List.mem_cons.1 hx with rfl | hx
      · exact he
      · obtain ⟨e', r', h1, h2⟩ := h _ (mem_excs.2 hx)
        rw [(AddrOutcome.exc.inj h1).1]
        exact h2
  · intro e r rest hall hd hnon
    obtain ⟨xs, rfl⟩ := excs_of_all hall
    refine (connect_excs aggregate ((e, r) :: xs)).trans ?_
    rw [aggregate_cons, if_neg (hdiff hd), if_neg]
    rcases hnon with h1 | ⟨e', r', hm, h1⟩
    · exact fun hall' => by simpa [h1] using hall' (e, r) (by simp)
    · exact fun hall' => by
        simpa [h1] using hall' (e', r') (List.mem_cons_of_mem _ (mem_excs.1 hm))

/-- **No other exception out of `_connect`** (repaired): when every address ends in a returned
    exception, what `_connect` raises is an `OSError` only if some address failed with
    something other than a `SOCKSError`; if all failed at SOCKS level it is a `SOCKSError`. -/
theorem connect_no_other_exception (l : List AddrOutcome) (hne : l ≠ [])
    (h : ∀ o ∈ l, ∃ e r, o = AddrOutcome.exc e r) :
    ∃ x, connect l = .raised x ∧
      (x = .osError → ∃ e r, AddrOutcome.exc e r ∈ l ∧ isSocksError e = false) ∧
      ((∀ e r, AddrOutcome.exc e r ∈ l → isSocksError e = true) → isSocksError x = true) := by
  obtain ⟨xs, rfl⟩ := excs_of_all h
  obtain ⟨h1, h2, _⟩ := aggregate_sound xs (by rintro rfl; exact hne rfl)
  refine ⟨aggregate xs, connect_excs aggregate xs, fun hx => ?_,
    fun hall => h2 fun x hx => hall x.1 x.2 (mem_excs.2 hx)⟩
  obtain ⟨x, hm, hs⟩ := h1 hx
  exact ⟨x.1, x.2, mem_excs.2 hm, hs⟩

/-- the full-strength statement about the **pinned** `_connect`: failures at SOCKS level only
    never surface as anything but a `SOCKSError` -/
def connect_no_other_exception_full_pinned : Prop :=
  ∀ l : List AddrOutcome, l ≠ [] →
    (∀ o ∈ l, ∃ e r, o = AddrOutcome.exc e r ∧ isSocksError e = true) →
    ∃ x, connectPinned l = .raised x ∧ isSocksError x = true

/-- **F28, pinned tree**: two addresses refused with different reply codes (SOCKS4 status 91,
    then 92: two `SOCKSFailure`s with different reprs) make `_connect` raise a bare `OSError`
    although no attempt failed at socket level; the repaired `_connect` raises `SOCKSFailure`. -/
theorem connect_reply_only_oserror_pinned :
    connectPinned [.exc .socksFailure 0, .exc .socksFailure 1] = .raised .osError ∧
    connect [.exc .socksFailure 0, .exc .socksFailure 1] = .raised .socksFailure ∧
    connect [.exc .socksFailure 0, .exc .socksProtocolError 1] = .raised .socksProtocolError ∧
    connect [.exc .socksFailure 0, .exc .osError 1] = .raised .osError := by decide

theorem connect_no_other_exception_full_pinned_fails : ¬ connect_no_other_exception_full_pinned := by
  intro h
  obtain ⟨x, h1, h2⟩ := h [.exc .socksFailure 0, .exc .socksFailure 1] (by simp)
    (by intro o ho; simp at ho; rcases ho with rfl | rfl <;> exact ⟨_, _, rfl, rfl⟩)
  have : x = .osError := by
    have h3 : connectPinned [.exc .socksFailure 0, .exc .socksFailure 1] = .raised .osError := by
      decide
    rw [h3] at h1
    exact (ConnectRes.raised.inj h1).symm
  subst this
  simp [isSocksError] at h2

theorem aggregate_vs_pinned (acc : List (PyExc × Nat)) :
    aggregatePinned acc = aggregate acc ∨
    (aggregatePinned acc = .osError ∧ isSocksError (aggregate acc) = true) := by
  cases acc with
  | nil => exact Or.inl rfl
  | cons x rest =>
    obtain ⟨e, r⟩ := x
    simp only [aggregatePinned, aggregate]
    by_cases h1 : rest.all (fun x => x.2 == r) = true
    · simp [h1]
    · simp only [h1, Bool.false_eq_true, if_false]
      by_cases h2 : ((e, r) :: rest).all (fun x => isSocksError x.1) = true
      · simp only [h2, if_true]
        right
        refine ⟨by trivial, ?_⟩
        split <;> rfl
      · simp [h2]

/-- **the repair changes nothing else**: the pinned and the repaired `_connect` agree on every
    list of per-address outcomes, except where the pinned one raises the bare `OSError` for
    failures at SOCKS level only - there the repaired one raises a `SOCKSError` -/
theorem connectPinned_vs_connect (l : List AddrOutcome) :
    connectPinned l = connect l ∨
    (connectPinned l = .raised .osError ∧ ∃ x, connect l = .raised x ∧ isSocksError x = true) := by
  have key : ∀ (l : List AddrOutcome) (i : Nat) (acc : List (PyExc × Nat)),
      connectLoopWith aggregatePinned l i acc = connectLoopWith aggregate l i acc ∨
      (connectLoopWith aggregatePinned l i acc = .raised .osError ∧
        ∃ x, connectLoopWith aggregate l i acc = .raised x ∧ isSocksError x = true) := by
    intro l
    induction l with
    | nil =>
      intro i acc
      simp only [connectLoopWith]
      rcases aggregate_vs_pinned acc with h | ⟨h1, h2⟩
      · exact Or.inl (by rw [h])
      · exact Or.inr ⟨by rw [h1], _, rfl, h2⟩
    | cons o t ih =>
      intro i acc
      cases o with
      | sock u => exact Or.inl rfl
      | escaped e => exact Or.inl rfl
      | exc e r => simpa only [connectLoopWith] using ih (i + 1) (acc ++ [(e, r)])
  exact key l 0 []

example : connect [.exc .osError 1, .sock [7]] = .connected 1 [7] := by decide
example : connect [.exc .socksFailure 1, .exc .socksFailure 1] = .raised .socksFailure := by decide
example : connect [.exc .socksFailure 1, .exc .osError 2] = .raised .osError := by decide

example : verdictFor cfg5n [5, 0, 5, 0, 0, 3, 2, 104, 105, 0, 80, 0x16, 0x03] = .granted 11 := by
  decide
example : verdictFor cfg5a [5, 2, 1, 0, 5, 0, 0, 1, 1, 2, 3, 4, 0, 80] = .granted 14 := by decide
example : verdictFor cfg5a [5, 2, 1, 1] = .refused := by decide
example : verdictFor cfg5n [5, 2] = .refused := by decide
example : verdictFor cfg5n [5, 0, 5, 5, 0, 1, 0, 0, 0, 0, 0, 0] = .refused := by decide
example : verdictFor cfg5n [5, 0, 5, 5, 0, 1, 0] = .refusedCut := by decide
example : verdictFor cfg5n [5, 0, 5, 0, 1, 1, 0, 0, 0, 0, 0, 0] = .bad := by decide
example : verdictFor cfg5n [5, 0, 5, 0, 0, 1, 0, 0, 0] = .bad := by decide
example : verdictFor cfg4 [0, 90, 0, 0, 0, 0, 0, 0, 0x16] = .granted 8 := by decide
example : verdictFor cfg4 [0, 91, 0, 0, 0, 0, 0, 0] = .refused := by decide
example : verdictFor cfg4 [0, 90, 0, 0] = .bad := by decide
example : GoodCfg cfg4 := GoodCfg.s4 _ _ _ _ (by decide : socks4Start _ _ _ = .ok [4, 1, 0, 80, 1, 2, 3, 4, 0])
example : GoodCfg cfg5n := GoodCfg.s5 _ _ false
example : GoodCfg cfg5a := GoodCfg.s5 _ _ true

end Aiorpcx.C17
