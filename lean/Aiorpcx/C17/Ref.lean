import Aiorpcx.C16.Model
/-! C17 — segmentation-free reference semantics of the handshake (`runRef`: every parser step
    gets its bytes in one piece) and the proof that the real driver loop `handshake`, under
    *any* segmentation oracle, computes the same outcome, sends the same messages and leaves
    the same bytes unread. -/
namespace Aiorpcx.C17
open Aiorpcx.Socks

/-- the segmentation-independent part of a `Run` -/
structure RefRun where
  outcome : Option PyExc
  sent : List Bytes
  unread : Bytes
  deriving DecidableEq, Repr

def refOf (r : Run) : RefRun := ⟨r.outcome, r.sent, r.unread⟩

/-- a parser state whose buffer is short of what the step reads asks for exactly the rest and
    changes nothing -/
theorem nextMessage_short (x : Client) (h : x.buf.length < x.st.size) :
    nextMessage x = (x, .need (x.st.size - x.buf.length)) := by
  unfold nextMessage
  cases hst : x.st <;> rw [hst] at h <;> simp only [St.size] at h ⊢
  · omega
  all_goals simp [restStep, withRead, Client.read, h]

/-- what a `recv` that is answered returns: at least one byte, no more than asked for, no
    more than there is -/
theorem clamp_bounds {c c' : Client} {k : Nat} (h : nextMessage c = (c', .need k)) {stream : Bytes}
    (hne : ¬ stream.isEmpty = true) (want : Nat) :
    1 ≤ clamp want k stream.length ∧ clamp want k stream.length ≤ k ∧
      clamp want k stream.length ≤ stream.length := by
  obtain ⟨h1, h2, _⟩ := nextMessage_need h
  have hl : 1 ≤ stream.length := List.length_pos_iff.2 (by simpa using hne)
  have hk : 1 ≤ k := by omega
  exact ⟨Nat.le_max_left _ _,
    Nat.max_le.2 ⟨hk, Nat.le_trans (Nat.min_le_right _ _) (Nat.min_le_left _ _)⟩,
    Nat.max_le.2 ⟨hl, Nat.le_trans (Nat.min_le_right _ _) (Nat.min_le_right _ _)⟩⟩

theorem receiveData_st (c : Client) (d : Bytes) : (c.receiveData d).st = c.st := rfl

theorem receiveData_take_length (c : Client) {s : Bytes} {n : Nat} (h : n ≤ s.length) :
    (c.receiveData (s.take n)).buf.length = c.buf.length + n := by
  simp only [Client.receiveData, List.length_append, List.length_take, Nat.min_eq_left h]

/-- reference run: whenever a step needs `k` more bytes it gets exactly the next `k` bytes of
    the stream at once (EOF if the stream is shorter) -/
def runRef (c : Client) (stream : Bytes) : RefRun :=
  match h : nextMessage c with
  | (_, .raise e) => ⟨some e, [], stream⟩
  | (_, .fin) => ⟨none, [], stream⟩
  | (c', .msg b) =>
    let r := runRef c' stream
    { r with sent := b :: r.sent }
  | (c', .need k) =>
    if hk : stream.length < k then ⟨some .socksProtocolError, [], []⟩
    else runRef (c'.receiveData (stream.take k)) (stream.drop k)
termination_by c.measure
decreasing_by
  · exact Prod.Lex.left _ _ (nextMessage_msg_rank h)
  · obtain ⟨h1, h2, h3⟩ := nextMessage_need h
    rcases h3 with h3 | h3
    · exact Prod.Lex.left _ _ h3
    · subst h3
      simp only [Client.measure, Client.receiveData]
      apply Prod.Lex.right
      simp [List.length_take]
      omega

def consMsg (b : Bytes) (r : RefRun) : RefRun := { r with sent := b :: r.sent }
def eofRun : RefRun := ⟨some .socksProtocolError, [], []⟩

theorem runRef_eq (c : Client) (stream : Bytes) :
    runRef c stream =
      match nextMessage c with
      | (_, .raise e) => ⟨some e, [], stream⟩
      | (_, .fin) => ⟨none, [], stream⟩
      | (c', .msg b) => consMsg b (runRef c' stream)
      | (c', .need k) =>
        if stream.length < k then eofRun
        else runRef (c'.receiveData (stream.take k)) (stream.drop k) := by
  conv => lhs; unfold runRef
  split <;> rename_i heq <;> rw [heq] <;> simp [consMsg, eofRun]

/-- a step that misses `k` bytes: end of stream, or it gets exactly those -/
theorem runRef_short (c : Client) (s : Bytes) (h : c.buf.length < c.st.size) :
    runRef c s =
      if s.length < c.st.size - c.buf.length then eofRun
      else runRef (c.receiveData (s.take (c.st.size - c.buf.length)))
        (s.drop (c.st.size - c.buf.length)) := by
  rw [runRef_eq, nextMessage_short c h]

/-- a step that asks for more leaves the object as one that misses those bytes -/
theorem runRef_need {c c' : Client} {k : Nat} (h : nextMessage c = (c', .need k)) (s : Bytes) :
    runRef c s = runRef c' s := by
  obtain ⟨h1, h2, _⟩ := nextMessage_need h
  rw [runRef_eq c, h, runRef_short c' s h1, ← h2]

/-- feeding part of what a step misses leaves it asking for the remainder -/
theorem runRef_partial (c : Client) (s : Bytes) (n : Nat) (hshort : c.buf.length < c.st.size)
    (hnk : n ≤ c.st.size - c.buf.length) (hnl : n ≤ s.length) :
    runRef (c.receiveData (s.take n)) (s.drop n) = runRef c s := by
  rw [runRef_short c s hshort]
  by_cases hfull : n = c.st.size - c.buf.length
  · rw [← hfull, if_neg (by omega)]
  · have hlen := receiveData_take_length c hnl
    rw [runRef_short _ _ (by rw [hlen, receiveData_st]; omega), hlen, receiveData_st]
    simp only [Client.receiveData, List.length_drop, List.append_assoc, List.drop_drop]
    have hk : c.st.size - c.buf.length = n + (c.st.size - (c.buf.length + n)) := by omega
    by_cases hs : s.length < c.st.size - c.buf.length
    · rw [if_pos hs, if_pos (by omega)]
    · rw [if_neg hs, if_neg (by omega), hk, List.take_add, ← hk]

/-- **Step lemma / refinement**: for every oracle the driver loop agrees with the reference
    run on outcome, messages sent and bytes left unread. -/
theorem handshake_ref (oracle : Nat → Nat) (c : Client) (s : Sock) :
    refOf (handshake oracle c s) = runRef c s.stream := by
  fun_induction handshake oracle c s with
  | case1 c s c' e h => rw [runRef_eq, h]; rfl
  | case2 c s c' h => rw [runRef_eq, h]; rfl
  | case3 c s c' b h r ih =>
    rw [runRef_eq, h]
    show _ = consMsg b (runRef c' s.stream)
    rw [← ih]
    rfl
  | case4 c s c' k h hne =>
    obtain ⟨h1, h2, _⟩ := nextMessage_need h
    have : s.stream = [] := by simpa using hne
    have hkpos : 0 < k := by omega
    simp [runRef_eq c, h, refOf, eofRun, this, hkpos]
  | case5 c s c' k h hne n r ih =>
    obtain ⟨h1, h2, _⟩ := nextMessage_need h
    have hb := clamp_bounds h hne (oracle s.idx)
    simp only [refOf] at ih ⊢
    rw [ih, runRef_partial c' s.stream n h1 (by omega) hb.2.2, runRef_need h]

/-- structurally recursive twin of `handshake` (fuel = number of loop iterations allowed),
    used to evaluate concrete runs inside the kernel -/
def handshakeFuel (oracle : Nat → Nat) : Nat → Client → Sock → Option Run
  | 0, _, _ => none
  | f + 1, c, s =>
    match nextMessage c with
    | (_, .raise e) => some ⟨some e, [], s.stream, []⟩
    | (_, .fin) => some ⟨none, [], s.stream, []⟩
    | (c', .msg b) =>
      (handshakeFuel oracle f c' s).map fun r => { r with sent := b :: r.sent }
    | (c', .need k) =>
      if s.stream.isEmpty then some ⟨some .socksProtocolError, [], [], [(k, 0)]⟩
      else
        (handshakeFuel oracle f
            (c'.receiveData (s.stream.take (clamp (oracle s.idx) k s.stream.length)))
            ⟨s.stream.drop (clamp (oracle s.idx) k s.stream.length), s.idx + 1⟩).map
          fun r => { r with recvs := (k, clamp (oracle s.idx) k s.stream.length) :: r.recvs }

theorem handshakeFuel_sound (oracle : Nat → Nat) :
    ∀ (f : Nat) (c : Client) (s : Sock) (r : Run),
      handshakeFuel oracle f c s = some r → handshake oracle c s = r := by
  intro f
  induction f with
  | zero => intro c s r h; simp [handshakeFuel] at h
  | succ f ih =>
    intro c s r h
    unfold handshakeFuel at h
    conv => lhs; unfold handshake
    split <;> rename_i heq <;> rw [heq] at h <;> simp only at h
    · simp at h; exact h
    · simp at h; exact h
    · rename_i c' b
      cases hr : handshakeFuel oracle f c' s with
      | none => simp [hr] at h
      | some r' =>
        simp [hr] at h
        rw [ih _ _ _ hr]
        exact h
    · rename_i c' k
      by_cases hne : s.stream.isEmpty = true
      · simp [hne] at h ⊢; exact h
      · simp only [hne, Bool.false_eq_true, if_false] at h
        simp only [hne]
        cases hr : handshakeFuel oracle f
            (c'.receiveData (s.stream.take (clamp (oracle s.idx) k s.stream.length)))
            ⟨s.stream.drop (clamp (oracle s.idx) k s.stream.length), s.idx + 1⟩ with
        | none => simp [hr] at h
        | some r' =>
          simp [hr] at h
          rw [ih _ _ _ hr]
          exact h

end Aiorpcx.C17
