import Aiorpcx.C17.Ref
/-! C17 — the reference run in closed form: `next_message()` of each parser stage on a full
    buffer, and from that what each stage, and the whole handshake (`startRun`), makes of the
    reply bytes. -/
namespace Aiorpcx.C17
open Aiorpcx.Socks

/-- a stage with fewer bytes left than its step reads ends the run at end of stream -/
theorem runRef_eof (cfg : Cfg) (st : St) (s : Bytes) (h : s.length < st.size) :
    runRef ⟨cfg, st, []⟩ s = eofRun := by
  rw [runRef_short _ _ (by simp only [List.length_nil]; omega)]
  simp [h]

/-- otherwise the step is called on exactly its bytes -/
theorem runRef_stage (cfg : Cfg) (st : St) (d rest : Bytes) (hd : d.length = st.size)
    (hpos : 0 < st.size) : runRef ⟨cfg, st, []⟩ (d ++ rest) = runRef ⟨cfg, st, d⟩ rest := by
  rw [runRef_short _ _ (by simpa using hpos), if_neg (by simp [← hd])]
  simp [Client.receiveData, ← hd]

theorem nextMessage_first4 (cfg : Cfg) (vn cd a b c d e f : UInt8) :
    nextMessage ⟨cfg, .first4, [vn, cd, a, b, c, d, e, f]⟩ =
      if vn ≠ 0 then (⟨cfg, .first4, []⟩, .raise .socksProtocolError)
      else if cd ≠ 90 then (⟨cfg, .first4, []⟩, .raise .socksFailure)
      else (⟨cfg, .first4, []⟩, .fin) := by
  simp [nextMessage, withRead, Client.read, first4Body, byteAt]

theorem nextMessage_first5 (cfg : Cfg) (v m : UInt8) :
    nextMessage ⟨cfg, .first5, [v, m]⟩ =
      if v ≠ 5 then (⟨cfg, .first5, []⟩, .raise .socksProtocolError)
      else if m ∉ cfg.methods then (⟨cfg, .first5, []⟩, .raise .socksFailure)
      else if m = 2 then (⟨cfg, .authResp, []⟩, .msg cfg.authBytes)
      else (⟨cfg, .connect, []⟩, .msg (socks5Connect cfg.dst)) := by
  simp [nextMessage, withRead, Client.read, first5Body, requestConnection, byteAt]

theorem nextMessage_auth (cfg : Cfg) (v st : UInt8) :
    nextMessage ⟨cfg, .authResp, [v, st]⟩ =
      if v ≠ 1 then (⟨cfg, .authResp, []⟩, .raise .socksProtocolError)
      else if st ≠ 0 then (⟨cfg, .authResp, []⟩, .raise .socksFailure)
      else (⟨cfg, .connect, []⟩, .msg (socks5Connect cfg.dst)) := by
  simp [nextMessage, withRead, Client.read, authBody, requestConnection, byteAt]

/-- a well-formed granting header hands over to `_connect_response_rest`, which asks for the
    rest of the reply at once -/
theorem nextMessage_connect (cfg : Cfg) (v rep rsv atyp l : UInt8) :
    nextMessage ⟨cfg, .connect, [v, rep, rsv, atyp, l]⟩ =
      if v ≠ 5 ∨ rsv ≠ 0 ∨ ¬ (atyp = 1 ∨ atyp = 3 ∨ atyp = 4) then
        (⟨cfg, .connect, []⟩, .raise .socksProtocolError)
      else if rep ≠ 0 then (⟨cfg, .connect, []⟩, .raise .socksFailure)
      else (⟨cfg, .rest (addrLenOf atyp l), []⟩, .need (addrLenOf atyp l + 2)) := by
  simp [nextMessage, withRead, Client.read, connectBody, restStep, byteAt, or_assoc, and_assoc]

theorem nextMessage_rest (cfg : Cfg) (n : Nat) (d : Bytes) (hd : d.length = n + 2) :
    nextMessage ⟨cfg, .rest n, d⟩ = (⟨cfg, .rest n, []⟩, .fin) := by
  simp [nextMessage, restStep, withRead, Client.read, hd]

theorem runRef_start_s5 (dst ab : Bytes) (ms : List UInt8) (s : Bytes) :
    runRef (Client.init (.s5 dst ab ms)) s =
      consMsg (socks5Greeting ms) (runRef ⟨.s5 dst ab ms, .first5, []⟩ s) := by
  rw [runRef_eq]
  simp [nextMessage, Client.init, startStep]

theorem runRef_start_s4 (h : Host) (port : Nat) (a : Auth) (b : Bytes) (s : Bytes)
    (hs : socks4Start h port a = .ok b) :
    runRef (Client.init (.s4 h port a)) s =
      consMsg b (runRef ⟨.s4 h port a, .first4, []⟩ s) := by
  rw [runRef_eq]
  simp [nextMessage, Client.init, startStep, hs]

theorem runRef_start_s4_raise (h : Host) (port : Nat) (a : Auth) (e : PyExc) (s : Bytes)
    (hs : socks4Start h port a = .error e) :
    runRef (Client.init (.s4 h port a)) s = ⟨some e, [], s⟩ := by
  rw [runRef_eq]
  simp [nextMessage, Client.init, startStep, hs]

/-- `SOCKS4._first_response` on its 8 bytes -/
theorem runRef_first4 (cfg : Cfg) (s : Bytes) :
    runRef ⟨cfg, .first4, []⟩ s =
      match s with
      | vn :: cd :: _ :: _ :: _ :: _ :: _ :: _ :: rest =>
        if vn ≠ 0 then ⟨some .socksProtocolError, [], rest⟩
        else if cd ≠ 90 then ⟨some .socksFailure, [], rest⟩
        else ⟨none, [], rest⟩
      | _ => eofRun := by
  match s with
  | [] | [_] | [_, _] | [_, _, _] | [_, _, _, _] | [_, _, _, _, _] | [_, _, _, _, _, _]
  | [_, _, _, _, _, _, _] => exact runRef_eof _ _ _ (by simp [St.size])
  | vn :: cd :: a :: b :: c :: d :: e :: f :: rest =>
    show runRef _ ([vn, cd, a, b, c, d, e, f] ++ rest) = _
    rw [runRef_stage cfg .first4 _ rest rfl (by decide), runRef_eq, nextMessage_first4]
    by_cases h1 : vn = 0 <;> by_cases h2 : cd = 90 <;> simp [h1, h2]

/-- `SOCKS5._connect_response_rest` -/
theorem runRef_rest (cfg : Cfg) (n : Nat) (s : Bytes) :
    runRef ⟨cfg, .rest n, []⟩ s =
      if s.length < n + 2 then eofRun else ⟨none, [], s.drop (n + 2)⟩ := by
  by_cases h : s.length < n + 2
  · rw [if_pos h, runRef_eof _ _ _ h]
  · have hl : (s.take (n + 2)).length = n + 2 := by simp [List.length_take]; omega
    rw [if_neg h, ← List.take_append_drop (n + 2) s, runRef_stage cfg (.rest n) _ _ hl (by simp [St.size]),
      runRef_eq, nextMessage_rest cfg n _ hl, List.take_append_drop]

/-- what `SOCKS5._connect_response` (5 bytes) and `_connect_response_rest` make of the replies -/
def connectRun : Bytes → RefRun
  | v :: rep :: rsv :: atyp :: l :: rest =>
    if v ≠ 5 ∨ rsv ≠ 0 ∨ ¬ (atyp = 1 ∨ atyp = 3 ∨ atyp = 4) then
      ⟨some .socksProtocolError, [], rest⟩
    else if rep ≠ 0 then ⟨some .socksFailure, [], rest⟩
    else if rest.length < addrLenOf atyp l + 2 then eofRun
    else ⟨none, [], rest.drop (addrLenOf atyp l + 2)⟩
  | _ => eofRun

theorem runRef_connect (cfg : Cfg) (s : Bytes) : runRef ⟨cfg, .connect, []⟩ s = connectRun s := by
  match s with
  | [] | [_] | [_, _] | [_, _, _] | [_, _, _, _] => exact runRef_eof _ _ _ (by simp [St.size])
  | v :: rep :: rsv :: atyp :: l :: rest =>
    show runRef _ ([v, rep, rsv, atyp, l] ++ rest) = _
    rw [runRef_stage cfg .connect _ rest rfl (by decide)]
    simp only [connectRun]
    split
    · rename_i h; rw [runRef_eq, nextMessage_connect, if_pos h]
    · rename_i h
      split
      · rename_i h'; rw [runRef_eq, nextMessage_connect, if_neg h, if_pos h']
      · rename_i h'
        rw [runRef_need (by rw [nextMessage_connect, if_neg h, if_neg h']), runRef_rest]

/-- what `SOCKS5._auth_response` (2 bytes) and the stages after it make of the replies -/
def authRun (cfg : Cfg) : Bytes → RefRun
  | v :: st :: rest =>
    if v ≠ 1 then ⟨some .socksProtocolError, [], rest⟩
    else if st ≠ 0 then ⟨some .socksFailure, [], rest⟩
    else consMsg (socks5Connect cfg.dst) (connectRun rest)
  | _ => eofRun

theorem runRef_auth (cfg : Cfg) (s : Bytes) : runRef ⟨cfg, .authResp, []⟩ s = authRun cfg s := by
  match s with
  | [] | [_] => exact runRef_eof _ _ _ (by simp [St.size])
  | v :: st :: rest =>
    show runRef _ ([v, st] ++ rest) = _
    rw [runRef_stage cfg .authResp _ rest rfl (by decide), runRef_eq, nextMessage_auth]
    simp only [authRun, ← runRef_connect cfg rest]
    by_cases h1 : v = 1 <;> by_cases h2 : st = 0 <;> simp [h1, h2]

/-- what `SOCKS5._first_response` (2 bytes) and the stages after it make of the replies -/
def first5Run (cfg : Cfg) : Bytes → RefRun
  | v :: m :: rest =>
    if v ≠ 5 then ⟨some .socksProtocolError, [], rest⟩
    else if m ∉ cfg.methods then ⟨some .socksFailure, [], rest⟩
    else if m = 2 then consMsg cfg.authBytes (authRun cfg rest)
    else consMsg (socks5Connect cfg.dst) (connectRun rest)
  | _ => eofRun

theorem runRef_first5 (cfg : Cfg) (s : Bytes) : runRef ⟨cfg, .first5, []⟩ s = first5Run cfg s := by
  match s with
  | [] | [_] => exact runRef_eof _ _ _ (by simp [St.size])
  | v :: m :: rest =>
    show runRef _ ([v, m] ++ rest) = _
    rw [runRef_stage cfg .first5 _ rest rfl (by decide), runRef_eq, nextMessage_first5]
    simp only [first5Run, ← runRef_connect cfg rest, ← runRef_auth cfg rest]
    by_cases h1 : v = 5
    · by_cases h2 : m ∈ cfg.methods
      · by_cases h3 : m = 2
        · subst h3; simp [h1, h2]
        · simp [h1, h2, h3]
      · simp [h1, h2]
    · simp [h1]

/-- what `SOCKS4._first_response` makes of its 8 bytes -/
def first4Run : Bytes → RefRun
  | vn :: cd :: _ :: _ :: _ :: _ :: _ :: _ :: rest =>
    if vn ≠ 0 then ⟨some .socksProtocolError, [], rest⟩
    else if cd ≠ 90 then ⟨some .socksFailure, [], rest⟩
    else ⟨none, [], rest⟩
  | _ => eofRun

/-- the whole reference run of a fresh protocol object, read off the reply bytes -/
def startRun : Cfg → Bytes → RefRun
  | .s5 dst ab ms, s => consMsg (socks5Greeting ms) (first5Run (.s5 dst ab ms) s)
  | .s4 h port a, s =>
    match socks4Start h port a with
    | .ok b => consMsg b (first4Run s)
    | .error e => ⟨some e, [], s⟩

theorem runRef_init (cfg : Cfg) (s : Bytes) : runRef (Client.init cfg) s = startRun cfg s := by
  cases cfg with
  | s5 dst ab ms => rw [runRef_start_s5, runRef_first5]; rfl
  | s4 h port a =>
    simp only [startRun]
    cases hs : socks4Start h port a with
    | ok b => rw [runRef_start_s4 h port a b s hs, runRef_first4]; rfl
    | error e => exact runRef_start_s4_raise h port a e s hs

end Aiorpcx.C17
