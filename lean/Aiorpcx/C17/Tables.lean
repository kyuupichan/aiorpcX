import Aiorpcx.C16.Model
/-! C17 — how the model is run on the reply streams of the facts tables (definitions only;
    the comparisons with the generated tables are in `FactsTie.lean`). -/
namespace Aiorpcx.C17
open Aiorpcx.Socks

def isNeed : Res → Bool
  | .need _ => true
  | _ => false

/-- (verdict, bytes fed) of a by-hand run fed one byte per `NeedData`; same encoding as
    tools/facts/c17.py: 0 done, 1 SOCKSFailure, 2 SOCKSProtocolError, 3 other, 4 wants more
    (the byte-wise tables keep the verdict only: *when* it is reached is not a property-level
    observable) -/
def summarize (rs : List Res) : Nat × Nat :=
  let needs := (rs.filter isNeed).length
  match rs.getLast? with
  | some .fin => (0, needs)
  | some (.raise .socksFailure) => (1, needs)
  | some (.raise .socksProtocolError) => (2, needs)
  | some (.need _) => (4, needs - 1)
  | _ => (3, needs)

def tableEntry (cfg : Cfg) (stream : Bytes) : Nat × Nat :=
  summarize (driveObject (stream.length + 8) (Client.init cfg) (stream.map fun b => [b]))

/-- the same, feeding exactly the number of bytes each `NeedData` asks for -/
def driveExact : Nat → Client → Bytes → Nat → Nat × Nat
  | 0, _, _, fed => (3, fed)
  | f + 1, c, s, fed =>
    match nextMessage c with
    | (_, .raise .socksFailure) => (1, fed)
    | (_, .raise .socksProtocolError) => (2, fed)
    | (_, .raise _) => (3, fed)
    | (_, .fin) => (0, fed)
    | (c', .msg _) => driveExact f c' s fed
    | (c', .need k) =>
      if s.isEmpty then (4, fed)
      else driveExact f (c'.receiveData (s.take k)) (s.drop k) (fed + (s.take k).length)

def cfg4 : Cfg := .s4 (.ipv4 (vec4 1 2 3 4)) 80 none
def cfg5n : Cfg := .s5 [1, 1, 2, 3, 4, 0, 80] [] [0]
def cfg5a : Cfg := .s5 [1, 1, 2, 3, 4, 0, 80] [1, 1, 117, 1, 112] [0, 2]
def ok5 : Bytes := [5, 0, 0, 1, 9, 9, 9, 9, 0, 80]

def table (cfg : Cfg) (f : UInt8 → Bytes) : List Nat :=
  (List.range 256).map fun b => (tableEntry cfg (f b.toUInt8)).1

def tableExact (cfg : Cfg) (f : UInt8 → Bytes) : List (Nat × Nat) :=
  (List.range 256).map fun b =>
    driveExact ((f b.toUInt8).length + 8) (Client.init cfg) (f b.toUInt8) 0

end Aiorpcx.C17
