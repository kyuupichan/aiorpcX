import Aiorpcx.C04.Dumps
import Aiorpcx.C04.Loads
import Aiorpcx.C04.Roundtrip
import Aiorpcx.C04.Loose
import Aiorpcx.C04.ClassifyProofs
import Aiorpcx.C04.Table
import Aiorpcx.C04.Conn
import Aiorpcx.Facts.C04
/-!
# C04 — the JSON-RPC codec is loss-free and conforms to each version's wire format

Model: `Aiorpcx.C04` (`Model.lean`, mirrors aiorpcx/jsonrpc.py).  Payloads are `J` values (the
Python value between `json.loads` and the classmethods); "tuples and lists are the same JSON
array", so equality of items is equality at the JSON data-model level (`J`, structural — which
also preserves dict order and distinguishes `1`, `1.0`, `true`).  Everything is quantified over
**all** methods, argument values, ids and payloads; there is no bound.

`json.dumps` is the serializer model `dumps`, whose output alphabet is a theorem.  `json.loads` is a
parameter (`Ser.loads`) with the laws L1/L1b; the reader of `Loads.lean` shows that the laws are
satisfiable (`serOf` below: L1 and L1b are theorems for it, for any float codec - so `dumps` is injective
on well-formed values and no `*_message` theorem is vacuous); what remains trusted about the real
`json` module is that it obeys the same two laws (sampled on every generated value each run).
-/
namespace Aiorpcx.C04
open Aiorpcx.Py

/-- the 1.0 encoder raises (`INVALID_ARGS`) on named arguments; nothing is emitted -/
theorem v1_rejects_named_args (m : Str) (kvs : List (Str × J)) (rid : J) :
    ∃ e, requestPayload .v1 m (.obj kvs) rid = .error (.proto e) ∧ e.code = INVALID_ARGS
      ∧ e.errorMessage = none :=
  ⟨_, rfl, rfl, rfl⟩

/-- the 1.0 encoder raises on every batch; nothing is emitted -/
theorem v1_rejects_batches (ms : List Member) :
    ∃ e, batchPayloads .v1 ms = .error (.proto e) ∧ e.code = INVALID_REQUEST :=
  ⟨_, rfl, rfl⟩

/-- … and the 1.0 decoder accepts no batch either -/
theorem v1_decodes_no_batch (xs : List J) :
    ∃ e, payloadToItem .v1 (.arr xs) = .error (.proto e) ∧ e.code = INVALID_REQUEST :=
  ⟨_, rfl, rfl⟩

/-- 2.0 responses: an object with `"jsonrpc":"2.0"`, the id, and exactly one of result/error -/
theorem wire_v2 (P : Proto) (hP : P ≠ .v1) (r : Outgoing) (rid : J) :
    ∃ kvs, responseMessagePayload P r rid = .obj kvs
      ∧ J.lookup kJsonrpc kvs = some s20 ∧ J.lookup kId kvs = some rid
      ∧ (J.hasKey kResult kvs != J.hasKey kError kvs) = true := by
  obtain ⟨_, _, _, e2, e3⟩ := eq_v2 hP
  cases r with
  | result v => exact ⟨_, e2 v rid, by lk, by lk, by lk⟩
  | error c m => exact ⟨_, e3 c m rid, by lk, by lk, by lk⟩

/-- 2.0 requests: `"jsonrpc":"2.0"`, the method, and params (if present) a list or a dict -/
theorem wire_v2_request (P : Proto) (hP : P ≠ .v1) (m : Str) (args rid : J) :
    ∃ kvs, requestPayload P m args rid = .ok (.obj kvs)
      ∧ J.lookup kJsonrpc kvs = some s20 ∧ J.lookup kMethod kvs = some (.str m)
      ∧ (J.lookup kParams kvs = none ∨ J.lookup kParams kvs = some args)
      ∧ (J.lookup kId kvs = if rid.isNone then none else some rid) := by
  obtain ⟨kvs, hp, hj, hm, hid, hpar⟩ := requestPayload_members P hP m args rid
  refine ⟨kvs, hp, hj, hm, ?_, hid⟩
  rw [hpar]
  cases (args.truthy || pyEq args (.obj []))
  · exact Or.inl rfl
  · exact Or.inr rfl

/-- 1.0 responses: result and error both present, at least one of them null -/
theorem wire_v1 (r : Outgoing) (rid : J) :
    ∃ kvs result error, responseMessagePayload .v1 r rid = .obj kvs
      ∧ J.lookup kResult kvs = some result ∧ J.lookup kError kvs = some error
      ∧ J.lookup kId kvs = some rid ∧ (result = .null ∨ error = .null) := by
  cases r with
  | result v => exact ⟨_, v, .null, rfl, by lk, by lk, by lk, Or.inr rfl⟩
  | error c m => exact ⟨_, .null, errorObj c m, rfl, by lk, by lk, by lk, Or.inl rfl⟩

/-- 1.0 requests: positional params only (a list), id always present -/
theorem wire_v1_request (m : Str) (args rid p : J) (h : requestPayload .v1 m args rid = .ok p) :
    args.isDict = false ∧ ∃ kvs, p = .obj kvs ∧ J.lookup kParams kvs = some args
      ∧ J.lookup kId kvs = some rid ∧ J.lookup kMethod kvs = some (.str m) := by
  cases hd : args.isDict
  · simp only [requestPayload, hd] at h
    injection h with h
    exact ⟨rfl, _, h.symm, by lk, by lk, by lk⟩
  · simp [requestPayload, hd] at h

/-- `{}` stays `{}`; `[]` is omitted and decodes back to `[]` -/
theorem empty_params_preserved (P : Proto) (hP : P ≠ .v1) (m : Str) (rid : J) :
    (∃ kvs, requestPayload P m (.obj []) rid = .ok (.obj kvs) ∧ J.lookup kParams kvs = some (.obj []))
    ∧ (∃ kvs, requestPayload P m (.arr []) rid = .ok (.obj kvs) ∧ J.lookup kParams kvs = none
        ∧ requestArgs P kvs = .ok (.arr [])) := by
  constructor
  · obtain ⟨kvs, hp, _, _, _, hpar⟩ := requestPayload_members P hP m (.obj []) rid
    exact ⟨kvs, hp, hpar⟩
  · obtain ⟨kvs, hp, _, _, _, hpar⟩ := requestPayload_members P hP m (.arr []) rid
    have hpar' : J.lookup kParams kvs = none := hpar
    exact ⟨kvs, hp, hpar', requestArgs_of_member hP kvs _ (by rw [hpar']; rfl) (Or.inl rfl)⟩

/-- Loose gives every 2.0 encoder output the meaning 2.0 gives it -/
theorem loose_agrees_v2 (m : Str) (args rid : J) (hargs : Args args) :
    (ReqId rid → ∃ p, requestPayload .v2 m args rid = .ok p
        ∧ payloadToItem .loose p = payloadToItem .v2 p)
    ∧ (∃ p, requestPayload .v2 m args .null = .ok p ∧ payloadToItem .loose p = payloadToItem .v2 p)
    ∧ (∀ v, RespId rid → payloadToItem .loose (responsePayload .v2 v rid)
        = payloadToItem .v2 (responsePayload .v2 v rid))
    ∧ (∀ code msg, code.isInt = true → RespId rid →
        payloadToItem .loose (errorPayload .v2 code (.str msg) rid)
          = payloadToItem .v2 (errorPayload .v2 code (.str msg) rid)) := by
  have hx : ∀ p x, payloadToItem .v2 p = .ok x → payloadToItem .loose p = payloadToItem .v2 p :=
    fun p x h => by rw [h]; exact loose_extends_v2 p x h
  refine ⟨fun hrid => ?_, ?_, fun v hrid => hx _ _ (roundtrip_result .v2 (by decide) v rid hrid),
    fun code msg hc hrid => hx _ _ (roundtrip_error .v2 (by decide) code msg rid hc hrid)⟩
  · obtain ⟨p, h1, _, h3⟩ := roundtrip_request .v2 (by decide) m args rid hargs hrid
    exact ⟨p, h1, hx p _ h3⟩
  · obtain ⟨p, h1, _, h3⟩ := roundtrip_notification .v2 (by decide) m args hargs
    exact ⟨p, h1, hx p _ h3⟩

/-- Loose gives every 1.0 encoder output the meaning 1.0 gives it — for the ids Loose admits
(numbers, strings, null; 1.0 on its own allows any JSON value) -/
theorem loose_agrees_v1 (m : Str) (xs : List J) (rid : J) :
    (ReqId rid → ∃ p, requestPayload .v1 m (.arr xs) rid = .ok p
        ∧ payloadToItem .loose p = payloadToItem .v1 p)
    ∧ (∃ p, requestPayload .v1 m (.arr xs) .null = .ok p
        ∧ payloadToItem .loose p = payloadToItem .v1 p)
    ∧ (∀ v, RespId rid → payloadToItem .loose (responsePayload .v1 v rid)
        = payloadToItem .v1 (responsePayload .v1 v rid))
    ∧ (∀ code msg, code.isInt = true → RespId rid →
        payloadToItem .loose (errorPayload .v1 code (.str msg) rid)
          = payloadToItem .v1 (errorPayload .v1 code (.str msg) rid)) := by
  have hx : ∀ p item r, RespId r → payloadToItem .v1 p = .ok (item, r) →
      payloadToItem .loose p = payloadToItem .v1 p :=
    fun p item r hr h => by rw [h]; exact loose_extends_v1 p item r hr h
  refine ⟨fun hrid => ?_, ?_, fun v hrid => ?_, fun code msg hc hrid => ?_⟩
  · obtain ⟨p, h1, h2⟩ := roundtrip_request_v1 m xs rid hrid.notNone
    exact ⟨p, h1, hx p _ rid hrid.respId h2⟩
  · obtain ⟨p, h1, h2⟩ := roundtrip_notification_v1 m xs
    exact ⟨p, h1, hx p _ .null (Or.inr (Or.inr rfl)) h2⟩
  · exact hx _ _ rid hrid (roundtrip_result_v1 v rid)
  · exact hx _ _ rid hrid (roundtrip_error_v1 code msg rid hc)

/-- outside that id range the two differ: a 1.0 request with a list id is a request to 1.0 and
an error to Loose (which is why `loose_agrees_v1` is restricted) -/
theorem loose_v1_list_id_differs :
    payloadToItem .v1 (.obj [(kMethod, .str (lit "m")), (kParams, .arr []), (kId, .arr [.int 1])])
      = .ok (.request (lit "m") (.arr []), .arr [.int 1])
    ∧ outClass (payloadToItem .loose
        (.obj [(kMethod, .str (lit "m")), (kParams, .arr []), (kId, .arr [.int 1])])) = IR := by
  constructor <;> decide

theorem detect_v2_obj (kvs : List (Str × J)) (h : J.lookup kJsonrpc kvs = some s20) :
    detectProtocol (.obj kvs) = .v2 := by
  simp only [detectProtocol, protocolForPayload, getD, h]; rfl

/-- without a version member: 1.0 if `result` and `error` are both there, else Loose -/
theorem detect_unversioned_obj (kvs : List (Str × J)) (h : J.lookup kJsonrpc kvs = none) :
    detectProtocol (.obj kvs) = if J.hasKey kResult kvs && J.hasKey kError kvs then .v1 else .loose := by
  simp only [detectProtocol, protocolForPayload, getD, h]; rfl

/-- every first message a 2.0 (or Loose, which encodes as 2.0) encoder produces is detected as
2.0, and 2.0 decodes it exactly as the originating class does -/
theorem autodetect_first_message_v2 (P : Proto) (hP : P ≠ .v1) (m : Str) (args rid : J)
    (hargs : Args args) :
    (ReqId rid → ∃ p, requestPayload P m args rid = .ok p ∧ detectProtocol p = .v2
        ∧ payloadToItem (detectProtocol p) p = payloadToItem P p)
    ∧ (∃ p, requestPayload P m args .null = .ok p ∧ detectProtocol p = .v2
        ∧ payloadToItem (detectProtocol p) p = payloadToItem P p)
    ∧ (∀ v, RespId rid → detectProtocol (responsePayload P v rid) = .v2
        ∧ payloadToItem (detectProtocol (responsePayload P v rid)) (responsePayload P v rid)
            = payloadToItem P (responsePayload P v rid))
    ∧ (∀ code msg, code.isInt = true → RespId rid →
        detectProtocol (errorPayload P code (.str msg) rid) = .v2
        ∧ payloadToItem (detectProtocol (errorPayload P code (.str msg) rid))
              (errorPayload P code (.str msg) rid)
            = payloadToItem P (errorPayload P code (.str msg) rid)) := by
  obtain ⟨_, _, e1, e2, e3⟩ := eq_v2 hP
  -- detected as 2.0, and 2.0 and `P` both give the item back
  have key : ∀ (p : J) (x : Item × J), detectProtocol p = .v2 → payloadToItem P p = .ok x →
      payloadToItem .v2 p = .ok x →
      detectProtocol p = .v2 ∧ payloadToItem (detectProtocol p) p = payloadToItem P p :=
    fun p x hd h h' => ⟨hd, by rw [hd, h, h']⟩
  have hreq : ∀ r, RespId r → ∃ p, requestPayload P m args r = .ok p ∧ detectProtocol p = .v2
      ∧ payloadToItem (detectProtocol p) p = payloadToItem P p := by
    intro r hr
    obtain ⟨kvs, hk, hj, _⟩ := requestPayload_members P hP m args r
    obtain ⟨p, h1, _, h3⟩ := roundtrip_single P hP m args r hargs hr
    obtain ⟨p', h1', _, h3'⟩ := roundtrip_single .v2 (by decide) m args r hargs hr
    cases hk.symm.trans h1
    cases hk.symm.trans ((e1 m args r).trans h1')
    exact ⟨_, hk, key _ _ (detect_v2_obj kvs hj) h3 h3'⟩
  refine ⟨fun hrid => hreq rid hrid.respId, hreq .null (Or.inr (Or.inr rfl)), fun v hrid => ?_,
    fun code msg hc hrid => ?_⟩
  · refine key _ _ ?_ (roundtrip_result P hP v rid hrid) ?_
    · rw [e2]; exact detect_v2_obj _ (by lk)
    · rw [e2]; exact roundtrip_result .v2 (by decide) v rid hrid
  · refine key _ _ ?_ (roundtrip_error P hP code msg rid hc hrid) ?_
    · rw [e3]; exact detect_v2_obj _ (by lk)
    · rw [e3]; exact roundtrip_error .v2 (by decide) code msg rid hc hrid

/-- a 1.0 response is detected as 1.0; a 1.0 request (which has neither `jsonrpc` nor both of
result/error) is detected as Loose, which decodes it exactly as 1.0 does — for the ids of the
property's quantifier (numbers, strings, null) -/
theorem autodetect_first_message_v1 (m : Str) (xs : List J) (rid : J) :
    (ReqId rid → ∃ p, requestPayload .v1 m (.arr xs) rid = .ok p
        ∧ payloadToItem (detectProtocol p) p = payloadToItem .v1 p)
    ∧ (∃ p, requestPayload .v1 m (.arr xs) .null = .ok p
        ∧ payloadToItem (detectProtocol p) p = payloadToItem .v1 p)
    ∧ (∀ v, detectProtocol (responsePayload .v1 v rid) = .v1)
    ∧ (∀ code msg, detectProtocol (errorPayload .v1 code msg rid) = .v1) := by
  have hd : ∀ r, detectProtocol (.obj [(kMethod, .str m), (kParams, .arr xs), (kId, r)]) = .loose :=
    fun r => by rw [detect_unversioned_obj _ (by lk)]; lk
  obtain ⟨h1, h2, _⟩ := loose_agrees_v1 m xs rid
  refine ⟨fun hrid => ?_, ?_, fun v => ?_, fun c msg => ?_⟩
  · obtain ⟨p, hp, h⟩ := h1 hrid
    cases hp
    exact ⟨_, rfl, by rw [hd]; exact h⟩
  · obtain ⟨p, hp, h⟩ := h2
    cases hp
    exact ⟨_, rfl, by rw [hd]; exact h⟩
  · rw [responsePayload, detect_unversioned_obj _ (by lk)]; lk
  · rw [errorPayload, detect_unversioned_obj _ (by lk)]; lk

/-- outside that id range auto-detection does *not* reproduce 1.0: a first 1.0 request whose id
is a list is detected as Loose, which refuses the id (recorded divergence; the property's
quantifier gives arbitrary-JSON ids to "the 1.0 class on its own" only) -/
theorem autodetect_v1_list_id_differs :
    detectProtocol (.obj [(kMethod, .str (lit "m")), (kParams, .arr []), (kId, .arr [.int 1])]) = .loose
    ∧ outClass (payloadToItem .loose
        (.obj [(kMethod, .str (lit "m")), (kParams, .arr []), (kId, .arr [.int 1])])) = IR
    ∧ outClass (payloadToItem .v1
        (.obj [(kMethod, .str (lit "m")), (kParams, .arr []), (kId, .arr [.int 1])])) = .request := by
  refine ⟨by decide, by decide, by decide⟩

/-- a batch whose members all carry `"jsonrpc":"2.0"` is detected as 2.0 -/
theorem autodetect_batch (ps : List J) (hne : ps ≠ [])
    (h : ∀ p ∈ ps, ∃ kvs, p = .obj kvs ∧ J.lookup kJsonrpc kvs = some s20) :
    detectProtocol (.arr ps) = .v2 := by
  have hall : ∀ p ∈ ps, protocolForPayload p = .v2 := by
    intro p hp
    obtain ⟨kvs, rfl, hk⟩ := h p hp
    simp [protocolForPayload, getD, hk, pyEq_s20]
  cases ps with
  | nil => exact absurd rfl hne
  | cons p ps =>
    have h1 : protocolForPayload p = .v2 := hall p (by simp)
    have h2 : (ps.map protocolForPayload).all (· == Proto.v2) = true := by
      simp only [List.all_map, List.all_eq_true]
      intro q hq
      simp [hall q (by simp [hq])]
    simp only [detectProtocol, List.map_cons, h1, h2, if_true]

/-- **Every** payload is classified exactly as the specification table says (`Classify.lean`):
the outcome is an item of the stated kind or a `ProtocolError` with the documented code; it
depends only on which of {jsonrpc, method, params, id, result, error} are present and on the
kinds of their values. -/
theorem classification_total (P : Proto) (p : J) :
    outClass (payloadToItem P p) = classify P (topOf p) := by
  cases p with
  | obj kvs => exact classify_obj P kvs
  | arr xs =>
    cases xs with
    | nil => cases P <;> rfl
    | cons x xs => cases P <;> rfl
  | null | bool _ | int _ | float _ | str _ => cases P <;> rfl

/-- the codes of the table are the documented ones -/
theorem classify_codes (P : Proto) (t : TopK) : okClass (classify P t) = true := by
  cases t with
  | object s =>
    cases P <;> simp only [classify, classifyV1, classifyV2, classifyLoose] <;>
      (repeat' split) <;> first | exact tail_ok _ | decide
  | emptyArray | array | other => cases P <;> decide

/-- hence: decoding a payload never raises anything but a `ProtocolError`, and its code is one
of INVALID_REQUEST / METHOD_NOT_FOUND / INVALID_ARGS -/
theorem decode_only_protocol_errors (P : Proto) (p : J) :
    (∃ x, payloadToItem P p = .ok x) ∨
    (∃ e, payloadToItem P p = .error (.proto e)
      ∧ (e.code = INVALID_REQUEST ∨ e.code = METHOD_NOT_FOUND ∨ e.code = INVALID_ARGS)) := by
  have h := classify_codes P (topOf p)
  rw [← classification_total] at h
  rcases hres : payloadToItem P p with (e | e) | x
  · rw [hres] at h
    exact Or.inr ⟨e, rfl, by simpa [outClass, okClass, or_assoc] using h⟩
  · rw [hres] at h
    cases h
  · exact Or.inl ⟨x, rfl⟩

/-- every character `json.dumps` (as configured at the call site) emits is printable ASCII -/
theorem dumps_printable (cfg : DumpCfg) (fr : F → List Char) (hc : cfg.ok) (hf : ∀ f, allPr (fr f))
    (v : J) : allPr (dumps cfg fr v) :=
  allPr_dumps cfg fr hc hf v

/-- `dumps` never emits a raw newline (nor a carriage return) -/
theorem dumps_no_newline (cfg : DumpCfg) (fr : F → List Char) (hc : cfg.ok)
    (hf : ∀ f, allPr (fr f)) (v : J) :
    '\n' ∉ dumps cfg fr v ∧ '\r' ∉ dumps cfg fr v :=
  allLine_no_newline (allPr_dumps cfg fr hc hf v).line

example : '\n' ∉ dumps ⟨[','], [':'], true, false⟩ (fun _ => ['1', '.', '5'])
    (.obj [(lit "a\n", .arr [.str [10, 0x2028], .float (.fin 3 (-1))])]) :=
  (dumps_no_newline _ _ ⟨by decide, by decide, rfl, rfl⟩ (fun _ => by decide) _).1

/-- every `*_message` output (single message or batch, error replies included) is one line:
printable ASCII (plus, in a batch, whatever blanks the separator has), no newline -/
theorem message_one_line (cfg : DumpCfg) (sep : List Char) (fr : F → List Char) (hc : cfg.ok)
    (hsep : sepOK sep = true) (hf : ∀ f, allPr (fr f)) (r : Reply) :
    allLine (r.bytes cfg sep fr) ∧ '\n' ∉ r.bytes cfg sep fr ∧ '\r' ∉ r.bytes cfg sep fr := by
  have h : allLine (r.bytes cfg sep fr) := by
    cases r with
    | single p => exact (allPr_dumps cfg fr hc hf p).line
    | batch ps =>
      apply allLine_batchFromParts sep hsep
      intro s hs
      obtain ⟨p, _, rfl⟩ := List.mem_map.1 hs
      exact allPr_dumps cfg fr hc hf p
  exact ⟨h, allLine_no_newline h⟩

/-- `batch_message` is `[` + the member messages joined with the separator + `]` -/
theorem batch_message_join (sep : List Char) (parts : List (List Char)) :
    batchFromParts sep parts = '[' :: (List.intercalate sep parts ++ [']']) := by
  simp [batchFromParts, joinWith_eq_intercalate]

/-! ## Message level: through `json.dumps` / `json.loads` (laws L1, L1b) -/

/-- the stdlib pair as a parameter: `dumps` is the serializer model with *some* float rendering,
`loads` is only known through the two laws -/
structure Ser (cfg : DumpCfg) (sep : List Char) where
  fr : F → List Char
  loads : List Char → LoadsOutcome
  /-- L1: `json.loads(json.dumps(v)) == v` for JSON-representable `v` -/
  L1 : ∀ v : J, v.wf = true → loads (dumps cfg fr v) = .value v
  /-- L1b: the batch framing `[a, b, …]` parses to the list of the parts -/
  L1b : ∀ vs : List J, vs ≠ [] → (∀ v ∈ vs, v.wf = true) →
    loads (batchFromParts sep (vs.map (dumps cfg fr))) = .value (.arr vs)

/-- decoding the bytes of an encoded payload is decoding the payload -/
theorem message_level (cfg : DumpCfg) {sep : List Char} (S : Ser cfg sep) (g : PayloadGuards) (P : Proto) (p : J)
    (hwf : p.wf = true) :
    messageToItem g P (S.loads (dumps cfg S.fr p)) = payloadToItem P p := by
  rw [S.L1 p hwf]; rfl

theorem message_level_batch (cfg : DumpCfg) {sep : List Char} (S : Ser cfg sep) (g : PayloadGuards) (P : Proto)
    (ps : List J) (hne : ps ≠ []) (hwf : ∀ p ∈ ps, p.wf = true) :
    messageToItem g P (S.loads (batchFromParts sep (ps.map (dumps cfg S.fr))))
      = payloadToItem P (.arr ps) := by
  rw [S.L1b ps hne hwf]; rfl

/-- **the laws are satisfiable**: from any float codec (a rendering of the canonical finite floats
as number tokens with a left inverse - what `float.__repr__`/`float()` are to CPython) the reader of
`Loads.lean` makes a `Ser`, for every comma/colon-separated configuration and batch separator -/
def serOf (cfg : DumpCfg) (sep : List Char) (C : FloatCodec) (hc : CfgOK cfg) (hs : SepForm sep ',') :
    Ser cfg sep where
  fr := C.fr
  loads := loadsOf C.pf
  L1 := loads_dumps cfg C hc
  L1b := loads_batch cfg C hc sep hs

theorem ser_exists (cfg : DumpCfg) (sep : List Char) (hc : CfgOK cfg) (hs : SepForm sep ',') :
    Nonempty (Ser cfg sep) := ⟨serOf cfg sep toyFloat hc hs⟩

theorem wf_obj_cons (k : Str) (v : J) (r : List (Str × J)) :
    (J.obj ((k, v) :: r)).wf = (!(J.hasKey k r) && uniqueKeys r && (strWf k && keysWf r)
      && (v.wf && J.wfObj r)) := by
  simp [J.wf, uniqueKeys, keysWf, J.wfObj, Bool.and_assoc]

/-- an object is JSON-representable when its names are (distinct, well-formed strings: this part
does not look at the values) and its values are -/
theorem wf_obj_of_members (kvs : List (Str × J)) (hk : (uniqueKeys kvs && keysWf kvs) = true)
    (hv : J.wfObj kvs = true) : (J.obj kvs).wf = true := by
  simp only [J.wf, hk, hv]; rfl

/-- the encoders produce JSON-representable payloads from JSON-representable parts -/
theorem requestPayload_wf (P : Proto) (m : Str) (args rid p : J)
    (h : requestPayload P m args rid = .ok p)
    (hm : strWf m = true) (ha : args.wf = true) (hr : rid.wf = true) : p.wf = true := by
  by_cases hP : P = .v1
  · subst hP
    cases hd : args.isDict <;> simp only [requestPayload, hd] at h
    · injection h with h
      subst h
      exact wf_obj_of_members _ (by lk) (by simp only [J.wfObj, J.wf, hm, ha, hr]; rfl)
    · cases h
  · rw [requestPayload_v2 P hP] at h
    injection h with h
    subst h
    cases rid.isNone <;> cases (args.truthy || pyEq args (.obj [])) <;>
      exact wf_obj_of_members _ (by lk) (by
        simp only [Bool.false_eq_true, if_false, if_true, List.cons_append, List.nil_append,
          List.append_nil, J.wfObj, J.wf, hm, ha, hr]; rfl)

theorem responsePayload_wf (P : Proto) (v rid : J) (hv : v.wf = true) (hr : rid.wf = true) :
    (responsePayload P v rid).wf = true := by
  cases P <;> exact wf_obj_of_members _ (by lk) (by simp only [J.wfObj, J.wf, hv, hr]; rfl)

theorem wf_of_isInt {c : J} (h : c.isInt = true) : c.wf = true := by
  cases c <;> simp [J.isInt] at h <;> rfl

theorem errorPayload_wf (P : Proto) (code : J) (msg : Str) (rid : J) (hc : code.wf = true)
    (hm : strWf msg = true) (hr : rid.wf = true) :
    (errorPayload P code (.str msg) rid).wf = true := by
  have he : (errorObj code (.str msg)).wf = true :=
    wf_obj_of_members _ (by lk) (by simp only [J.wfObj, J.wf, hc, hm]; rfl)
  cases P <;> exact wf_obj_of_members _ (by lk) (by simp only [J.wfObj, J.wf, he, hr]; rfl)

/-- **round trip through the bytes** (2.0 / Loose / AutoDetect): request -/
theorem roundtrip_request_message (cfg : DumpCfg) {sep : List Char} (S : Ser cfg sep) (g : PayloadGuards) (P : Proto)
    (hP : P ≠ .v1) (m : Str) (args rid : J) (hargs : Args args) (hrid : ReqId rid)
    (hm : strWf m = true) (ha : args.wf = true) (hr : rid.wf = true) :
    ∃ p, requestPayload P m args rid = .ok p
      ∧ messageToItem g P (S.loads (dumps cfg S.fr p)) = .ok (.request m args, rid) := by
  obtain ⟨p, h1, _, h3⟩ := roundtrip_request P hP m args rid hargs hrid
  exact ⟨p, h1, by rw [message_level cfg S g P p (requestPayload_wf P m args rid p h1 hm ha hr), h3]⟩

theorem roundtrip_notification_message (cfg : DumpCfg) {sep : List Char} (S : Ser cfg sep) (g : PayloadGuards)
    (P : Proto) (hP : P ≠ .v1) (m : Str) (args : J) (hargs : Args args)
    (hm : strWf m = true) (ha : args.wf = true) :
    ∃ p, requestPayload P m args .null = .ok p
      ∧ messageToItem g P (S.loads (dumps cfg S.fr p)) = .ok (.notification m args, .null) := by
  obtain ⟨p, h1, _, h3⟩ := roundtrip_notification P hP m args hargs
  exact ⟨p, h1, by rw [message_level cfg S g P p (requestPayload_wf P m args .null p h1 hm ha rfl), h3]⟩

theorem roundtrip_result_message (cfg : DumpCfg) {sep : List Char} (S : Ser cfg sep) (g : PayloadGuards) (P : Proto)
    (hP : P ≠ .v1) (v rid : J) (hrid : RespId rid) (hv : v.wf = true) (hr : rid.wf = true) :
    messageToItem g P (S.loads (dumps cfg S.fr (responsePayload P v rid)))
      = .ok (.response (.result v), rid) := by
  rw [message_level cfg S g P _ (responsePayload_wf P v rid hv hr), roundtrip_result P hP v rid hrid]

theorem roundtrip_error_message (cfg : DumpCfg) {sep : List Char} (S : Ser cfg sep) (g : PayloadGuards) (P : Proto)
    (hP : P ≠ .v1) (code : J) (msg : Str) (rid : J) (hcode : code.isInt = true) (hrid : RespId rid)
    (hm : strWf msg = true) (hr : rid.wf = true) :
    messageToItem g P (S.loads (dumps cfg S.fr (errorPayload P code (.str msg) rid)))
      = .ok (.response (.rpcError code msg), rid) := by
  rw [message_level cfg S g P _ (errorPayload_wf P code msg rid (wf_of_isInt hcode) hm hr),
    roundtrip_error P hP code msg rid hcode hrid]

/-- 1.0 through the bytes: results (any result, any id), requests (any non-null id),
notifications, and errors (int code, string message, any id) -/
theorem roundtrip_v1_message (cfg : DumpCfg) {sep : List Char} (S : Ser cfg sep) (g : PayloadGuards) (m : Str)
    (xs : List J) (v rid : J) (hm : strWf m = true) (hx : (J.arr xs).wf = true)
    (hv : v.wf = true) (hr : rid.wf = true) :
    messageToItem g .v1 (S.loads (dumps cfg S.fr (responsePayload .v1 v rid)))
      = .ok (.response (.result v), rid)
    ∧ (rid.isNone = false → ∃ p, requestPayload .v1 m (.arr xs) rid = .ok p
        ∧ messageToItem g .v1 (S.loads (dumps cfg S.fr p)) = .ok (.request m (.arr xs), rid))
    ∧ (∃ p, requestPayload .v1 m (.arr xs) .null = .ok p
        ∧ messageToItem g .v1 (S.loads (dumps cfg S.fr p)) = .ok (.notification m (.arr xs), .null))
    ∧ (∀ (code : J) (msg : Str), code.isInt = true → strWf msg = true →
        messageToItem g .v1 (S.loads (dumps cfg S.fr (errorPayload .v1 code (.str msg) rid)))
          = .ok (.response (.rpcError code msg), rid)) := by
  refine ⟨?_, ?_, ?_, ?_⟩
  · rw [message_level cfg S g .v1 _ (responsePayload_wf .v1 v rid hv hr), roundtrip_result_v1]
  · intro hn
    obtain ⟨p, h1, h2⟩ := roundtrip_request_v1 m xs rid hn
    exact ⟨p, h1, by rw [message_level cfg S g .v1 p (requestPayload_wf .v1 m _ rid p h1 hm hx hr), h2]⟩
  · obtain ⟨p, h1, h2⟩ := roundtrip_notification_v1 m xs
    exact ⟨p, h1, by rw [message_level cfg S g .v1 p (requestPayload_wf .v1 m _ .null p h1 hm hx rfl), h2]⟩
  · intro code msg hcode hmsg
    rw [message_level cfg S g .v1 _ (errorPayload_wf .v1 code msg rid (wf_of_isInt hcode) hmsg hr),
      roundtrip_error_v1 code msg rid hcode]

/-- a batch through the bytes: the framed member messages read back as the batch of the member
payloads, which decode one by one to the members, each under its own id -/
theorem roundtrip_batch_message (cfg : DumpCfg) {sep : List Char} (S : Ser cfg sep) (g : PayloadGuards)
    (P : Proto) (hP : P ≠ .v1) (ms : List Member) (hne : ms ≠ []) (h : ∀ mb ∈ ms, mb.valid)
    (hwf : ∀ ps, batchPayloads P ms = .ok ps → ∀ p ∈ ps, p.wf = true) :
    ∃ ps, batchPayloads P ms = .ok ps
      ∧ messageToItem g P (S.loads (batchFromParts sep (ps.map (dumps cfg S.fr)))) = .ok (.batch ps, .null)
      ∧ mapM' (processRequest P) ps = .ok (ms.map Member.item) := by
  obtain ⟨ps, h1, h2, h3⟩ := roundtrip_batch P hP ms hne h
  have hps : ps ≠ [] := by
    intro hnil
    rw [hnil] at h2
    cases P <;> simp [payloadToItem, Proto.allowBatches] at h2
  exact ⟨ps, h1, by rw [message_level_batch cfg S g P ps hps (hwf ps h1), h2], h3⟩

/-! ### the message-level theorems are not vacuous: instances with the reader of `Loads.lean` -/

/-- the pinned configuration `separators=(',', ':')`, batch separator `", "` -/
def cfgPinned : DumpCfg := ⟨[','], [':'], true, false⟩
def serPinned : Ser cfgPinned [',', ' '] :=
  serOf cfgPinned [',', ' '] toyFloat ⟨sepFormB_sound (by decide), sepFormB_sound (by decide)⟩
    (sepFormB_sound (by decide))

example : ∃ p, requestPayload .v2 (lit "m\n") (.arr [.float (.fin 3 (-1)), .str [0xD800]]) (.int 7) = .ok p
    ∧ messageToItem .repaired .v2 (serPinned.loads (dumps cfgPinned serPinned.fr p))
        = .ok (.request (lit "m\n") (.arr [.float (.fin 3 (-1)), .str [0xD800]]), .int 7) :=
  roundtrip_request_message cfgPinned serPinned .repaired .v2 (by decide) _ _ _ (Or.inl rfl) (Or.inl rfl)
    (by decide) (by decide) (by decide)

example : messageToItem .repaired .loose
      (serPinned.loads (dumps cfgPinned serPinned.fr (responsePayload .loose (.obj [(lit "k", .null)]) (.str []))))
    = .ok (.response (.result (.obj [(lit "k", .null)])), .str []) :=
  roundtrip_result_message cfgPinned serPinned .repaired .loose (by decide) _ _ (Or.inr (Or.inl rfl))
    (by decide) (by decide)

example : messageToItem .repaired .v1
      (serPinned.loads (dumps cfgPinned serPinned.fr (responsePayload .v1 (.int 5) (.arr [.int 1]))))
    = .ok (.response (.result (.int 5)), .arr [.int 1]) :=
  (roundtrip_v1_message cfgPinned serPinned .repaired [] [] (.int 5) (.arr [.int 1]) (by decide) (by decide)
    (by decide) (by decide)).1

/-! ## Noted divergences from the letter of the property (outside its quantifier) -/

/-- a non-integer error code does not survive 2.0: the decoder refuses the error object -/
theorem float_error_code_rejected_v2 :
    outClass (payloadToItem .v2 (errorPayload .v2 (.float (.fin 3 (-1))) (.str (lit "x")) (.int 1)))
      = IR := by decide

/-- a 2.0 request whose id is `null` is a notification to the decoder -/
theorem null_id_is_notification :
    payloadToItem .v2 (.obj [(kJsonrpc, s20), (kMethod, .str (lit "m")), (kId, .null)])
      = .ok (.notification (lit "m") (.arr []), .null) := by decide

/-- F7 (repaired in /repo): `"id": true` is refused by 2.0 and Loose; 1.0 does not constrain ids -/
theorem bool_id_refused :
    outClass (payloadToItem .v2 (.obj [(kJsonrpc, s20), (kResult, .int 7), (kId, .bool true)])) = IR
    ∧ outClass (payloadToItem .loose (.obj [(kResult, .int 7), (kId, .bool false)])) = IR
    ∧ payloadToItem .v1 (.obj [(kResult, .int 7), (kError, .null), (kId, .bool true)])
        = .ok (.response (.result (.int 7)), .bool true) := by
  refine ⟨by decide, by decide, by decide⟩

/-- ids `1` and `1.0` are different JSON values and both survive unchanged (matching against the
outstanding request is C01's business) -/
theorem float_id_preserved :
    payloadToItem .v2 (responsePayload .v2 .null (.float (.fin 1 0)))
      = .ok (.response (.result .null), .float (.fin 1 0)) := by decide

/-! ## Facts tie: what RUNNING the codec of /repo showed on this run (tools/facts/c04.py) -/

theorem facts_codes :
    Facts.C04.parseError = PARSE_ERROR ∧ Facts.C04.invalidRequest = INVALID_REQUEST
    ∧ Facts.C04.methodNotFound = METHOD_NOT_FOUND ∧ Facts.C04.invalidArgs = INVALID_ARGS
    ∧ Facts.C04.internalError = INTERNAL_ERROR
    ∧ Facts.C04.errorCodeUnavailable = ERROR_CODE_UNAVAILABLE
    ∧ Facts.C04.codesSameOnEveryClass = true := by decide

/-- which classes decode an array as a batch and emit batches (probed on both directions) -/
theorem facts_allow_batches :
    (∀ P : Proto, Facts.C04.allowBatches P = P.allowBatches)
    ∧ Facts.C04.allowBatchesConsistent = true := by
  refine ⟨?_, by decide⟩
  intro P; cases P <;> decide

/-- the serializer, as observed on the bytes every encoder emits, is configured so that
`dumps_no_newline` applies: printable separators, non-ASCII escaped, nothing else deviating from
`json.dumps(v, separators=…)` on the probe set -/
theorem facts_dumps_cfg : Facts.C04.dumpCfg.ok :=
  ⟨by decide, by decide, by decide, by decide⟩

/-- … and so that the reader of `Loads.lean` inverts it: the separators are a comma / a colon with
blanks around them at most, hence `Ser Facts.C04.dumpCfg Facts.C04.batchJoin` is inhabited and
`dumps Facts.C04.dumpCfg` is injective on well-formed values -/
theorem facts_readable :
    CfgOK Facts.C04.dumpCfg ∧ SepForm Facts.C04.batchJoin ','
    ∧ Nonempty (Ser Facts.C04.dumpCfg Facts.C04.batchJoin) := by
  have h1 : CfgOK Facts.C04.dumpCfg := ⟨sepFormB_sound (by decide), sepFormB_sound (by decide)⟩
  have h2 : SepForm Facts.C04.batchJoin ',' := sepFormB_sound (by decide)
  exact ⟨h1, h2, ser_exists _ _ h1 h2⟩

/-- what `batch_message_from_parts` / `batch_message` put between the member messages keeps the
batch a one-line JSON array, and the whole is `[` … `]` -/
theorem facts_batch_join :
    sepOK Facts.C04.batchJoin = true ∧ Facts.C04.batchWrapIsBrackets = true := by decide

/-- **decision table of the real decoders**: on a representative message of every row of the
specification table (all 1152 object shapes, empty array, array, non-container) the real
`message_to_item` of each protocol class produced exactly the outcome class `classify` states -/
theorem facts_decode_table : ∀ P : Proto, Facts.C04.decodeTable P = specColumn P := by
  -- one evaluation for the four classes, so that the rows `allTops` are built once; `==` on
  -- `List Nat` is cheaper for the kernel than the `Decidable` instance of `=`
  have h : ([Proto.v1, .v2, .loose, .auto].all fun P => Facts.C04.decodeTable P == specColumn P)
      = true := by decide +kernel
  intro P
  exact eq_of_beq (List.all_eq_true.1 h P (by cases P <;> decide))

theorem shapeOf_methodStr (kvs : List (Str × J)) :
    (shapeOf kvs).methodStr = true → (shapeOf kvs).hasMethod = true := by
  unfold shapeOf
  cases h : J.lookup kMethod kvs <;> simp

/-- the table has a row for every decoded payload … -/
theorem mem_allShapes (s : Shape) (h : s.methodStr = true → s.hasMethod = true) :
    s ∈ allShapes := by
  obtain ⟨j, hm, ms, p, i, r, e⟩ := s
  simp only [allShapes, List.mem_flatMap, List.mem_map]
  refine ⟨j, by cases j <;> simp, (hm, ms), ?_, p, by cases p <;> simp [allParamsK],
    i, by cases i <;> simp [allIdK], r, by cases r <;> simp [allResK],
    e, by cases e <;> simp [allErrK], rfl⟩
  cases hm <;> cases ms <;> simp_all [allMethodK]

theorem topOf_mem_allTops (p : J) : topOf p ∈ allTops := by
  unfold allTops
  cases p with
  | obj kvs =>
      exact List.mem_append_left _ (List.mem_map.2 ⟨_, mem_allShapes _ (shapeOf_methodStr kvs), rfl⟩)
  | arr xs => cases xs <;> simp [topOf]
  | _ => simp [topOf]

/-- … so, with `classification_total`: for **every** payload the model's decoder gives the
outcome class the real decoder gave on the representative of the payload's row -/
theorem decode_table_covers (P : Proto) (p : J) :
    ∃ i : Nat, allTops[i]? = some (topOf p)
      ∧ (Facts.C04.decodeTable P)[i]? = some (outCode (outClass (payloadToItem P p))) := by
  obtain ⟨i, hi⟩ := List.getElem?_of_mem (topOf_mem_allTops p)
  refine ⟨i, hi, ?_⟩
  rw [facts_decode_table P, classification_total P p]
  simp [specColumn, List.getElem?_map, hi]

/-- **what the real encoders emitted** on the probe grid (requests / notifications with every
argument kind incl. `[]`, `()`, `{}`; results; errors; a batch; under all four classes) is what the
model's encoders produce - members compared as sets, refusals by their code -/
theorem facts_encode_table : Facts.C04.encodeTable.all EncRow.holds = true := by decide +kernel

/-- the real `detect_protocol` chose, on every probe message (all combinations of the members it
looks at, non-objects, batches mixing the classes), the class the model's `detectProtocol` chooses -/
theorem facts_detect_table :
    Facts.C04.detectTable.all (fun r => some (detectProtocol r.1) == r.2) = true := by decide +kernel

/-- the failing outcomes of `json.loads(message.decode())` C04 is concerned with (invalid UTF-8,
invalid JSON) were turned into PARSE_ERROR by the real decoder (the resource-limit outcomes are
C05's) -/
theorem facts_parse_errors (P : Proto) :
    (∃ e, messageToItem Facts.C04.payloadGuards P .unicodeError = .error (.proto e)
        ∧ e.code = PARSE_ERROR)
    ∧ (∃ e, messageToItem Facts.C04.payloadGuards P .jsonDecodeError = .error (.proto e)
        ∧ e.code = PARSE_ERROR) := by
  cases P <;> exact ⟨⟨_, rfl, rfl⟩, ⟨_, rfl, rfl⟩⟩

end Aiorpcx.C04
