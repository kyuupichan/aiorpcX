import Aiorpcx.C04.Lemmas
/-! C04 round trips at payload level (`decode (encode item) = item`, same id).  Each step of the
decoders is first described on an object whose members are known; what the encoders emit are such
objects. -/
namespace Aiorpcx.C04
open Aiorpcx.Py

theorem RespId.accepted {rid : J} (h : RespId rid) :
    (rid.isBool || !(rid.isNumber || rid.isStr || rid.isNone)) = false := by
  cases rid <;> simp [RespId, isJsonNumber, J.isStr, J.isNone] at h <;> rfl

theorem isNone_eq_null {x : J} (h : x.isNone = true) : x = .null := by
  cases x <;> first | rfl | cases h

/-- Loose and AutoDetect encode, and read ids and arguments, as 2.0 does -/
theorem eq_v2 {P : Proto} (hP : P ≠ .v1) :
    (∀ p req, messageId P p req = v2MessageId p req)
    ∧ (∀ kvs, requestArgs P kvs = requestArgs .v2 kvs)
    ∧ (∀ m a r, requestPayload P m a r = requestPayload .v2 m a r)
    ∧ (∀ v r, responsePayload P v r = responsePayload .v2 v r)
    ∧ (∀ c m r, errorPayload P c m r = errorPayload .v2 c m r) := by
  cases P <;> first | exact absurd rfl hP |
    exact ⟨fun _ _ => rfl, fun _ => rfl, fun _ _ _ => rfl, fun _ _ => rfl, fun _ _ _ => rfl⟩

/-- `_message_id` hands back the `id` member: any value under 1.0, a number, a string or `null`
under the others -/
theorem messageId_of_member (P : Proto) (kvs : List (Str × J)) (req : Bool) (rid : J)
    (h : J.lookup kId kvs = some rid) (hr : P ≠ .v1 → RespId rid) :
    messageId P (.obj kvs) req = .ok rid := by
  by_cases hP : P = .v1
  · subst hP; simp only [messageId, v1MessageId, h]
  · simp only [(eq_v2 hP).1, v2MessageId, h, (hr hP).accepted]; rfl

theorem validateMessage_ok (P : Proto) (kvs : List (Str × J))
    (h : J.lookup kJsonrpc kvs = some s20) : validateMessage P kvs = .ok () := by
  cases P <;> simp only [validateMessage, getD, h] <;> rfl

/-- `_request_args` of 2.0 / Loose: the `params` member, `[]` when there is none -/
theorem requestArgs_of_member {P : Proto} (hP : P ≠ .v1) (kvs : List (Str × J)) (args : J)
    (h : (J.lookup kParams kvs).getD (.arr []) = args) (ha : Args args) :
    requestArgs P kvs = .ok args := by
  rw [(eq_v2 hP).2.1]
  simp only [requestArgs, h]
  rcases ha with ha | ha <;> simp [ha]

/-- `_process_request` succeeds on an object exactly when each of its steps does -/
theorem processRequest_ok (P : Proto) (kvs : List (Str × J)) (x : Item × J) :
    processRequest P (.obj kvs) = .ok x ↔
      ∃ rid args m, messageId P (.obj kvs) false = .ok rid ∧ validateMessage P kvs = .ok ()
        ∧ requestArgs P kvs = .ok args ∧ singleRequest (getD kMethod kvs) args = .ok m
        ∧ x = (if rid.isNone then .notification m args else .request m args, rid) := by
  simp only [processRequest, processRequestBody, asDict]
  constructor
  · intro h
    cases hid : messageId P (.obj kvs) false with
    | error e => cases e <;> simp [hid] at h
    | ok rid =>
      cases hv : validateMessage P kvs with
      | error e => cases e <;> simp [hid, hv] at h
      | ok u =>
        cases ha : requestArgs P kvs with
        | error e => cases e <;> simp [hid, hv, ha] at h
        | ok args =>
          cases hs : singleRequest (getD kMethod kvs) args with
          | error e => cases e <;> simp [hid, hv, ha, hs] at h
          | ok m =>
            simp only [hid, hv, ha, hs] at h
            exact ⟨rid, args, m, rfl, rfl, rfl, hs, (Except.ok.inj h).symm⟩
  · rintro ⟨rid, args, m, h1, h2, h3, h4, rfl⟩
    simp only [h1, h2, h3, h4]

/-- … and `_process_response` likewise -/
theorem processResponse_ok (P : Proto) (kvs : List (Str × J)) (x : Item × J) :
    processResponse P (.obj kvs) = .ok x ↔
      ∃ rid v, messageId P (.obj kvs) true = .ok rid ∧ validateMessage P kvs = .ok ()
        ∧ responseValue P kvs = .ok v ∧ x = (.response v, rid) := by
  simp only [processResponse, asDict]
  constructor
  · intro h
    cases hid : messageId P (.obj kvs) true with
    | error e => cases e <;> simp [hid] at h
    | ok rid =>
      cases hv : validateMessage P kvs with
      | error e => cases e <;> simp [hid, hv] at h
      | ok u =>
        cases hr : responseValue P kvs with
        | error e => cases e <;> simp [hid, hv, hr] at h
        | ok v =>
          simp only [hid, hv, hr] at h
          exact ⟨rid, v, rfl, rfl, rfl, (Except.ok.inj h).symm⟩
  · rintro ⟨rid, v, h1, h2, h3, rfl⟩
    simp only [h1, h2, h3]

/-- `message_to_item` on an object with a string `method`, each step of the request side
succeeding -/
theorem payloadToItem_request (P : Proto) (kvs : List (Str × J)) (rid : J) (m : Str) (args : J)
    (hm : J.lookup kMethod kvs = some (.str m)) (hid : messageId P (.obj kvs) false = .ok rid)
    (hv : validateMessage P kvs = .ok ()) (ha : requestArgs P kvs = .ok args) (hargs : Args args) :
    processRequest P (.obj kvs)
        = .ok (if rid.isNone then .notification m args else .request m args, rid)
    ∧ payloadToItem P (.obj kvs)
        = .ok (if rid.isNone then .notification m args else .request m args, rid) := by
  have hs : singleRequest (getD kMethod kvs) args = .ok m := by
    rcases hargs with h | h <;> simp [singleRequest, getD, hm, h]
  have h := (processRequest_ok P kvs _).2 ⟨rid, args, m, hid, hv, ha, hs, rfl⟩
  exact ⟨h, by simp only [payloadToItem, J.hasKey, hm, Option.isSome, if_true, h]⟩

/-- … without a `method`, each step of the response side succeeding -/
theorem payloadToItem_response (P : Proto) (kvs : List (Str × J)) (rid : J) (v : RespVal)
    (hm : J.lookup kMethod kvs = none) (hid : messageId P (.obj kvs) true = .ok rid)
    (hv : validateMessage P kvs = .ok ()) (hr : responseValue P kvs = .ok v) :
    payloadToItem P (.obj kvs) = .ok (.response v, rid) := by
  simp only [payloadToItem, J.hasKey, hm, Option.isSome, Bool.false_eq_true, if_false]
  exact (processResponse_ok P kvs _).2 ⟨rid, v, hid, hv, hr, rfl⟩

/-- 2.0 / Loose: a `result` member and no `error` member is a result -/
theorem responseValue_result {P : Proto} (hP : P ≠ .v1) (kvs : List (Str × J)) (v : J)
    (hr : J.lookup kResult kvs = some v) (he : J.lookup kError kvs = none) :
    responseValue P kvs = .ok (.result v) := by
  cases P <;> first | exact absurd rfl hP | simp only [responseValue, getD, J.hasKey, hr, he] <;> rfl

theorem errorObj_members (code message : J) :
    J.lookup kCode [(kCode, code), (kMessage, message)] = some code
    ∧ J.lookup kMessage [(kCode, code), (kMessage, message)] = some message :=
  ⟨by lk, by lk⟩

/-- best effort (1.0, Loose) reads the error object the encoders emit as it is, given an `int` code -/
theorem bestEffortError_errorObj (code : J) (msg : Str) (hc : code.isInt = true) :
    bestEffortError (errorObj code (.str msg)) = .rpcError code msg := by
  obtain ⟨h1, h2⟩ := errorObj_members code (.str msg)
  simp only [bestEffortError, errorObj, getD, h1, h2, Option.getD, hc, if_true]

/-- 2.0 / Loose: no `result` member and an error object with an `int` code and a string message -/
theorem responseValue_error {P : Proto} (hP : P ≠ .v1) (kvs : List (Str × J)) (code : J) (msg : Str)
    (hc : code.isInt = true) (hr : J.lookup kResult kvs = none)
    (he : J.lookup kError kvs = some (errorObj code (.str msg))) :
    responseValue P kvs = .ok (.rpcError code msg) := by
  obtain ⟨h1, h2⟩ := errorObj_members code (.str msg)
  cases P
  case v1 => exact absurd rfl hP
  case loose =>
    simp only [responseValue, getD, hr, he, Option.getD, bestEffortError_errorObj code msg hc]; rfl
  all_goals simp only [responseValue, hr, he, errorObj, getD, h1, h2, Option.getD, hc, if_true]

/-- 1.0: `result` and `error` both there -/
theorem responseValue_v1 (kvs : List (Str × J)) (r e : J) (hr : J.lookup kResult kvs = some r)
    (he : J.lookup kError kvs = some e) :
    responseValue .v1 kvs =
      if e.isNone then .ok (.result r)
      else if !r.isNone then
        .error (.proto (invalidRequest "response has a \"result\" and an \"error\""))
      else .ok (bestEffortError e) := by
  simp only [responseValue, hr, he]

/-- a 2.0 request object: version and method always, the id unless it is `null`, the arguments
unless they are an empty list (`[]`, `()`) -/
theorem requestPayload_v2 (P : Proto) (hP : P ≠ .v1) (m : Str) (args rid : J) :
    requestPayload P m args rid = .ok (.obj ([(kJsonrpc, s20), (kMethod, .str m)]
      ++ (if rid.isNone then [] else [(kId, rid)])
      ++ (if args.truthy || pyEq args (.obj []) then [(kParams, args)] else []))) := by
  rw [(eq_v2 hP).2.2.1]
  simp only [requestPayload]
  cases rid.isNone <;> cases (args.truthy || pyEq args (.obj [])) <;> rfl

theorem requestPayload_members (P : Proto) (hP : P ≠ .v1) (m : Str) (args rid : J) :
    ∃ kvs, requestPayload P m args rid = .ok (.obj kvs)
      ∧ J.lookup kJsonrpc kvs = some s20 ∧ J.lookup kMethod kvs = some (.str m)
      ∧ J.lookup kId kvs = (if rid.isNone then none else some rid)
      ∧ J.lookup kParams kvs = (if args.truthy || pyEq args (.obj []) then some args else none) := by
  rw [requestPayload_v2 P hP]
  cases rid.isNone <;> cases (args.truthy || pyEq args (.obj [])) <;>
    exact ⟨_, rfl, by lk, by lk, by lk, by lk⟩

/-- an omitted `params` member stands for `[]`: the encoder leaves out exactly the empty list -/
theorem Args.omitted {a : J} (h : Args a) (ht : (a.truthy || pyEq a (.obj [])) = false) :
    a = .arr [] := by
  rcases a with _ | _ | _ | _ | _ | xs | kvs <;> simp [Args, J.isList, J.isDict] at h
  · cases xs with
    | nil => rfl
    | cons x xs => simp [J.truthy] at ht
  · cases kvs with
    | nil => simp [pyEq, pyEqObj] at ht
    | cons x xs => simp [J.truthy] at ht

/-- 2.0 / Loose / AutoDetect, request and notification at once: list-or-dict arguments, and an id
that is a number, a string or - for a notification - `null` -/
theorem roundtrip_single (P : Proto) (hP : P ≠ .v1) (m : Str) (args rid : J)
    (hargs : Args args) (hrid : RespId rid) :
    ∃ p, requestPayload P m args rid = .ok p
      ∧ processRequest P p = .ok (if rid.isNone then .notification m args else .request m args, rid)
      ∧ payloadToItem P p = .ok (if rid.isNone then .notification m args else .request m args, rid) := by
  obtain ⟨kvs, hp, hj, hm, hid, hpar⟩ := requestPayload_members P hP m args rid
  refine ⟨_, hp, payloadToItem_request P kvs rid m args hm ?_ (validateMessage_ok P kvs hj) ?_ hargs⟩
  · cases hn : rid.isNone
    · exact messageId_of_member P kvs false rid (by rw [hid, hn]; rfl) (fun _ => hrid)
    · rw [isNone_eq_null hn] at hid ⊢
      simp only [(eq_v2 hP).1, v2MessageId, hid]; rfl
  · refine requestArgs_of_member hP kvs args ?_ hargs
    cases ht : (args.truthy || pyEq args (.obj []))
    · rw [hpar, ht, hargs.omitted ht]; rfl
    · rw [hpar, ht]; rfl

/-- 2.0 / Loose / AutoDetect: a request with list-or-dict arguments and a number-or-string id -/
theorem roundtrip_request (P : Proto) (hP : P ≠ .v1) (m : Str) (args rid : J)
    (hargs : Args args) (hrid : ReqId rid) :
    ∃ p, requestPayload P m args rid = .ok p ∧ processRequest P p = .ok (.request m args, rid)
      ∧ payloadToItem P p = .ok (.request m args, rid) := by
  have h := roundtrip_single P hP m args rid hargs hrid.respId
  rw [hrid.notNone] at h
  exact h

example : ∃ p, requestPayload .v2 (lit "m") (.arr []) (.int 7) = .ok p
    ∧ payloadToItem .v2 p = .ok (.request (lit "m") (.arr []) , .int 7) :=
  let ⟨p, h1, _, h3⟩ := roundtrip_request .v2 (by decide) (lit "m") (.arr []) (.int 7)
    (Or.inl rfl) (Or.inl rfl)
  ⟨p, h1, h3⟩

theorem roundtrip_notification (P : Proto) (hP : P ≠ .v1) (m : Str) (args : J) (hargs : Args args) :
    ∃ p, requestPayload P m args .null = .ok p
      ∧ processRequest P p = .ok (.notification m args, .null)
      ∧ payloadToItem P p = .ok (.notification m args, .null) :=
  roundtrip_single P hP m args .null hargs (Or.inr (Or.inr rfl))

theorem roundtrip_result (P : Proto) (hP : P ≠ .v1) (v rid : J) (hrid : RespId rid) :
    payloadToItem P (responsePayload P v rid) = .ok (.response (.result v), rid) := by
  rw [(eq_v2 hP).2.2.2.1]
  exact payloadToItem_response P _ rid _ (by lk)
    (messageId_of_member P _ true rid (by lk) (fun _ => hrid)) (validateMessage_ok P _ (by lk))
    (responseValue_result hP _ v (by lk) (by lk))

/-- an error with an `int` code (a `bool` is an `int` to Python) and a string message -/
theorem roundtrip_error (P : Proto) (hP : P ≠ .v1) (code : J) (msg : Str) (rid : J)
    (hcode : code.isInt = true) (hrid : RespId rid) :
    payloadToItem P (errorPayload P code (.str msg) rid) = .ok (.response (.rpcError code msg), rid) := by
  rw [(eq_v2 hP).2.2.2.2]
  exact payloadToItem_response P _ rid _ (by lk)
    (messageId_of_member P _ true rid (by lk) (fun _ => hrid)) (validateMessage_ok P _ (by lk))
    (responseValue_error hP _ code msg hcode (by lk) (by lk))

/-- 1.0, request and notification at once: positional arguments, **any** JSON value as id, `null`
making it a notification -/
theorem roundtrip_single_v1 (m : Str) (xs : List J) (rid : J) :
    ∃ p, requestPayload .v1 m (.arr xs) rid = .ok p ∧ payloadToItem .v1 p
      = .ok (if rid.isNone then .notification m (.arr xs) else .request m (.arr xs), rid) := by
  refine ⟨_, rfl, (payloadToItem_request .v1 _ rid m (.arr xs) (by lk)
    (messageId_of_member .v1 _ false rid (by lk) (fun h => absurd rfl h)) rfl ?_ (Or.inl rfl)).2⟩
  have h : J.lookup kParams [(kMethod, .str m), (kParams, .arr xs), (kId, rid)] = some (.arr xs) := by
    lk
  simp only [requestArgs, getD, h]; rfl

/-- 1.0: positional arguments, **any** non-null JSON value as id -/
theorem roundtrip_request_v1 (m : Str) (xs : List J) (rid : J) (hrid : rid.isNone = false) :
    ∃ p, requestPayload .v1 m (.arr xs) rid = .ok p
      ∧ payloadToItem .v1 p = .ok (.request m (.arr xs), rid) := by
  have h := roundtrip_single_v1 m xs rid
  rw [hrid] at h
  exact h

theorem roundtrip_notification_v1 (m : Str) (xs : List J) :
    ∃ p, requestPayload .v1 m (.arr xs) .null = .ok p
      ∧ payloadToItem .v1 p = .ok (.notification m (.arr xs), .null) :=
  roundtrip_single_v1 m xs .null

/-- 1.0 results round-trip for every result (`None` included) and every id -/
theorem roundtrip_result_v1 (v rid : J) :
    payloadToItem .v1 (responsePayload .v1 v rid) = .ok (.response (.result v), rid) :=
  payloadToItem_response .v1 _ rid _ (by lk)
    (messageId_of_member .v1 _ true rid (by lk) (fun h => absurd rfl h)) rfl
    (by rw [responseValue_v1 _ v .null (by lk) (by lk)]; rfl)

theorem roundtrip_error_v1 (code : J) (msg : Str) (rid : J) (hcode : code.isInt = true) :
    payloadToItem .v1 (errorPayload .v1 code (.str msg) rid)
      = .ok (.response (.rpcError code msg), rid) :=
  payloadToItem_response .v1 _ rid _ (by lk)
    (messageId_of_member .v1 _ true rid (by lk) (fun h => absurd rfl h)) rfl
    (by rw [responseValue_v1 _ .null (errorObj code (.str msg)) (by lk) (by lk),
      bestEffortError_errorObj code msg hcode]; rfl)

def Member.item : Member → Item × J
  | .request m a rid => (.request m a, rid)
  | .notification m a => (.notification m a, .null)

def Member.valid : Member → Prop
  | .request _ a rid => Args a ∧ ReqId rid
  | .notification _ a => Args a

theorem member_roundtrip (P : Proto) (hP : P ≠ .v1) (mb : Member) (h : mb.valid) :
    ∃ p, memberPayload P mb = .ok p ∧ processRequest P p = .ok mb.item := by
  cases mb with
  | request m a rid =>
      obtain ⟨p, h1, h2, _⟩ := roundtrip_request P hP m a rid h.1 h.2
      exact ⟨p, h1, h2⟩
  | notification m a =>
      obtain ⟨p, h1, h2, _⟩ := roundtrip_notification P hP m a h
      exact ⟨p, h1, h2⟩

theorem members_roundtrip (P : Proto) (hP : P ≠ .v1) :
    ∀ ms : List Member, (∀ mb ∈ ms, mb.valid) →
      ∃ ps, mapM' (memberPayload P) ms = .ok ps ∧ ps.length = ms.length
        ∧ mapM' (processRequest P) ps = .ok (ms.map Member.item)
  | [], _ => ⟨[], rfl, rfl, rfl⟩
  | mb :: ms, h => by
      obtain ⟨p, h1, h2⟩ := member_roundtrip P hP mb (h mb (by simp))
      obtain ⟨ps, h3, h4, h5⟩ := members_roundtrip P hP ms (fun x hx => h x (by simp [hx]))
      refine ⟨p :: ps, ?_, by simp [h4], ?_⟩
      · simp [mapM', h1, h3]
      · simp [mapM', h2, h5]

/-- a batch of requests and notifications: the message is the array of the member payloads,
`message_to_item` hands back exactly those payloads, and decoding them one by one
(`_receive_request_batch`) gives the members back in order, each under its own id -/
theorem roundtrip_batch (P : Proto) (hP : P ≠ .v1) (ms : List Member) (hne : ms ≠ [])
    (h : ∀ mb ∈ ms, mb.valid) :
    ∃ ps, batchPayloads P ms = .ok ps ∧ payloadToItem P (.arr ps) = .ok (.batch ps, .null)
      ∧ mapM' (processRequest P) ps = .ok (ms.map Member.item) := by
  obtain ⟨ps, h1, h2, h3⟩ := members_roundtrip P hP ms h
  have hab : P.allowBatches = true := by cases P <;> simp_all [Proto.allowBatches]
  cases ps with
  | nil => exact absurd (List.length_eq_zero_iff.1 h2.symm) hne
  | cons p ps => exact ⟨_, by simp [batchPayloads, h1, hab], by simp [payloadToItem, hab], h3⟩

example : ∃ ps, batchPayloads .v2 [.request (lit "a") (.arr []) (.int 0), .notification (lit "b") (.obj [])]
    = .ok ps ∧ payloadToItem .v2 (.arr ps) = .ok (.batch ps, .null) :=
  let ⟨ps, h1, h2, _⟩ := roundtrip_batch .v2 (by decide)
    [.request (lit "a") (.arr []) (.int 0), .notification (lit "b") (.obj [])] (by simp)
    (by intro mb hmb; simp at hmb; rcases hmb with rfl | rfl
        · exact ⟨Or.inl rfl, Or.inl rfl⟩
        · exact Or.inr rfl)
  ⟨ps, h1, h2⟩

end Aiorpcx.C04
