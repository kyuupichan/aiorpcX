import Aiorpcx.C04.Model
/-! What `escapeCp` writes for one code point, by cases: the four forms with the facts a reader of
the text (`Loads.lean`) and the alphabet argument (`Dumps.lean`) need about each. -/
namespace Aiorpcx.C04
open Aiorpcx.Py

theorem isHiSur_bounds {n : Nat} (h : isHiSur n = true) : n < 0x10000 ∧ isLoSur n = false := by
  simp [isHiSur, isLoSur] at h ⊢; omega

theorem isLoSur_lt {n : Nat} (h : isLoSur n = true) : n < 0x10000 := by
  simp [isLoSur] at h; omega

/-- printable ASCII: `' '` … `'~'` -/
def pr (c : Char) : Bool := decide (32 ≤ c.toNat) && decide (c.toNat ≤ 126)

/-- the character after a backslash (other than `u`) -/
def unescape (c : Char) : Option Nat :=
  if c = '"' then some 34 else if c = '\\' then some 92 else if c = '/' then some 47
  else if c = 'n' then some 10 else if c = 'r' then some 13 else if c = 't' then some 9
  else if c = 'b' then some 8 else if c = 'f' then some 12 else none

theorem toNat_ofNat {n : Nat} (h : n < 0xd800) : (Char.ofNat n).toNat = n := by
  simp [Char.ofNat, Nat.isValidChar, h, Char.ofNatAux, Char.toNat]

/-- the forms of an escaped code point `c`: a two-character escape that `unescape` undoes, the
character itself, one `\uXXXX`, or a surrogate pair of them -/
inductive Escaped (c : Nat) : List Char → Prop
  | short (e : Char) (he : unescape e = some c) (hu : e ≠ 'u') (hp : pr e = true) : Escaped c ['\\', e]
  | plain (ch : Char) (hc : ch.toNat = c) (hp : pr ch = true) (hq : ch ≠ '"') (hb : ch ≠ '\\') :
      Escaped c [ch]
  | u4 (h : c < 0x10000) : Escaped c (u4 c)
  | pair (hi lo : Nat) (hhi : isHiSur hi = true) (hlo : isLoSur lo = true)
      (hc : c ≤ 0x10FFFF → 0x10000 + (hi - 0xD800) * 1024 + (lo - 0xDC00) = c) :
      Escaped c (u4 hi ++ u4 lo)

theorem escapeCp_escaped (c : Nat) : Escaped c (escapeCp c) := by
  by_cases h34 : c = 34
  · subst h34; exact .short '"' rfl (by decide) rfl
  by_cases h92 : c = 92
  · subst h92; exact .short '\\' rfl (by decide) rfl
  by_cases h10 : c = 10
  · subst h10; exact .short 'n' rfl (by decide) rfl
  by_cases h13 : c = 13
  · subst h13; exact .short 'r' rfl (by decide) rfl
  by_cases h9 : c = 9
  · subst h9; exact .short 't' rfl (by decide) rfl
  by_cases h8 : c = 8
  · subst h8; exact .short 'b' rfl (by decide) rfl
  by_cases h12 : c = 12
  · subst h12; exact .short 'f' rfl (by decide) rfl
  rw [escapeCp, if_neg h34, if_neg h92, if_neg h10, if_neg h13, if_neg h9, if_neg h8, if_neg h12]
  by_cases hp : 32 ≤ c ∧ c ≤ 126
  · rw [if_pos hp]
    have ht : (Char.ofNat c).toNat = c := toNat_ofNat (by omega)
    refine .plain _ ht (by simp [pr, ht, hp]) ?_ ?_
    · intro h; rw [h] at ht; exact h34 ht.symm
    · intro h; rw [h] at ht; exact h92 ht.symm
  rw [if_neg hp]
  by_cases hu : c < 0x10000
  · rw [if_pos hu]; exact .u4 hu
  · rw [if_neg hu]
    exact .pair _ _ (by simp [isHiSur]; omega) (by simp [isLoSur]; omega) (by omega)

end Aiorpcx.C04
