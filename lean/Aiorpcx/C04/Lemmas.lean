import Aiorpcx.C04.Model
/-! Member lookups, and the ranges of ids and arguments the C04 theorems quantify over. -/
namespace Aiorpcx.C04
open Aiorpcx.Py

theorem lookup_cons (k k' : Str) (v : J) (r : List (Str × J)) :
    J.lookup k ((k', v) :: r) = if k = k' then some v else J.lookup k r := rfl
theorem lookup_nil (k : Str) : J.lookup k [] = none := rfl

/-- the member names as code points: comparing two of them through `lit` unpacks two string
literals each time, comparing these lists does not -/
theorem member_names :
    kJsonrpc = [106, 115, 111, 110, 114, 112, 99] ∧ kMethod = [109, 101, 116, 104, 111, 100]
    ∧ kParams = [112, 97, 114, 97, 109, 115] ∧ kId = [105, 100]
    ∧ kResult = [114, 101, 115, 117, 108, 116] ∧ kError = [101, 114, 114, 111, 114]
    ∧ kCode = [99, 111, 100, 101] ∧ kMessage = [109, 101, 115, 115, 97, 103, 101] := by decide +kernel

/-- evaluate a lookup, or another test that looks at the names only, on a literal member list as the
encoders emit it: names to code points, then by computation -/
macro "lk" : tactic =>
  `(tactic| (simp only [member_names, responseMessagePayload, responsePayload, errorPayload, errorObj]; rfl))

/-- request arguments: a list (or tuple) or a dict -/
def Args (a : J) : Prop := a.isList = true ∨ a.isDict = true
/-- a JSON number: `int` or `float`, not `bool` -/
def isJsonNumber : J → Bool
  | .int _ | .float _ => true
  | _ => false
/-- ids a 2.0 / Loose request can carry: numbers and strings -/
def ReqId (rid : J) : Prop := isJsonNumber rid = true ∨ rid.isStr = true
/-- ids a 2.0 / Loose response can carry (`null` included) -/
def RespId (rid : J) : Prop := isJsonNumber rid = true ∨ rid.isStr = true ∨ rid.isNone = true

theorem ReqId.respId {rid : J} (h : ReqId rid) : RespId rid := by
  rcases h with h | h
  · exact Or.inl h
  · exact Or.inr (Or.inl h)

theorem ReqId.notNone {rid : J} (h : ReqId rid) : rid.isNone = false := by
  cases rid <;> simp_all [ReqId, isJsonNumber, J.isStr, J.isNone]

end Aiorpcx.C04
