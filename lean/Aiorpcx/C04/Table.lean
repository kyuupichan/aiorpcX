import Aiorpcx.C04.Classify
/-!
# The finite tables that `tools/facts/c04.py` fills in by RUNNING the real codec

* `allTops`   — every row of the specification table (`Classify.lean`), in a fixed order; the
  generated `Facts.C04.decodeTable P` lists, in the same order, the outcome class (`outCode`) the
  real `message_to_item` of class `P` produced on a representative message of that row;
* `EncRow`    — one probe of a real encoder with what it emitted (payload parsed back from the
  bytes, or the code of the `ProtocolError` raised); `EncRow.holds` says the model's encoder
  produces the same payload (members compared as a set: JSON objects are unordered).

The theorems `facts_decode_table` / `facts_encode_table` (Props) are re-proved on every run.
-/
namespace Aiorpcx.C04
open Aiorpcx.Py

def allParamsK : List ParamsK := [.absent, .list, .dict, .other]
def allIdK : List IdK := [.absent, .null, .atom, .other]
def allResK : List ResK := [.absent, .null, .nonnull]
def allErrK : List ErrK := [.absent, .null, .wellFormed, .other]
/-- `(hasMethod, methodStr)`: no method member, a string, something else -/
def allMethodK : List (Bool × Bool) := [(false, false), (true, true), (true, false)]

/-- every shape a decoded object can have (`methodStr` implies `hasMethod`) -/
def allShapes : List Shape :=
  [false, true].flatMap fun j =>
    allMethodK.flatMap fun (hm, ms) =>
      allParamsK.flatMap fun p =>
        allIdK.flatMap fun i =>
          allResK.flatMap fun r =>
            allErrK.map fun e =>
              { jsonrpc20 := j, hasMethod := hm, methodStr := ms, params := p, id := i,
                result := r, error := e }

def allTops : List TopK := allShapes.map .object ++ [.emptyArray, .array, .other]

/-- numeric code of an outcome class (twin of the constants in tools/facts/c04.py) -/
def outCode : OutClass → Nat
  | .request => 0
  | .notification => 1
  | .result => 2
  | .rpcError => 3
  | .batch => 4
  | .err c =>
      if c = INVALID_REQUEST then 5 else if c = METHOD_NOT_FOUND then 6
      else if c = INVALID_ARGS then 7 else 8
  | .crash => 9

/-- the column of the table the specification predicts for class `P` -/
def specColumn (P : Proto) : List Nat := allTops.map fun t => outCode (classify P t)

inductive EncOut where
  | payload (p : J)
  | protocolError (code : Int)
  /-- any other exception, or bytes that are not JSON -/
  | crash
  deriving DecidableEq, Repr

inductive EncRow where
  | req (P : Proto) (method : Str) (args rid : J) (out : EncOut)
  | res (P : Proto) (value rid : J) (out : EncOut)
  | err (P : Proto) (code message rid : J) (out : EncOut)
  | batch (P : Proto) (members : List Member) (out : EncOut)
  deriving Repr

/-- same members (each name once), whatever the order -/
def sameMembers (a b : List (Str × J)) : Bool :=
  a.length == b.length && uniqueKeys a && a.all fun (k, v) => J.lookup k b == some v

/-- equal as JSON messages: objects at the top compare as member sets (the nested values, among
them the error object, compare member-wise one level down as well) -/
def sameMsg : J → J → Bool
  | .obj a, .obj b =>
      a.length == b.length && uniqueKeys a && a.all fun (k, v) =>
        match v, J.lookup k b with
        | .obj x, some (.obj y) => sameMembers x y
        | v, some w => v == w
        | _, none => false
  | a, b => a == b

def sameMsgs : List J → List J → Bool
  | [], [] => true
  | x :: xs, y :: ys => sameMsg x y && sameMsgs xs ys
  | _, _ => false

def matchR (model : R J) (out : EncOut) : Bool :=
  match model, out with
  | .ok p, .payload q => sameMsg p q
  | .error (.proto e), .protocolError c => e.code == c
  | _, _ => false

/-- tuples reach the wire as arrays: the probe's arguments are given as the JSON they denote -/
def EncRow.holds : EncRow → Bool
  | .req P m args rid out => matchR (requestPayload P m args rid) out
  | .res P v rid out => matchR (.ok (responsePayload P v rid)) out
  | .err P c m rid out => matchR (.ok (errorPayload P c m rid)) out
  | .batch P ms out =>
      match batchPayloads P ms, out with
      | .ok ps, .payload (.arr qs) => sameMsgs ps qs
      | .error (.proto e), .protocolError c => e.code == c
      | _, _ => false

end Aiorpcx.C04
