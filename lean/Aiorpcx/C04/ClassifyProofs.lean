import Aiorpcx.C04.Classify
/-! Proof that the decoder agrees with the specification table of `Classify.lean` on every
payload (`classification_total` in Props).  Staged through kind-level descriptions of the
building blocks so that no case analysis multiplies. -/
namespace Aiorpcx.C04
open Aiorpcx.Py

theorem pyEq_s20 (x : J) : pyEq x s20 = decide (x = s20) := by
  cases x <;> simp [pyEq, s20, J.toNum?]
  rename_i s
  by_cases h : s = lit "2.0" <;> simp [h]

theorem pyEq_s10 (x : J) : pyEq x s10 = decide (x = s10) := by
  cases x <;> simp [pyEq, s10, J.toNum?]
  rename_i s
  by_cases h : s = lit "1.0" <;> simp [h]

theorem jsonrpc20_eq (o : Option J) : decide (o = some s20) = decide (o.getD .null = s20) := by
  cases o with
  | none => simp [s20]
  | some x => by_cases h : x = s20 <;> simp [h]

theorem isNone_null : J.null.isNone = true := rfl

theorem v2MessageId_spec (kvs : List (Str × J)) (req : Bool) :
    v2MessageId (.obj kvs) req =
      match idK kvs with
      | .absent =>
        if req then .error (.proto (invalidRequest "request has no \"id\""))
        else .ok ((J.lookup kId kvs).getD .null)
      | .other => .error (.proto (invalidRequest "invalid \"id\""))
      | _ => .ok ((J.lookup kId kvs).getD .null) := by
  unfold v2MessageId idK
  cases h : J.lookup kId kvs with
  | none => simp [h]
  | some rid => cases rid <;> simp [h, J.isNumber, J.isStr, J.isNone, J.isBool]

theorem v1MessageId_spec (kvs : List (Str × J)) :
    v1MessageId (.obj kvs) =
      match idK kvs with
      | .absent => .error (.proto (invalidRequest "request has no \"id\""))
      | _ => .ok ((J.lookup kId kvs).getD .null) := by
  unfold v1MessageId idK
  cases h : J.lookup kId kvs with
  | none => simp [h]
  | some rid => cases rid <;> simp [h]

theorem idK_null_iff (kvs : List (Str × J)) :
    ((J.lookup kId kvs).getD .null).isNone = (idK kvs == .absent || idK kvs == .null) := by
  unfold idK
  cases h : J.lookup kId kvs with
  | none => simp [J.isNone]
  | some rid => cases rid <;> simp [J.isNone]

theorem validate_v2_spec (P : Proto) (hP : P = .v2 ∨ P = .auto) (kvs : List (Str × J)) :
    validateMessage P kvs =
      if (shapeOf kvs).jsonrpc20 then .ok ()
      else .error (.proto (invalidRequest "\"jsonrpc\" is not \"2.0\"")) := by
  rcases hP with rfl | rfl <;>
  (simp only [validateMessage, shapeOf, getD, pyEq_s20, jsonrpc20_eq]
   by_cases h : (J.lookup kJsonrpc kvs).getD J.null = s20 <;> simp [h])

theorem validateMessage_loose (kvs : List (Str × J)) : validateMessage .loose kvs = .ok () := rfl

theorem requestArgs_v2_spec (P : Proto) (hP : P ≠ .v1) (kvs : List (Str × J)) :
    requestArgs P kvs =
      match paramsK kvs with
      | .other => .error (.proto (invalidArgs "invalid request arguments"))
      | _ => .ok ((J.lookup kParams kvs).getD (.arr [])) := by
  cases P <;> simp at hP <;> unfold requestArgs paramsK <;>
  (cases h : J.lookup kParams kvs with
   | none => simp [h, J.isDict, J.isList]
   | some a => cases a <;> simp [h, J.isDict, J.isList])

theorem requestArgs_v1_spec (kvs : List (Str × J)) :
    requestArgs .v1 kvs =
      match paramsK kvs with
      | .list => .ok (getD kParams kvs)
      | _ => .error (.proto (invalidArgs "invalid request arguments")) := by
  unfold requestArgs paramsK getD
  cases h : J.lookup kParams kvs with
  | none => simp [h, J.isList]
  | some a => cases a <;> simp [h, J.isList]

theorem paramsK_args (kvs : List (Str × J)) (h : paramsK kvs ≠ .other) :
    (((J.lookup kParams kvs).getD (.arr [])).isList ||
      ((J.lookup kParams kvs).getD (.arr [])).isDict) = true := by
  unfold paramsK at h
  cases h' : J.lookup kParams kvs with
  | none => simp [J.isList]
  | some a => cases a <;> simp_all [J.isDict, J.isList]

theorem paramsK_list_args (kvs : List (Str × J)) (h : paramsK kvs = .list) :
    ((getD kParams kvs).isList || (getD kParams kvs).isDict) = true := by
  unfold paramsK at h
  unfold getD
  cases h' : J.lookup kParams kvs with
  | none => simp_all
  | some a => cases a <;> simp_all [J.isList]

theorem singleRequest_spec (kvs : List (Str × J)) (args : J)
    (ha : (args.isList || args.isDict) = true) :
    singleRequest (getD kMethod kvs) args =
      if (shapeOf kvs).methodStr then
        .ok (match getD kMethod kvs with | .str m => m | _ => [])
      else .error (.proto (perr METHOD_NOT_FOUND "method must be a string")) := by
  unfold singleRequest shapeOf getD
  cases h : J.lookup kMethod kvs with
  | none => simp
  | some m => cases m <;> simp [ha]

/-- the outcome class of `_process_request` is that of its first failing step: re-raising through
`_error` keeps the code -/
theorem outClass_processRequest (P : Proto) (p : J) :
    outClass (processRequest P p) =
      match messageId P p false with
      | .error e => outClass (.error e)
      | .ok rid =>
        match processRequestBody P p rid with
        | .error e => outClass (.error e)
        | .ok item => outClass (.ok (item, rid)) := by
  unfold processRequest
  cases messageId P p false with
  | error e => cases e <;> rfl
  | ok rid =>
    dsimp only
    cases processRequestBody P p rid with
    | error e => cases e <;> rfl
    | ok item => rfl

theorem requestBody_class (P : Proto) (hP : P ≠ .v1) (kvs : List (Str × J)) (rid : J)
    (hv : validateMessage P kvs = .ok ()) :
    (match processRequestBody P (.obj kvs) rid with
      | .error e => outClass (.error e)
      | .ok item => outClass (.ok (item, rid))) =
      match paramsK kvs, (shapeOf kvs).methodStr with
      | .other, _ => .err INVALID_ARGS
      | _, false => .err METHOD_NOT_FOUND
      | _, true => if rid.isNone then .notification else .request := by
  simp only [processRequestBody, asDict, hv, requestArgs_v2_spec P hP]
  cases hp : paramsK kvs
  case other => rfl
  all_goals
    simp only [singleRequest_spec kvs _ (paramsK_args kvs (by rw [hp]; decide))]
    cases (shapeOf kvs).methodStr
    · rfl
    · cases rid.isNone <;> rfl

/-- `_validate_message` fails with INVALID_REQUEST only -/
theorem validate_error (P : Proto) (kvs : List (Str × J)) (e : Exc)
    (h : validateMessage P kvs = .error e) : outClass (.error e) = IR := by
  cases P <;> simp only [validateMessage] at h <;> first | cases h | (split at h <;> cases h; rfl)

theorem classifyRequestTail_eq (s : Shape) (b : Bool) (hb : b = (s.id != .atom)) :
    (match s.params, s.methodStr with
      | .other, _ => .err INVALID_ARGS
      | _, false => .err METHOD_NOT_FOUND
      | _, true => if b then .notification else .request) = classifyRequestTail s := by
  subst hb
  unfold classifyRequestTail
  cases s.params <;> cases s.methodStr <;> cases s.id <;> rfl

/-- requests under 2.0 / Loose / AutoDetect: the id, then the version member, then the rest -/
theorem classify_request (P : Proto) (hP : P ≠ .v1) (kvs : List (Str × J)) :
    outClass (processRequest P (.obj kvs)) =
      match idK kvs with
      | .other => IR
      | _ =>
        match validateMessage P kvs with
        | .error _ => IR
        | .ok () => classifyRequestTail (shapeOf kvs) := by
  have hmid : messageId P (.obj kvs) false = v2MessageId (.obj kvs) false := by
    cases P <;> first | rfl | exact absurd rfl hP
  rw [outClass_processRequest, hmid, v2MessageId_spec]
  have hn := idK_null_iff kvs
  cases hi : idK kvs
  case other => rfl
  all_goals
    rw [hi] at hn
    cases hv : validateMessage P kvs with
    | error e =>
      simp only [processRequestBody, asDict, hv]
      exact validate_error P kvs e hv
    | ok u =>
      exact (requestBody_class P hP kvs _ hv).trans
        (classifyRequestTail_eq (shapeOf kvs) _ (hn.trans (congrArg (· != IdK.atom) hi).symm))

theorem requestBody_class_v1 (kvs : List (Str × J)) (rid : J) :
    (match processRequestBody .v1 (.obj kvs) rid with
      | .error e => outClass (.error e)
      | .ok item => outClass (.ok (item, rid))) =
      match paramsK kvs, (shapeOf kvs).methodStr with
      | .list, true => if rid.isNone then .notification else .request
      | .list, false => .err METHOD_NOT_FOUND
      | _, _ => .err INVALID_ARGS := by
  simp only [processRequestBody, asDict, validateMessage, requestArgs_v1_spec]
  cases hp : paramsK kvs
  case list =>
    simp only [singleRequest_spec kvs _ (paramsK_list_args kvs hp)]
    cases (shapeOf kvs).methodStr
    · rfl
    · cases rid.isNone <;> rfl
  all_goals rfl

/-- requests under 1.0: an id member, then positional params, then the method -/
theorem classify_v1_request (kvs : List (Str × J)) :
    outClass (processRequest .v1 (.obj kvs)) =
      match (shapeOf kvs).id with
      | .absent => IR
      | i =>
        match (shapeOf kvs).params, (shapeOf kvs).methodStr, i with
        | .list, true, .null => .notification
        | .list, true, _ => .request
        | .list, false, _ => .err METHOD_NOT_FOUND
        | _, _, _ => .err INVALID_ARGS := by
  rw [outClass_processRequest]
  simp only [messageId, v1MessageId_spec]
  have hn := idK_null_iff kvs
  have hsid : (shapeOf kvs).id = idK kvs := rfl
  have hsp : (shapeOf kvs).params = paramsK kvs := rfl
  rw [hsid, hsp]
  cases hi : idK kvs
  case absent => rfl
  all_goals
    rw [hi] at hn
    dsimp only
    rw [requestBody_class_v1, hn]
    cases paramsK kvs <;> cases (shapeOf kvs).methodStr <;> rfl

def respClass : R RespVal → OutClass
  | .ok (.result _) => .result
  | .ok (.rpcError _ _) => .rpcError
  | .ok (.protoError c _) => .err c
  | .error (.proto e) => .err e.code
  | .error (.py _) => .crash

theorem outClass_wrap (P : Proto) (rid : J) (body : R RespVal) :
    outClass (match body with
      | .error (.proto e) => .error (.proto (mkError P e.code e.msg false rid))
      | .error e => .error e
      | .ok v => .ok (.response v, rid)) = respClass body := by
  rcases body with (e | e) | v
  · simp [outClass, respClass, mkError]
  · simp [outClass, respClass]
  · cases v <;> simp [outClass, respClass]

theorem resK_view (kvs : List (Str × J)) :
    (J.lookup kResult kvs = none ∧ resK kvs = .absent)
    ∨ (J.lookup kResult kvs = some .null ∧ resK kvs = .null)
    ∨ (∃ r, J.lookup kResult kvs = some r ∧ r.isNone = false ∧ resK kvs = .nonnull) := by
  unfold resK
  cases h : J.lookup kResult kvs with
  | none => exact Or.inl ⟨rfl, rfl⟩
  | some r => cases r <;> first | exact Or.inr (Or.inl ⟨rfl, rfl⟩) | exact Or.inr (Or.inr ⟨_, rfl, rfl, rfl⟩)

theorem errK_view (kvs : List (Str × J)) :
    (J.lookup kError kvs = none ∧ errK kvs = .absent)
    ∨ (J.lookup kError kvs = some .null ∧ errK kvs = .null)
    ∨ (∃ e, J.lookup kError kvs = some e ∧ e.isNone = false
        ∧ errK kvs = if isWellFormedError e then .wellFormed else .other) := by
  unfold errK
  cases h : J.lookup kError kvs with
  | none => exact Or.inl ⟨rfl, rfl⟩
  | some e => cases e <;> first | exact Or.inr (Or.inl ⟨rfl, rfl⟩) | exact Or.inr (Or.inr ⟨_, rfl, rfl, rfl⟩)

theorem respClass_bestEffort (e : J) : respClass (.ok (bestEffortError e)) = .rpcError := by
  cases e <;> rfl

/-- the error-object branch of `JSONRPCv2.response_value` -/
def v2Err : J → R RespVal
  | .obj ekvs =>
      match getD kMessage ekvs with
      | .str m =>
          if (getD kCode ekvs).isInt then .ok (.rpcError (getD kCode ekvs) m)
          else .error (.proto (invalidRequest "ill-formed response error object"))
      | _ => .error (.proto (invalidRequest "ill-formed response error object"))
  | _ => .error (.proto (invalidRequest "ill-formed response error object"))

theorem responseValue_v2_eq (kvs : List (Str × J)) :
    responseValue .v2 kvs =
      match J.lookup kResult kvs with
      | some result =>
          if J.hasKey kError kvs then
            .error (.proto (invalidRequest "response contains both \"result\" and \"error\""))
          else .ok (.result result)
      | none =>
          match J.lookup kError kvs with
          | none => .error (.proto (invalidRequest "response contains neither \"result\" nor \"error\""))
          | some e => v2Err e := by
  cases hr : J.lookup kResult kvs with
  | some r => simp only [responseValue, hr]
  | none =>
    cases he : J.lookup kError kvs with
    | none => simp only [responseValue, hr, he]
    | some e => cases e <;> simp only [responseValue, hr, he, v2Err] <;> rfl

/-- the 2.0 error-object check is exactly `isWellFormedError` -/
theorem respClass_v2Err (e : J) :
    respClass (v2Err e) = if isWellFormedError e then .rpcError else IR := by
  cases e
  case obj ekvs =>
    -- the message first: only under a string message does the code matter
    cases hm : J.lookup kMessage ekvs with
    | none => simp [v2Err, isWellFormedError, getD, hm, respClass, invalidRequest, perr, IR]
    | some m =>
      cases m
      case str s =>
        cases hc : J.lookup kCode ekvs with
        | none => simp [v2Err, isWellFormedError, getD, hm, hc, respClass, invalidRequest, perr, IR, J.isInt]
        | some c =>
          cases c <;>
            simp [v2Err, isWellFormedError, getD, hm, hc, respClass, invalidRequest, perr, IR, J.isInt]
      all_goals simp [v2Err, isWellFormedError, getD, hm, respClass, invalidRequest, perr, IR]
  all_goals rfl

theorem respClass_v2 (P : Proto) (hP : P = .v2 ∨ P = .auto) (kvs : List (Str × J)) :
    respClass (responseValue P kvs) =
      match resK kvs, errK kvs with
      | .absent, .wellFormed => .rpcError
      | .absent, _ => IR
      | _, .absent => .result
      | _, _ => IR := by
  have hrv : responseValue P kvs = responseValue .v2 kvs := by rcases hP with rfl | rfl <;> rfl
  rw [hrv, responseValue_v2_eq]
  rcases resK_view kvs with ⟨hr, hk⟩ | ⟨hr, hk⟩ | ⟨r, hr, _, hk⟩ <;>
    rcases errK_view kvs with ⟨he, hk'⟩ | ⟨he, hk'⟩ | ⟨e, he, _, hk'⟩ <;>
    simp only [hr, he, hk, hk', J.hasKey, Option.isSome, respClass_v2Err] <;>
    first | rfl | (cases isWellFormedError e <;> rfl)

theorem respClass_loose (kvs : List (Str × J)) :
    respClass (responseValue .loose kvs) =
      match errK kvs, resK kvs with
      | .wellFormed, .nonnull | .other, .nonnull => IR
      | .wellFormed, _ | .other, _ => .rpcError
      | _, .absent => IR
      | _, _ => .result := by
  rcases resK_view kvs with ⟨hr, hk⟩ | ⟨hr, hk⟩ | ⟨r, hr, hn, hk⟩ <;>
    rcases errK_view kvs with ⟨he, hk'⟩ | ⟨he, hk'⟩ | ⟨e, he, hn', hk'⟩ <;>
    simp only [responseValue, getD, Option.getD, isNone_null, respClass_bestEffort, Bool.not_true,
      Bool.not_false, Bool.false_eq_true, if_true, if_false, *] <;>
    first | rfl | (cases isWellFormedError e <;> rfl)

theorem respClass_v1 (kvs : List (Str × J)) :
    respClass (responseValue .v1 kvs) =
      match resK kvs, errK kvs with
      | .absent, _ | _, .absent => IR
      | _, .null => .result
      | .nonnull, _ => IR
      | .null, _ => .rpcError := by
  rcases resK_view kvs with ⟨hr, hk⟩ | ⟨hr, hk⟩ | ⟨r, hr, hn, hk⟩ <;>
    rcases errK_view kvs with ⟨he, hk'⟩ | ⟨he, hk'⟩ | ⟨e, he, hn', hk'⟩ <;>
    simp only [responseValue, isNone_null, respClass_bestEffort, Bool.not_true, Bool.not_false,
      Bool.false_eq_true, if_true, if_false, *] <;>
    first | rfl | (cases isWellFormedError e <;> rfl)

/-- the outcome class of `_process_response`: the id, the version member, then `response_value` -/
theorem outClass_processResponse (P : Proto) (kvs : List (Str × J)) :
    outClass (processResponse P (.obj kvs)) =
      match messageId P (.obj kvs) true with
      | .error e => outClass (.error e)
      | .ok _ =>
        match validateMessage P kvs with
        | .error e => outClass (.error e)
        | .ok () => respClass (responseValue P kvs) := by
  unfold processResponse
  cases messageId P (.obj kvs) true with
  | error e => cases e <;> rfl
  | ok rid =>
    dsimp only [asDict]
    cases validateMessage P kvs with
    | error e => cases e <;> rfl
    | ok u => exact outClass_wrap P rid _

theorem classify_response (P : Proto) (hP : P ≠ .v1) (kvs : List (Str × J)) :
    outClass (processResponse P (.obj kvs)) =
      match idK kvs with
      | .absent => IR
      | .other => IR
      | _ =>
        match validateMessage P kvs with
        | .error _ => IR
        | .ok () => respClass (responseValue P kvs) := by
  have hmid : messageId P (.obj kvs) true = v2MessageId (.obj kvs) true := by
    cases P <;> first | rfl | exact absurd rfl hP
  rw [outClass_processResponse, hmid, v2MessageId_spec]
  cases idK kvs
  case absent => rfl
  case other => rfl
  all_goals
    dsimp only
    cases hv : validateMessage P kvs with
    | error e => exact validate_error P kvs e hv
    | ok u => rfl

theorem classify_v1_response (kvs : List (Str × J)) :
    outClass (processResponse .v1 (.obj kvs)) =
      match idK kvs with
      | .absent => IR
      | _ => respClass (responseValue .v1 kvs) := by
  rw [outClass_processResponse]
  simp only [messageId, v1MessageId_spec]
  cases idK kvs <;> rfl

theorem classify_obj (P : Proto) (kvs : List (Str × J)) :
    outClass (payloadToItem P (.obj kvs)) = classify P (.object (shapeOf kvs)) := by
  have hm : J.hasKey kMethod kvs = (shapeOf kvs).hasMethod := rfl
  have hsid : idK kvs = (shapeOf kvs).id := rfl
  have hsr : resK kvs = (shapeOf kvs).result := rfl
  have hse : errK kvs = (shapeOf kvs).error := rfl
  simp only [payloadToItem]
  rw [hm]
  -- per class and side: the lemma of that side, then the two tables row by row
  cases P <;> cases hmm : (shapeOf kvs).hasMethod <;>
    simp only [Bool.false_eq_true, if_false, if_true, ne_eq, reduceCtorEq, not_false_eq_true,
      or_true, true_or, classify_v1_request, classify_v1_response, classify_request,
      classify_response, validate_v2_spec, validateMessage_loose, respClass_v1, respClass_v2,
      respClass_loose, classify, classifyV1, classifyV2, classifyLoose, hmm, hsid, hsr, hse] <;>
    cases (shapeOf kvs).id <;> cases (shapeOf kvs).jsonrpc20 <;> rfl

/-- an item class, or a `ProtocolError` with one of the three documented codes -/
def okClass (c : OutClass) : Bool :=
  c matches .request | .notification | .result | .rpcError | .batch ||
  c == .err INVALID_REQUEST || c == .err METHOD_NOT_FOUND || c == .err INVALID_ARGS

theorem tail_ok (s : Shape) : okClass (classifyRequestTail s) = true := by
  unfold classifyRequestTail; split <;> decide

end Aiorpcx.C04
