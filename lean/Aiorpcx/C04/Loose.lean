import Aiorpcx.C04.ClassifyProofs
import Aiorpcx.C04.Roundtrip
/-! Loose is an extension of both strict decoders: every payload strict 2.0 (resp. 1.0, for
ids Loose admits) accepts is accepted by Loose with the same item and id.  Stronger than the
property needs (which only speaks of encoder outputs). -/
namespace Aiorpcx.C04
open Aiorpcx.Py

theorem responseValue_loose_of_v2 (kvs : List (Str × J)) (v : RespVal)
    (h : responseValue .v2 kvs = .ok v) : responseValue .loose kvs = .ok v := by
  rw [responseValue_v2_eq] at h
  unfold responseValue getD
  cases hr : J.lookup kResult kvs with
  | some r =>
    rw [hr] at h
    simp only at h
    cases he : J.lookup kError kvs with
    | none =>
      simp [J.hasKey, he] at h
      simp [J.isNone, h, hr, he]
    | some e => simp [J.hasKey, he] at h
  | none =>
    rw [hr] at h
    simp only at h
    cases he : J.lookup kError kvs with
    | none => rw [he] at h; cases h
    | some e =>
      rw [he] at h
      simp only at h
      cases e with
      | obj ekvs =>
        simp only [v2Err, getD] at h
        cases hm : J.lookup kMessage ekvs with
        | none => rw [hm] at h; simp at h
        | some m =>
          rw [hm] at h
          cases m with
          | null | bool _ | int _ | float _ | arr _ | obj _ => cases h
          | str s =>
          cases hc : ((J.lookup kCode ekvs).getD J.null).isInt with
          | false => simp [hc] at h
          | true =>
            simp [hc] at h
            subst h
            simp [J.isNone, bestEffortError, getD, hm, hc, hr, he]
      | null | bool _ | int _ | float _ | str _ | arr _ => simp [v2Err] at h

theorem loose_extends_v2 (p : J) (x : Item × J) (h : payloadToItem .v2 p = .ok x) :
    payloadToItem .loose p = .ok x := by
  cases p with
  | obj kvs =>
    simp only [payloadToItem] at h ⊢
    split
    · rename_i hm
      rw [if_pos hm, processRequest_ok] at h
      obtain ⟨rid, args, m, h1, _, h3, h4, rfl⟩ := h
      exact (processRequest_ok ..).2 ⟨rid, args, m, h1, rfl, h3, h4, rfl⟩
    · rename_i hm
      rw [if_neg hm, processResponse_ok] at h
      obtain ⟨rid, v, h1, _, h3, rfl⟩ := h
      exact (processResponse_ok ..).2 ⟨rid, v, h1, rfl, responseValue_loose_of_v2 kvs v h3, rfl⟩
  | arr xs => exact h
  | null | bool _ | int _ | float _ | str _ => simp [payloadToItem] at h

theorem messageId_loose_of_v1 (kvs : List (Str × J)) (rid : J) (req : Bool)
    (h : messageId .v1 (.obj kvs) req = .ok rid) (hrid : RespId rid) :
    messageId .loose (.obj kvs) req = .ok rid := by
  simp only [messageId, v1MessageId] at h
  cases hl : J.lookup kId kvs with
  | none => rw [hl] at h; cases h
  | some r =>
    rw [hl] at h
    cases h
    exact messageId_of_member .loose kvs req _ hl (fun _ => hrid)

theorem requestArgs_loose_of_v1 (kvs : List (Str × J)) (a : J) (h : requestArgs .v1 kvs = .ok a) :
    requestArgs .loose kvs = .ok a := by
  rw [requestArgs_v1_spec] at h
  rw [requestArgs_v2_spec .loose (by decide)]
  unfold paramsK at h ⊢
  unfold getD at h
  cases hl : J.lookup kParams kvs with
  | none => simp [hl] at h
  | some x => cases x <;> simp [hl] at h ⊢ <;> exact h

theorem responseValue_loose_of_v1 (kvs : List (Str × J)) (v : RespVal)
    (h : responseValue .v1 kvs = .ok v) : responseValue .loose kvs = .ok v := by
  cases hr : J.lookup kResult kvs with
  | none => simp [responseValue, hr] at h
  | some r =>
    cases he : J.lookup kError kvs with
    | none => simp [responseValue, hr, he] at h
    | some e =>
      simp only [responseValue, getD, hr, he, Option.getD] at h ⊢
      cases hen : e.isNone with
      | true =>
        simp [hen] at h
        subst h
        simp
      | false =>
        simp [hen] at h
        cases hrn : r.isNone with
        | false => simp [hrn] at h
        | true => simp [hrn] at h; subst h; simp

theorem loose_extends_v1 (p : J) (item : Item) (rid : J) (hrid : RespId rid)
    (h : payloadToItem .v1 p = .ok (item, rid)) : payloadToItem .loose p = .ok (item, rid) := by
  cases p with
  | obj kvs =>
    simp only [payloadToItem] at h ⊢
    split
    · rename_i hm
      rw [if_pos hm, processRequest_ok] at h
      obtain ⟨r, args, m, h1, _, h3, h4, hx⟩ := h
      cases hx
      exact (processRequest_ok ..).2
        ⟨_, args, m, messageId_loose_of_v1 kvs _ _ h1 hrid, rfl, requestArgs_loose_of_v1 kvs args h3,
          h4, rfl⟩
    · rename_i hm
      rw [if_neg hm, processResponse_ok] at h
      obtain ⟨r, v, h1, _, h3, hx⟩ := h
      cases hx
      exact (processResponse_ok ..).2
        ⟨_, v, messageId_loose_of_v1 kvs _ _ h1 hrid, rfl, responseValue_loose_of_v1 kvs v h3,
          rfl⟩
  | arr xs => simp [payloadToItem, Proto.allowBatches] at h
  | null | bool _ | int _ | float _ | str _ => simp [payloadToItem] at h

end Aiorpcx.C04
