import Aiorpcx.C04.Escape
/-! Lemmas about the serializer model: every character `dumps` emits is printable ASCII
(so there is no raw newline, and `.encode()` cannot fail). -/
namespace Aiorpcx.C04
open Aiorpcx.Py

def allPr (s : List Char) : Prop := ∀ c ∈ s, pr c = true

instance (s : List Char) : Decidable (allPr s) := by unfold allPr; infer_instance

theorem allPr_nil : allPr [] := by intro c h; cases h
theorem allPr_cons {c : Char} {s : List Char} (h1 : pr c = true) (h2 : allPr s) : allPr (c :: s) := by
  intro x hx
  cases hx with
  | head => exact h1
  | tail _ h => exact h2 x h
theorem allPr_append {a b : List Char} (h1 : allPr a) (h2 : allPr b) : allPr (a ++ b) := by
  intro x hx
  rcases List.mem_append.1 hx with h | h
  · exact h1 x h
  · exact h2 x h

theorem pr_hexDigit : ∀ k, k < 16 → pr (hexDigit k) = true := by decide

theorem allPr_u4 (n : Nat) : allPr (u4 n) := by
  unfold u4
  refine allPr_cons (by decide) (allPr_cons (by decide) ?_)
  refine allPr_cons (pr_hexDigit _ (Nat.mod_lt _ (by decide))) ?_
  refine allPr_cons (pr_hexDigit _ (Nat.mod_lt _ (by decide))) ?_
  refine allPr_cons (pr_hexDigit _ (Nat.mod_lt _ (by decide))) ?_
  exact allPr_cons (pr_hexDigit _ (Nat.mod_lt _ (by decide))) allPr_nil

theorem allPr_escapeCp (c : Nat) : allPr (escapeCp c) := by
  have h := escapeCp_escaped c
  generalize escapeCp c = s at h
  cases h with
  | short e _ _ hp => exact allPr_cons (by decide) (allPr_cons hp allPr_nil)
  | plain ch _ hp _ _ => exact allPr_cons hp allPr_nil
  | u4 _ => exact allPr_u4 c
  | pair hi lo _ _ _ => exact allPr_append (allPr_u4 hi) (allPr_u4 lo)

theorem allPr_flatMap_escape (s : Str) : allPr (s.flatMap escapeCp) := by
  induction s with
  | nil => exact allPr_nil
  | cons c r ih =>
    rw [List.flatMap_cons]
    exact allPr_append (allPr_escapeCp c) ih

theorem allPr_dumpsStr (s : Str) : allPr (dumpsStr s) := by
  unfold dumpsStr
  exact allPr_cons (by decide) (allPr_append (allPr_flatMap_escape s) (allPr_cons (by decide) allPr_nil))

theorem allPr_natDigitsAux : ∀ (fuel n : Nat) (acc : List Char), allPr acc → allPr (natDigitsAux fuel n acc)
  | 0, _, _, h => h
  | fuel + 1, n, acc, h => by
      unfold natDigitsAux
      split
      · exact allPr_cons (pr_hexDigit n (by omega)) h
      · exact allPr_natDigitsAux fuel _ _ (allPr_cons (pr_hexDigit _ (by omega)) h)

theorem allPr_dumpsInt (i : Int) : allPr (dumpsInt i) := by
  cases i with
  | ofNat n => exact allPr_natDigitsAux _ _ _ allPr_nil
  | negSucc n => exact allPr_cons (by decide) (allPr_natDigitsAux _ _ _ allPr_nil)

theorem mem_joinWith {sep : List Char} {c : Char} :
    ∀ {parts : List (List Char)}, c ∈ joinWith sep parts → c ∈ sep ∨ ∃ p ∈ parts, c ∈ p
  | [], h => by cases h
  | [x], h => Or.inr ⟨x, by simp, h⟩
  | x :: y :: r, h => by
      rw [joinWith, List.mem_append, List.mem_append] at h
      rcases h with (h | h) | h
      · exact Or.inr ⟨x, by simp, h⟩
      · exact Or.inl h
      · rcases mem_joinWith h with h | ⟨p, hp, h⟩
        · exact Or.inl h
        · exact Or.inr ⟨p, by simp [hp], h⟩

theorem allPr_joinWith (sep : List Char) (hsep : allPr sep) (parts : List (List Char))
    (h : ∀ p ∈ parts, allPr p) : allPr (joinWith sep parts) :=
  fun c hc => (mem_joinWith hc).elim (hsep c) fun ⟨p, hp, hc'⟩ => h p hp c hc'

/-- the call configuration is the one under which the theorems hold: printable separators,
`ensure_ascii` left on, no other keyword (`indent`, `default`, …) -/
def DumpCfg.ok (cfg : DumpCfg) : Prop :=
  allPr cfg.itemSep ∧ allPr cfg.keySep ∧ cfg.ensureAscii = true ∧ cfg.otherKeywords = false

mutual
theorem allPr_dumps (cfg : DumpCfg) (fr : F → List Char) (hc : cfg.ok) (hf : ∀ f, allPr (fr f)) :
    ∀ v : J, allPr (dumps cfg fr v)
  | .null => by unfold dumps; decide
  | .bool true => by unfold dumps; decide
  | .bool false => by unfold dumps; decide
  | .int i => by unfold dumps; exact allPr_dumpsInt i
  | .float f => by unfold dumps; exact hf f
  | .str s => by unfold dumps; exact allPr_dumpsStr s
  | .arr xs => by
      unfold dumps
      exact allPr_cons (by decide) (allPr_append
        (allPr_joinWith _ hc.1 _ (allPr_dumpsList cfg fr hc hf xs)) (allPr_cons (by decide) allPr_nil))
  | .obj kvs => by
      unfold dumps
      exact allPr_cons (by decide) (allPr_append
        (allPr_joinWith _ hc.1 _ (allPr_dumpsObj cfg fr hc hf kvs)) (allPr_cons (by decide) allPr_nil))
theorem allPr_dumpsList (cfg : DumpCfg) (fr : F → List Char) (hc : cfg.ok) (hf : ∀ f, allPr (fr f)) :
    ∀ xs : List J, ∀ p ∈ dumpsList cfg fr xs, allPr p
  | [] => by intro p hp; simp [dumpsList] at hp
  | x :: xs => by
      intro p hp
      simp only [dumpsList, List.mem_cons] at hp
      rcases hp with rfl | hp
      · exact allPr_dumps cfg fr hc hf x
      · exact allPr_dumpsList cfg fr hc hf xs p hp
theorem allPr_dumpsObj (cfg : DumpCfg) (fr : F → List Char) (hc : cfg.ok) (hf : ∀ f, allPr (fr f)) :
    ∀ kvs : List (Str × J), ∀ p ∈ dumpsObj cfg fr kvs, allPr p
  | [] => by intro p hp; simp [dumpsObj] at hp
  | (k, v) :: r => by
      intro p hp
      simp only [dumpsObj, List.mem_cons] at hp
      rcases hp with rfl | hp
      · exact allPr_append (allPr_append (allPr_dumpsStr k) hc.2.1) (allPr_dumps cfg fr hc hf v)
      · exact allPr_dumpsObj cfg fr hc hf r p hp
end

/-- printable ASCII, or a tab: nothing that breaks a line -/
def allLine (s : List Char) : Prop := ∀ c ∈ s, pr c = true ∨ c = '\t'

theorem allPr.line {s : List Char} (h : allPr s) : allLine s := fun c hc => Or.inl (h c hc)

theorem sepOK_line (sep : List Char) (h : sepOK sep = true) : allLine sep := by
  intro c hc
  simp only [sepOK, Bool.and_eq_true, List.all_eq_true] at h
  have := h.1 c hc
  simp only [Bool.or_eq_true, decide_eq_true_eq] at this
  rcases this with (rfl | rfl) | rfl
  · exact Or.inl (by decide)
  · exact Or.inl (by decide)
  · exact Or.inr rfl

theorem allLine_batchFromParts (sep : List Char) (hsep : sepOK sep = true)
    (parts : List (List Char)) (h : ∀ p ∈ parts, allPr p) :
    allLine (batchFromParts sep parts) := by
  intro c hc
  simp only [batchFromParts, List.mem_cons, List.mem_append, List.not_mem_nil, or_false] at hc
  rcases hc with rfl | hc | rfl
  · exact Or.inl (by decide)
  · rcases mem_joinWith hc with hc | ⟨p, hp, hc⟩
    · exact sepOK_line sep hsep c hc
    · exact Or.inl (h p hp c hc)
  · exact Or.inl (by decide)

theorem allLine_no_newline {s : List Char} (h : allLine s) : '\n' ∉ s ∧ '\r' ∉ s := by
  constructor
  · intro hm
    rcases h _ hm with h | h
    · simp [pr] at h
    · cases h
  · intro hm
    rcases h _ hm with h | h
    · simp [pr] at h
    · cases h

theorem joinWith_eq_intercalate (sep : List Char) :
    ∀ parts : List (List Char), joinWith sep parts = List.intercalate sep parts
  | [] => by simp [joinWith, List.intercalate]
  | [x] => by simp [joinWith, List.intercalate]
  | x :: y :: r => by
      have ih := joinWith_eq_intercalate sep (y :: r)
      simp only [joinWith, ih]
      simp [List.intercalate, List.intersperse]

end Aiorpcx.C04
